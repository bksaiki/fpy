/-
C02 — Arithmetic rounds the exact result exactly once.
Some statements use the code `realCode` of a non-negative real to half a unit with a sticky bit, `rootCode`, and `meets`
(an engine result against a table entry).  Helper lemmas: `Fpy/Proof/{RoundOdd,EngineLemmas}.lean`; the
specification of rounding: `Fpy/Spec/Rounding.lean` (`Spec.roundQuot`); the IEEE special-value tables:
`Fpy/Spec/Specials.lean`.

Vocabulary.  `ops.<op>(args, ctx=C)` is `opEvalFl C op args` (value and flags).  The MPFR engine is modelled as
"exact value, truncated toward zero at the working precision, sticky bit OR-ed into the last digit"
(`rtoRF`, `rtoNat`), the working precision being `round_params()` + 2 digits, or the digits down to `n − 1`
(two passes) for fixed-point contexts (`mpfrRtoRF`).  `Ctx.det` = deterministic (no random bits), not REAL, not `ExpContext`,
precision ≥ 1.  `OpAgree a b` / `Res.agree a b` = same value, same `inexact`, same `overflow` (or same error).
-/
import Fpy.Proof.EngineLemmas
import Fpy.Spec.Specials
namespace Fpy.Props.C02
open Fpy Fpy.Spec

/-- **Round-to-odd re-rounding** (integers), the load-bearing lemma.  A magnitude of `c` units is to be rounded to
multiples of `2^k`; the intermediate keeps the digits above `2^j` and ORs "anything lost" into its last digit.  Two
digits between the two positions suffice, for all eight modes and both signs. -/
theorem rto_reround (rm : RM) (s : Bool) (c j k : Nat) (h : j + 2 ≤ k) :
    roundQuot rm s (rtoNat c j) (k - j) = roundQuot rm s c k ∧
    ((rtoNat c j) % 2 ^ (k - j) = 0 ↔ c % 2 ^ k = 0) :=
  Fpy.rto_reround rm s c j k h

/-- the hypothesis is sharp: with ONE guard digit the lemma is false (the sticky bit lands ON a midpoint:
`c = 5`, grid `4`, one digit dropped: `5` lies below the midpoint `6` and rounds down, the intermediate `3` on grid `2` is a
tie and goes up to the even `2` under RNE). -/
theorem rto_reround_one_guard_digit_counterexample :
    roundQuot .rne false (rtoNat 5 1) (2 - 1) ≠ roundQuot .rne false 5 2 := by decide

/-- **Float shape**: `RealFloat._round_at` with `p` digits at a position `n ≥ e − p`, which is what `_round_params` yields
with or without a subnormal bound.  `overflow`, which `_round_at` never sets, is carried along for `Res.agree`. -/
theorem rto_round_float (x : RF) (p q : Nat) (n : Int) (emin : Option Int) (rm : RM)
    (hc : x.c ≠ 0) (hp : 1 ≤ p) (hq : p + 2 ≤ q) (hn : x.e - p ≤ n) :
    ∃ y fl fl', x.roundAtCore (some p) n emin rm false = .ok (y, fl) ∧
      (rtoRF x q).roundAtCore (some p) n emin rm false = .ok (y, fl') ∧
      fl'.inexact = fl.inexact ∧ fl'.overflow = fl.overflow :=
  rto_round_prec x p q n emin rm hc hp hq hn

/-- **Fixed shape** (position `n` only) with the two-pass precision choice of `gmputils.mpfr_call`:
two digits when everything lies at or below `n`, else the digits down to `n − 1`. -/
theorem rto_round_fixed (x : RF) (n : Int) (rm : RM) (hc : x.c ≠ 0) :
    ∃ y fl fl', x.roundAtCore none n none rm false = .ok (y, fl) ∧
      (if x.e ≤ n then rtoRF x 2 else rtoRF x ((x.e - n).toNat + 2)).roundAtCore none n none rm false = .ok (y, fl') ∧
      fl'.inexact = fl.inexact ∧ fl'.overflow = fl.overflow :=
  Fpy.rto_round_fixed x n rm hc

/-- **Every deterministic context family** (`MPFloat`, `MPSFloat`, `MPBFloat`, `EFloat`/`IEEE`, `MPFixed`,
`MPBFixed`/`Fixed`/`SMFixed`, with their overflow handling and `_fixup`) rounds the intermediate MPFR is asked for
(`mpfrRtoRF` with the context's `round_params()`) as it rounds the exact value. -/
theorem rto_context (C : Ctx) (hC : C.det) (x : RF) (hx : x.c ≠ 0) :
    ∃ x', mpfrRtoRF x C.roundParams.1 C.roundParams.2 = .ok x' ∧
      Res.agree (C.roundAtCore (.fin x') none false 0) (C.roundAtCore (.fin x) none false 0) :=
  rto_normalize C hC x hx

/-! Operations whose exact result is a dyadic value: one rounding of the exact result -/

/-- `ops.add(x, y, ctx)` on finite `Float`s is the exact sum `RealFloat.__add__` rounded once by the context
(value, `inexact`, `overflow`; an error of the context, e.g. `OverflowError` under `ASSERT`, likewise).
The sum of opposite zeros / an exact cancellation is `+0` on both sides (the model's `RF.add` and MPFR under
RTZ agree); what IEEE wants there under RTN is left open by the property. -/
theorem add_correct (C : Ctx) (hC : C.det) (x y : RF) :
    OpAgree (opEvalFl C .add [.fv (.fin x), .fv (.fin y)]) (C.roundAtCore (.fin (x.add y)) none false 0) :=
  op_exact_correct C hC .add [.fin x, .fin y] (x.add y) rfl (congrArg some (addArm_form x y _ _))

theorem sub_correct (C : Ctx) (hC : C.det) (x y : RF) :
    OpAgree (opEvalFl C .sub [.fv (.fin x), .fv (.fin y)]) (C.roundAtCore (.fin (x.sub y)) none false 0) :=
  op_exact_correct C hC .sub [.fin x, .fin y] (x.sub y) rfl (congrArg some (addArm_form x y.neg _ _))

theorem mul_correct (C : Ctx) (hC : C.det) (x y : RF) :
    OpAgree (opEvalFl C .mul [.fv (.fin x), .fv (.fin y)]) (C.roundAtCore (.fin (x.mul y)) none false 0) :=
  op_exact_correct C hC .mul [.fin x, .fin y] (x.mul y) rfl rfl

/-- fused multiply-add: ONE rounding of the exact `x·y + z` (not two) -/
theorem fma_correct (C : Ctx) (hC : C.det) (x y z : RF) :
    OpAgree (opEvalFl C .fma [.fv (.fin x), .fv (.fin y), .fv (.fin z)])
      (C.roundAtCore (.fin ((x.mul y).add z)) none false 0) :=
  op_exact_correct C hC .fma [.fin x, .fin y, .fin z] ((x.mul y).add z) rfl (congrArg some (addArm_form (x.mul y) z _ _))

theorem neg_correct (C : Ctx) (hC : C.det) (x : RF) :
    OpAgree (opEvalFl C .neg [.fv (.fin x)]) (C.roundAtCore (.fin x.neg) none false 0) :=
  op_exact_correct C hC .neg [.fin x] x.neg rfl rfl

theorem fabs_correct (C : Ctx) (hC : C.det) (x : RF) :
    OpAgree (opEvalFl C .fabs [.fv (.fin x)]) (C.roundAtCore (.fin x.abs) none false 0) :=
  op_exact_correct C hC .fabs [.fin x] x.abs rfl rfl

/-- C `fmod` on finite operands, `y ≠ 0`, `x ≠ 0`: the exact `x − trunc(x/y)·y` (computed on aligned
significands as `cx mod cy`, sign of `x`) rounded once -/
theorem fmod_correct (C : Ctx) (hC : C.det) (x y : RF) (hx : x.c ≠ 0) (hy : y.c ≠ 0) :
    OpAgree (opEvalFl C .fmod [.fv (.fin x), .fv (.fin y)]) (C.roundAtCore (.fin (fmodRF x y)) none false 0) := by
  apply op_exact_correct C hC .fmod [.fin x, .fin y] (fmodRF x y) rfl
  show some _ = some _
  simp only [hx, hy, if_false]

theorem pow_pos_correct (C : Ctx) (hC : C.det) (x : RF) (k : Nat) (hx : x.c ≠ 0) (hk : 1 ≤ k) :
    OpAgree (opEvalFl C .pow [.fv (.fin x), .fv (.fin (RF.ofInt k))]) (C.roundAtCore (.fin (x.pow k)) none false 0) := by
  apply op_exact_correct C hC .pow [.fin x, .fin (RF.ofInt k)] (x.pow k) rfl
  have hk0 : ¬ k = 0 := by omega
  have hpc : (x.pow k).c ≠ 0 := by
    unfold RF.pow; simp only [hk0, if_false]; exact Nat.pos_iff_ne_zero.1 (Nat.pow_pos (Nat.pos_of_ne_zero hx))
  have hint : RF.toInt? ⟨decide ((k : Int) < 0), 0, k⟩ = some (k : Int) := toInt_ofInt k
  show some _ = some _
  simp only [mpfrExactFV, hpc, if_false, FV.isZero, RF.ofInt]
  simp [hx, hk0, hint]

/-- division of finite non-zero `Float`s whose quotient is dyadic (`RealEngine.div` answers the `Float` `z`): the
exact quotient rounded once.  For a NON-dyadic quotient the engine goes through `rtoRat`; that it is rounded once is
`quotient_correct` + `rtoRat_shape` (integer level).  No statement about `opEvalFl` is proved for that case (at the
value level `C01v.rtoRat_roundVal` says that `rtoRat` rounds as the rational does); it is covered by the correspondence +
Spec oracle of the harness. -/
theorem div_correct_partial (C : Ctx) (hC : C.det) (x y z : RF) (hx : x.c ≠ 0) (hy : y.c ≠ 0)
    (hz : realDiv (.fv (.fin x)) (.fv (.fin y)) = .fv (.fin z)) :
    OpAgree (opEvalFl C .div [.fv (.fin x), .fv (.fin y)]) (C.roundAtCore (.fin z) none false 0) := by
  apply op_exact_correct C hC .div [.fin x, .fin y] z rfl
  show some _ = some _
  simp only [mpfrExactFV, mpfrDivFin, hx, hy, hz, decide_false, Bool.or_self, Bool.false_eq_true, if_false]

/-- under `REAL`, whatever the exact engine answers is returned unchanged (with some flags: the statement says nothing
about them) -/
theorem real_context_exact (op : Op) (args : List NV) (r : NV)
    (hop : opEvalFl .real op args = opEngines .real op args)
    (h : exactEngine op args = some (.ok r)) :
    ∃ fl, opEvalFl .real op args = .ok (r, fl) := by
  rw [hop]; exact opEngines_real h

/-- … in particular on any mix of `Float`s and non-dyadic `Fraction`s -/
theorem real_add_exact (a b : NV) : ∃ fl, opEvalFl .real .add [a, b] = .ok (realAdd a b, fl) :=
  real_context_exact .add [a, b] _ rfl rfl
theorem real_mul_exact (a b : NV) : ∃ fl, opEvalFl .real .mul [a, b] = .ok (realMul a b, fl) :=
  real_context_exact .mul [a, b] _ rfl rfl
theorem real_div_exact (a b : NV) : ∃ fl, opEvalFl .real .div [a, b] = .ok (realDiv a b, fl) :=
  real_context_exact .div [a, b] _ rfl rfl
theorem real_fma_exact (a b c : NV) : ∃ fl, opEvalFl .real .fma [a, b, c] = .ok (realAdd (realMul a b) c, fl) :=
  real_context_exact .fma [a, b, c] _ rfl rfl

/-- **Why `MPFREngine._mod`'s quotient is exact.**  The quotient is computed round-to-odd at `n = −1`, i.e. to
quarter units with a sticky last digit; its floor (round toward −∞ on sign and magnitude, `rtn`) equals the floor
of the exact quotient — for both signs, and it is an integer exactly when the exact quotient is. -/
theorem floor_of_rto (s : Bool) (c j : Nat) :
    roundQuot .rtn s (rtoNat c j) 2 = roundQuot .rtn s c (j + 2) ∧
    ((rtoNat c j) % 2 ^ 2 = 0 ↔ c % 2 ^ (j + 2) = 0) := by
  have h := Fpy.rto_reround .rtn s c j (j + 2) (by omega)
  have e : j + 2 - j = 2 := by omega
  rw [e] at h; exact h

/-- the same for a non-dyadic quotient `N/D`: MPFR's truncation of `4N/D` with the sticky bit has the floor and
the "is an integer" status of `N/D` -/
theorem floor_of_rto_rat (N D : Nat) (hD : 0 < D) :
    rtoBit (4 * N / D) (4 * N % D != 0) / 4 = N / D ∧
    (rtoBit (4 * N / D) (4 * N % D != 0) % 4 = 0 ↔ N % D = 0) := by
  -- the sticky truncation of `4N / D` is the code of `4N / (2D)`, which rounds toward zero on 4 units as `4N` does on `4D`
  obtain ⟨h1, h2⟩ := C03.ratCode_rounds_even .rtz false (4 * N) (2 * D) 1 (by omega) (by decide)
  rw [← rtoBit_div _ _ hD, roundQuotG_rtz, roundQuotG_rtz] at h1
  rw [← rtoBit_div _ _ hD] at h2
  have e : 2 * D * (2 * 1) = 4 * D := by omega
  rw [e, Nat.mul_div_mul_left _ _ (by decide : 0 < 4)] at h1
  rw [e, Nat.mul_mod_mul_left] at h2
  exact ⟨h1, h2.trans (by omega)⟩

theorem isqrt_spec (n : Nat) : isqrt n ^ 2 ≤ n ∧ n < (isqrt n + 1) ^ 2 := iroot_spec 2 n (by decide)
theorem icbrt_spec (n : Nat) : icbrt n ^ 3 ≤ n ∧ n < (icbrt n + 1) ^ 3 := iroot_spec 3 n (by decide)

/-- **A non-negative real to half a unit, with a sticky bit.**  A real `ρ ≥ 0` with floor `r` and "is not an
integer" flag `b` is coded by `2r + b`.  On a grid of `2^K` units with `K ≥ 1`, grid points and midpoints are
integers, so `ρ` compares with each of them exactly as `2r + b` compares with its double: `Spec.roundQuot` of the
code on the grid `2^(K+1)` is the correct rounding of `ρ` in every mode (proved for rational `ρ = N/D` as
`C03.ratCode_rounds`, where `C03.ratCode N D` is `realCode (N / D) (N % D != 0)`). -/
def realCode (r : Nat) (b : Bool) : Nat := 2 * r + (if b then 1 else 0)

/-- **Inexact intermediates are rounded once.**  An engine that knows the floor `r` of the exact (possibly
irrational or non-dyadic) result and whether anything lies beyond it (`b`), drops `d` further digits and ORs
"digits lost or `b`" into the last one, produces an intermediate whose final rounding, with two guard digits, is the
rounding of the real result itself (`realCode`). -/
theorem sticky_correct (rm : RM) (s : Bool) (r d K : Nat) (b : Bool) (h : d + 2 ≤ K) :
    roundQuot rm s (rtoBit (r / 2 ^ d) (r % 2 ^ d != 0 || b)) (K - d) = roundQuot rm s (realCode r b) (K + 1) ∧
    (rtoBit (r / 2 ^ d) (r % 2 ^ d != 0 || b) % 2 ^ (K - d) = 0 ↔ realCode r b % 2 ^ (K + 1) = 0) := by
  -- the code `2r + b` carries `b` as its last digit, so its sticky truncation at `d + 1` digits is the left side
  have hq : realCode r b / 2 = r := by unfold realCode; split <;> omega
  have hb : (realCode r b % 2 != 0) = b := by cases b <;> simp [realCode] <;> omega
  have := Fpy.rto_reround rm s (realCode r b) (d + 1) (K + 1) (by omega)
  rwa [show K + 1 - (d + 1) = K - d by omega, rtoNat, Nat.pow_succ', C03.lost_mul _ 2 _ (by decide),
    ← Nat.div_div_eq_div_mul, hq, hb] at this

/-- code of the real `k`-th root of `n` -/
def rootCode (k n : Nat) : Nat := realCode (iroot k n) (iroot k n ^ k != n)

/-- **Roots are rounded once** (square root, cube root, and `hypot` with `n` the exact sum of squares), in polynomial
form — the real root enters only through `r^k ≤ n < (r+1)^k`, `iroot_spec`.  The left sides are the significand of
`rtoRoot` (`rtoRoot_shape`); this integer statement and `rtoRoot_shape` are what stands for the roots, there is no
statement about `opEvalFl` for them. -/
theorem root_correct (rm : RM) (s : Bool) (k n d K : Nat) (h : d + 2 ≤ K) :
    roundQuot rm s (rtoBit (iroot k n / 2 ^ d) (iroot k n % 2 ^ d != 0 || iroot k n ^ k != n)) (K - d)
      = roundQuot rm s (rootCode k n) (K + 1) ∧
    (rtoBit (iroot k n / 2 ^ d) (iroot k n % 2 ^ d != 0 || iroot k n ^ k != n) % 2 ^ (K - d) = 0
      ↔ rootCode k n % 2 ^ (K + 1) = 0) :=
  sticky_correct rm s (iroot k n) d K _ h

/-- **Non-dyadic quotients** (division, negative integer powers, `Fraction` operands): with two guard digits the
intermediate rounds as the code `realCode (N / D) (N % D != 0)` of the quotient does on the doubled grid.  That the code
rounds as the rational `N/D` itself is `C03.ratCode_rounds` (see `realCode`); the two are not composed here.  The left
sides are the significand of `rtoRat` (`rtoRat_shape`). -/
theorem quotient_correct (rm : RM) (s : Bool) (N D K : Nat) (h : 2 ≤ K) :
    roundQuot rm s (rtoBit (N / D) (N % D != 0)) K = roundQuot rm s (realCode (N / D) (N % D != 0)) (K + 1) ∧
    (rtoBit (N / D) (N % D != 0) % 2 ^ K = 0 ↔ realCode (N / D) (N % D != 0) % 2 ^ (K + 1) = 0) := by
  have := sticky_correct rm s (N / D) 0 K (N % D != 0) (by omega)
  simp only [Nat.pow_zero, Nat.div_one, Nat.mod_one, Nat.sub_zero, bne_self_eq_false, Bool.false_or] at this
  exact this

/-- `rtoRat` (MPFR's conversion/quotient of a rational, then `_round_odd`) has exactly that shape, one of `num`, `den`
being scaled by a power of two -/
theorem rtoRat_shape (neg : Bool) (num den prec : Nat) :
    (rtoRat neg num den prec).c = rtoBit (truncRat num den prec).1 (truncRat num den prec).2.2 ∧
    (rtoRat neg num den prec).s = neg ∧
    ∃ N D : Nat, (truncRat num den prec).1 = N / D ∧ (truncRat num den prec).2.2 = (N % D != 0) ∧
      ((N = num ∧ ∃ e : Nat, D = den * 2 ^ e) ∨ (D = den ∧ ∃ e : Nat, N = num * 2 ^ e)) := by
  refine ⟨rfl, rfl, _, _, congrArg (·.1) (C01v.truncRat_eq num den prec), congrArg (·.2.2) (C01v.truncRat_eq num den prec), ?_⟩
  unfold C01v.ratA C01v.ratB
  split
  · exact Or.inl ⟨rfl, _, rfl⟩
  · exact Or.inr ⟨rfl, _, rfl⟩

/-- the engine's root intermediate is of the shape of `root_correct`, the significand scaled so that the exponent is a
multiple of `k` -/
theorem rtoRoot_shape (k : Nat) (x : RF) (prec : Nat) :
    ∃ sh d : Nat, (rtoRoot k x prec).c =
        rtoBit (iroot k (x.c * 2 ^ sh) / 2 ^ d) (iroot k (x.c * 2 ^ sh) % 2 ^ d != 0 || iroot k (x.c * 2 ^ sh) ^ k != x.c * 2 ^ sh) ∧
      (rtoRoot k x prec).exp = (x.exp - (sh : Int)) / (k : Int) + (d : Int) ∧ (rtoRoot k x prec).s = x.s ∧
      ((x.exp - (sh : Int)) % (k : Int) = 0 ∨ k = 0) := by
  refine ⟨k * (if x.p + (x.exp % (k : Int)).toNat ≥ k * prec + k then 0
      else (k * prec + k - (x.p + (x.exp % (k : Int)).toNat) + (k - 1)) / k) + (x.exp % (k : Int)).toNat, _, rfl, rfl, rfl, ?_⟩
  by_cases hk : k = 0
  · exact Or.inr hk
  · left
    have hk' : (k : Int) ≠ 0 := by omega
    have hnn : 0 ≤ x.exp % (k : Int) := Int.emod_nonneg _ hk'
    generalize (if x.p + (x.exp % (k : Int)).toNat ≥ k * prec + k then 0
      else (k * prec + k - (x.p + (x.exp % (k : Int)).toNat) + (k - 1)) / k) = j
    have e1 : (((k * j + (x.exp % (k : Int)).toNat : Nat)) : Int) = (k : Int) * (j : Int) + x.exp % (k : Int) := by
      rw [Int.natCast_add, Int.natCast_mul, Int.toNat_of_nonneg hnn]
    rw [e1]
    have e2 : x.exp - ((k : Int) * (j : Int) + x.exp % (k : Int)) = (k : Int) * (x.exp / (k : Int) - j) := by
      have := Int.mul_ediv_add_emod x.exp (k : Int)
      rw [Int.mul_sub]; omega
    rw [e2]; exact Int.mul_emod_right _ _

/-- result class demanded by a table entry (`none` = the table does not decide) -/
def meets (got : Option (Except Err FV)) (want : Option XV) : Prop :=
  match want with
  | none => True
  | some r => ∃ v, got = some (.ok v) ∧ XV.of v = r

/-- **IEEE special-value tables.**  For NaN, ±∞ and ±0 operands the MPFR arm of the model returns the class and
sign the tables of `Spec/Specials.lean` prescribe (NaN propagates, invalid cases give NaN, signs of zeros and
infinities by the sign rules); the sum of opposite zeros is not decided by the table (masked sign). -/
theorem specials_table (p : Option Nat) (n : Option Int) (a b : FV) :
    meets (mpfrOp .add [a, b] p n) (addS (XV.of a) (XV.of b)) ∧
    meets (mpfrOp .sub [a, b] p n) (subS (XV.of a) (XV.of b)) ∧
    meets (mpfrOp .mul [a, b] p n) (mulS (XV.of a) (XV.of b)) ∧
    meets (mpfrOp .div [a, b] p n) (divS (XV.of a) (XV.of b)) ∧
    meets (mpfrOp .sqrt [a] p n) (sqrtS (XV.of a)) ∧
    meets (mpfrOp .cbrt [a] p n) (cbrtS (XV.of a)) ∧
    meets (mpfrOp .hypot [a, b] p n) (hypotS (XV.of a) (XV.of b)) ∧
    meets (mpfrOp .fmod [a, b] p n) (remS (XV.of a) (XV.of b)) ∧
    meets (mpfrOp .remainder [a, b] p n) (remS (XV.of a) (XV.of b)) := by
  -- every class of operands (zero, non-zero, ±∞, NaN; both signs) closes by evaluation: `trivial` where the table is
  -- silent, `⟨_, rfl, rfl⟩` where it decides
  have unary : meets (mpfrOp .sqrt [a] p n) (sqrtS (XV.of a)) ∧ meets (mpfrOp .cbrt [a] p n) (cbrtS (XV.of a)) := by
    rcases a with ⟨s, e, _ | c⟩ | s | s <;> cases s <;> exact ⟨by first | exact trivial | exact ⟨_, rfl, rfl⟩, by first | exact trivial | exact ⟨_, rfl, rfl⟩⟩
  refine ⟨?_, ?_, ?_, ?_, unary.1, unary.2, ?_, ?_, ?_⟩ <;>
    rcases a with ⟨s, e, _ | c⟩ | s | s <;> rcases b with ⟨t, f, _ | d⟩ | t | t <;>
    first | exact trivial | exact ⟨_, rfl, rfl⟩ | (cases s <;> cases t <;> first | exact trivial | exact ⟨_, rfl, rfl⟩)

/-- **Exact engine, zero product.**  IEEE: the sign of a product is the XOR of the signs, also when it is zero
(`mulS`).  `RealEngine.mul` answers a zero product of finite operands itself (as `div` does) instead of multiplying as
`Fraction`s, which cannot carry `−0`.  (Repaired defect C02-F2.) -/
theorem real_mul_zero_sign (x y : NV) (hx : nvIsNar x = false) (hy : nvIsNar y = false)
    (hz : nvIsZero x = true ∨ nvIsZero y = true) :
    realMul x y = .fv (.fin ⟨nvSign x != nvSign y, 0, 0⟩) := by
  have nan_inf : ∀ v : NV, nvIsNar v = false → nvIsNan v = false ∧ nvIsInf v = false := by
    intro v hv
    cases v with
    | q n d => exact ⟨rfl, rfl⟩
    | fv u => cases u <;> simp [nvIsNar, nvIsNan, nvIsInf, FV.isNar, FV.isNan, FV.isInf] at hv ⊢
  obtain ⟨h1, h2⟩ := nan_inf x hx
  obtain ⟨h3, h4⟩ := nan_inf y hy
  unfold realMul
  have hz' : (nvIsZero x || nvIsZero y) = true := by
    rcases hz with h | h <;> simp [h]
  simp only [h1, h2, h3, h4, hz', Bool.or_self, Bool.false_eq_true, if_false, if_true]

/-- … the instance that used to fail: `ops.mul(-0.0, Fraction(1, 3), ctx=MPFloatContext(3, RNE))` is `−0`, what
`mulS` prescribes; likewise inside `fma` -/
theorem mul_zero_fraction_sign :
    (opEval (.mp 3 .rne (some 0) {}) .mul [.fv (.fin ⟨true, 0, 0⟩), .q 1 3]).toOption = some (.fv (.fin ⟨true, 0, 0⟩)) ∧
    mulS (.zero true) (.fin false) = some (.zero true) ∧
    (opEval (.mp 3 .rne (some 0) {}) .fma [.fv (.fin ⟨true, 0, 0⟩), .q 1 3, .fv (.fin ⟨true, 0, 0⟩)]).toOption
      = some (.fv (.fin ⟨true, 0, 0⟩)) := by
  refine ⟨by decide, rfl, by decide⟩

/-- **`mod`, zero remainder.**  `ops.mod` documents Python's `%`, where a zero remainder takes the sign of the
divisor (`4 % -2 = -0.0`); so do the zero-dividend arms of `_mod`, and the finite arm of `MPFREngine._mod`, which is the
statement.  (Repaired defect C02-F1.) -/
theorem mod_zero_sign (x y : RF) (v : FV) (h : modFin x y = .ok v) (hz : v.isZero = true) : v.sign = y.s := by
  unfold modFin at h
  split at h
  · exact absurd h (by simp)
  · split at h
    · exact absurd h (by simp)
    · split at h
      · exact absurd h (by simp)
      · simp only [Except.ok.injEq] at h
        split at h
        · rename_i hr
          subst h
          revert hr
          generalize FV.add (.fin x) (FV.neg (FV.mul (.fin y) (.fin (RF.ofInt _)))) = r
          intro hr
          cases r with
          | fin w => rfl
          | inf t => simp [FV.isZero] at hr
          | nan t => simp [FV.isZero] at hr
        · rename_i hr
          subst h
          exact absurd hz hr
  · exact absurd h (by simp)

/-- … the instances that used to fail, and the arms that were always right -/
theorem mod_zero_sign_examples :
    (opEval (.mp 3 .rne (some 0) {}) .mod [.fv (.fin ⟨false, 0, 4⟩), .fv (.fin ⟨true, 0, 2⟩)]).toOption = some (.fv (.fin ⟨true, 0, 0⟩)) ∧
    (opEval (.mp 3 .rne (some 0) {}) .mod [.fv (.fin ⟨true, 0, 4⟩), .fv (.fin ⟨false, 0, 2⟩)]).toOption = some (.fv (.fin ⟨false, 0, 0⟩)) ∧
    (opEval (.mp 3 .rne (some 0) {}) .mod [.fv (.fin ⟨false, 0, 0⟩), .fv (.fin ⟨true, 0, 2⟩)]).toOption = some (.fv (.fin ⟨true, 0, 0⟩)) ∧
    (opEval (.mp 3 .rne (some 0) {}) .mod [.fv (.fin ⟨false, 0, 5⟩), .fv (.fin ⟨true, 0, 2⟩)]).toOption = some (.fv (.fin ⟨true, 0, 1⟩)) := by
  refine ⟨by decide, by decide, by decide, by decide⟩

/-! Non-vacuity: the hypotheses are satisfiable and the statements bite -/

-- the sticky bit matters: 65 units on a grid of 32, three digits dropped; without it RTP would stay at 2
example : roundQuot .rtp false 65 5 = 3 ∧ roundQuot .rtp false (rtoNat 65 3) (5 - 3) = 3 ∧
    roundQuot .rtp false (65 / 2 ^ 3) (5 - 3) = 2 ∧ 3 + 2 ≤ 5 := by decide
example : (Ctx.mp 2 .rne (some 0) {}).det := ⟨rfl, by decide⟩
example : (Ctx.mpfix (-3) .rna (some 0) true {}).det := rfl
-- a double-rounding trap: 1.25 + 1/64 under 2 digits RNE is 1.5 (rounding first to 3 digits would give the tie 1.25 ↦ 1.0)
example : (opEval (.mp 2 .rne (some 0) {}) .add [.fv (.fin ⟨false, -2, 5⟩), .fv (.fin ⟨false, -6, 1⟩)]).toOption
    = some (.fv (.fin ⟨false, -1, 3⟩)) := by decide
example : (⟨false, -2, 5⟩ : RF).add ⟨false, -6, 1⟩ = ⟨false, -6, 81⟩ := by decide
-- fma is one rounding: 3·3 + 1/4 under 3 digits RTP is 10, not round(round(9) + 1/4)
example : (opEval (.mp 3 .rtp (some 0) {}) .fma [.fv (.fin ⟨false, 0, 3⟩), .fv (.fin ⟨false, 0, 3⟩), .fv (.fin ⟨false, -2, 1⟩)]).toOption
    = some (.fv (.fin ⟨false, 1, 5⟩)) := by decide
-- roots: √2 to 3 digits under RNE is 1.5 (= 6·2⁻²); ∛(−27) = −3 exactly (as 6·2⁻¹); hypot(3, 4) = 5
example : (opEval (.mp 3 .rne (some 0) {}) .sqrt [.fv (.fin ⟨false, 1, 1⟩)]).toOption = some (.fv (.fin ⟨false, -2, 6⟩)) := by decide
example : (opEval (.mp 3 .rne (some 0) {}) .cbrt [.fv (.fin ⟨true, 0, 27⟩)]).toOption = some (.fv (.fin ⟨true, -1, 6⟩)) := by decide
example : (opEval (.mp 3 .rne (some 0) {}) .hypot [.fv (.fin ⟨false, 0, 3⟩), .fv (.fin ⟨true, 0, 4⟩)]).toOption = some (.fv (.fin ⟨false, 0, 5⟩)) := by decide
example : isqrt 17 = 4 ∧ icbrt 26 = 2 ∧ rootCode 2 17 = 9 ∧ rootCode 2 16 = 8 ∧ realCode (7 / 3) (7 % 3 != 0) = 5 := by decide
-- special operands: ∞ − ∞ is NaN with `invalid`, 1/0 is +∞ with `divzero`
example : (opEvalFl (.mp 3 .rne (some 0) {}) .sub [.fv (.inf false), .fv (.inf false)]).toOption = some (.fv (.nan false), { invalid := true }) := by decide
example : (opEvalFl (.mp 3 .rne (some 0) {}) .div [.fv (.fin ⟨false, 0, 1⟩), .fv (.fin ⟨false, 0, 0⟩)]).toOption = some (.fv (.inf false), { divzero := true }) := by decide
-- the real context returns the exact non-dyadic quotient itself
example : (opEval .real .div [.fv (.fin ⟨false, 0, 1⟩), .fv (.fin ⟨false, 0, 3⟩)]).toOption = some (.q 1 3) := by decide

end Fpy.Props.C02
