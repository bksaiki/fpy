/-
C16 — Encodings and ordinals are order-preserving bijections.
Model: `Fpy/Model/Enc.lean` (the format classes of `fpy2/number/context/*.py`, function by function); Spec:
`Fpy/Spec/Layout.lean` (published layouts as first-principles decoders; `sameValue` / `ltValue` / `same` compare
`(s, exp, c)` triples as real numbers on a common scale).

Vocabulary defined beside the proofs and used in the statements below.  In `Fpy/Proof/EncOrd.lean`: `ordValue A u`
is the magnitude, in units of `2^expmin`, of the float with ordinal `u ≥ 0` in a format with `A = 2^(p-1)`, and
`sOrdValue A k` the same with the sign of `k`.  In `Fpy/Proof/EncEF.lean`: the magnitude code of a pattern `b` of
an `EFloatFormat` is `G = b mod 2^(nbits-1)` (exponent and mantissa fields read as one number); `efGmax f` is
the largest code that is a finite number, written out per NaN kind and infinity flag; `efNumber f s G` is the
finite value with sign `s` and code `G`, i.e. `±0` spelled with `exp = expmin` for `G = 0` and
`from_ordinal(±G)` of the underlying `MPSFloatFormat` otherwise.

All statements are for ALL valid format parameters (unbounded widths, scales, exponent offsets).

Modelled in `Fpy/Model/Enc.lean` and tied to the code by the harness only, without a theorem: `to_ordinal` and
`from_ordinal`, hence `next_up/next_down`, of the bounded formats (`MPBFmt`, `EF`, `MPBFixFmt`, through which `FX` and
`SM` go) and of `ExpFmt`; `ExpFmt.normalize`; the queries `zero/minval/maxval/largest/smallest` (the value `EF.maxv` that
`maxval` returns is the subject of `maxval_is_largest_code` and `maxval_is_max`).
-/
import Fpy.Proof.EncFix
import Fpy.Proof.EncEF2
namespace Fpy.Props.C16
open Fpy Fpy.Enc Fpy.Spec

/-! ## The code's comparison is the order of the real numbers (used to read the bounds tests) -/

theorem compare_is_value_order (x y : RF) :
    x.compare y = compare (units x (min x.exp y.exp)) (units y (min x.exp y.exp)) := by
  rw [units_eq_sc, units_eq_sc]; exact RF.compare_min x y

/-! ## `FixedFormat` (two's complement) and `SMFixedFormat` (sign-magnitude): layout and round trips -/

/-- decoding gives the value the two's-complement layout assigns to the pattern -/
theorem fixed_decode_layout (f : FX) (hv : f.valid = true) (b : Nat) (hb : b < 2 ^ f.nbits) :
    f.decode b = .ok (twosLayout f.signed f.scale f.nbits b) := by
  have hn := (fx_valid_nbits f hv).1
  unfold FX.decode twosLayout
  have h0 : ¬ (b ≥ 2 ^ f.nbits) := by omega
  simp only [h0, if_false, testBit_top b f.nbits hn hb]
  have hp := two_pow_pred f.nbits hn
  generalize 2 ^ f.nbits = N at *
  generalize 2 ^ (f.nbits - 1) = H at *
  cases hs : f.signed
  · simp
  · by_cases h : b ≥ H
    · simp only [h, decide_true, Bool.not_true, Bool.false_eq_true, if_false, Bool.and_self, if_true]
      have e1 : decide ((b : Int) - (N : Int) < 0) = true := by simp; omega
      have e2 : ((b : Int) - (N : Int)).natAbs = N - b := by omega
      rw [e1, e2]
    · simp [h]

/-- every pattern is the encoding of what it decodes to -/
theorem fixed_encode_decode (f : FX) (hv : f.valid = true) (b : Nat) (hb : b < 2 ^ f.nbits) :
    ∃ v, f.decode b = .ok v ∧ f.encode v = .ok b := by
  have ⟨hn, hn2⟩ := fx_valid_nbits f hv
  have hp := two_pow_pred f.nbits hn
  have hH := Nat.two_pow_pos (f.nbits - 1)
  rw [fixed_decode_layout f hv b hb]
  refine ⟨_, rfl, ?_⟩
  unfold twosLayout
  by_cases hneg : f.signed = true ∧ b ≥ 2 ^ (f.nbits - 1)
  · obtain ⟨hsg, hge⟩ := hneg
    have e1 : decide ((b : Int) - (2 ^ f.nbits : Nat) < 0) = true := decide_eq_true (by omega)
    have e2 : ((b : Int) - (2 ^ f.nbits : Nat)).natAbs = 2 ^ f.nbits - b := by omega
    simp only [hsg, hge, decide_true, Bool.and_self, if_true, e1, e2]
    have hc : 2 ^ f.nbits - b ≠ 0 := by omega
    have hr : f.mpb.repr (.fin ⟨true, f.scale, 2 ^ f.nbits - b⟩) = true := by
      rw [fx_repr_on_scale f hv _ _ hc]; simp [hsg]; omega
    rw [fx_encode_on_scale f hv _ _ hr]
    simp [hc, hsg]; omega
  · have hk : (f.signed && decide (b ≥ 2 ^ (f.nbits - 1))) = false := by simpa using hneg
    have e1 : decide ((b : Int) < 0) = false := by simp
    simp only [hk, Bool.false_eq_true, if_false, e1, Int.natAbs_natCast]
    have hr : f.mpb.repr (.fin ⟨false, f.scale, b⟩) = true := by
      by_cases hc : b = 0
      · rw [mpbfix_repr_zero _ _ hc]; rfl
      · rw [fx_repr_on_scale f hv _ _ hc]
        by_cases hsg : f.signed = true
        · have : ¬ b ≥ 2 ^ (f.nbits - 1) := fun h => hneg ⟨hsg, h⟩
          simp [hsg]; omega
        · simp [hsg]; omega
    rw [fx_encode_on_scale f hv _ _ hr]
    by_cases hc : b = 0 <;> simp [hc]

/-- encoding any representable value (any `(exp, c)` spelling of it) gives a pattern in range that
decodes back to the same value with the same sign, in the canonical spelling `exp = scale` -/
theorem fixed_decode_encode (f : FX) (hv : f.valid = true) (x : RF) (hr : f.mpb.repr (.fin x) = true) :
    ∃ b y, f.encode (.fin x) = .ok b ∧ b < 2 ^ f.nbits ∧ f.decode b = .ok (.fin y) ∧ same x y ∧ y.exp = f.scale := by
  have ⟨hn, hn2⟩ := fx_valid_nbits f hv
  by_cases hc : x.c = 0
  · -- zero: only +0 is representable, it encodes as 0
    have hr0 := hr
    rw [mpbfix_repr_zero _ _ hc] at hr
    have hs : x.s = false := by cases h : x.s <;> simp [h, FX.mpb] at hr ⊢
    refine ⟨0, ⟨false, f.scale, 0⟩, ?_, Nat.two_pow_pos _, ?_, ?_, rfl⟩
    · unfold FX.encode; simp [hr0, hc]
    · unfold FX.decode
      have : ¬ (0 ≥ 2 ^ f.nbits) := by have := Nat.two_pow_pos f.nbits; omega
      simp only [this, if_false]
      cases f.signed <;> simp
    · exact ⟨sameValue_zero hc rfl, hs⟩
  · have ⟨hc', hr', hsame⟩ := mpbfix_rescale f.mpb f.scale rfl x hc hr
    have ⟨hlt, hdec⟩ := fx_decode_on_scale f hv x.s _ hc' hr'
    refine ⟨_, ⟨x.s, f.scale, shiftBy x.c (x.exp - f.scale)⟩, ?_, hlt, hdec, hsame, rfl⟩
    -- encode x computes the same pattern as encode of the rescaled value
    have e1 := fx_encode_on_scale f hv x.s _ hr'
    simp only [hc', if_false] at e1
    rw [← e1]
    unfold FX.encode
    simp only [hr, hr', Bool.not_true, Bool.false_eq_true, if_false, hc, hc', ite_nonneg_eq_shiftBy, Int.sub_self, shiftBy_zero]

/-- `encode` never returns a pattern outside `[0, 2^nbits)` -/
theorem fixed_encode_lt (f : FX) (v : FV) (b : Nat) (h : f.encode v = .ok b) : b < 2 ^ f.nbits := by
  have hr : f.mpb.repr v = true := guard_passed h (by simp)
  unfold FX.encode at h
  simp only [hr, Bool.not_true, Bool.false_eq_true, if_false] at h
  cases v with
  | fin x =>
    simp only at h
    generalize (if x.c = 0 then 0 else _ : Nat) = c at h
    by_cases hgt : c > bitmask f.nbits
    · simp [hgt] at h
    · simp only [hgt, if_false] at h
      injection h with h; subst h
      have := Nat.two_pow_pos f.nbits
      unfold bitmask at hgt; omega
  | inf s => cases h
  | nan s => cases h

/-- patterns outside the range are refused -/
theorem fixed_decode_range (f : FX) (b : Nat) (hb : 2 ^ f.nbits ≤ b) : f.decode b = .error .valueError := by
  unfold FX.decode; simp [hb]

theorem smfixed_decode_layout (f : SM) (hv : f.valid = true) (b : Nat) (hb : b < 2 ^ f.nbits) :
    f.decode b = .ok (smLayout f.scale f.nbits b) := by
  have hn := sm_valid_nbits f hv
  have hp := two_pow_pred f.nbits (by omega)
  have hH := Nat.two_pow_pos (f.nbits - 1)
  unfold SM.decode smLayout
  have h0 : ¬ (b ≥ 2 ^ f.nbits) := by omega
  simp only [h0, if_false]
  generalize 2 ^ f.nbits = N at *
  generalize 2 ^ (f.nbits - 1) = H at *
  by_cases h : b ≥ H
  · have h1 : b / H = 1 := Nat.div_eq_of_lt_le (by omega) (by omega)
    have h2 : b % H = b - H := by
      have := Nat.div_add_mod b H; rw [h1] at this; omega
    simp [h1, h2, h]
  · have h1 : b / H = 0 := Nat.div_eq_of_lt (by omega)
    have h2 : b % H = b := Nat.mod_eq_of_lt (by omega)
    simp [h1, h2, h]

theorem smfixed_encode_decode (f : SM) (hv : f.valid = true) (b : Nat) (hb : b < 2 ^ f.nbits) :
    ∃ v, f.decode b = .ok v ∧ f.encode v = .ok b := by
  have hn := sm_valid_nbits f hv
  have hp := two_pow_pred f.nbits (by omega)
  have hH := Nat.two_pow_pos (f.nbits - 1)
  rw [smfixed_decode_layout f hv b hb]
  refine ⟨_, rfl, ?_⟩
  unfold smLayout
  have hclt : (if b ≥ 2 ^ (f.nbits - 1) then b - 2 ^ (f.nbits - 1) else b) < 2 ^ (f.nbits - 1) := by split <;> omega
  have hr : f.mpb.repr (.fin ⟨decide (b ≥ 2 ^ (f.nbits - 1)), f.scale, if b ≥ 2 ^ (f.nbits - 1) then b - 2 ^ (f.nbits - 1) else b⟩) = true := by
    by_cases hc : (if b ≥ 2 ^ (f.nbits - 1) then b - 2 ^ (f.nbits - 1) else b) = 0
    · rw [mpbfix_repr_zero _ _ hc]; simp [SM.mpb]
    · rw [sm_repr_on_scale f hv _ _ hc]; exact decide_eq_true (by omega)
  rw [(sm_encode_on_scale f hv _ _ hr).2]
  by_cases h : b ≥ 2 ^ (f.nbits - 1) <;> simp [h] <;> omega

/-- sign of zero included: `-0` and `+0` encode to different patterns and come back with their sign -/
theorem smfixed_decode_encode (f : SM) (hv : f.valid = true) (x : RF) (hr : f.mpb.repr (.fin x) = true) :
    ∃ b y, f.encode (.fin x) = .ok b ∧ b < 2 ^ f.nbits ∧ f.decode b = .ok (.fin y) ∧ same x y ∧ y.exp = f.scale := by
  have hn := sm_valid_nbits f hv
  by_cases hc : x.c = 0
  · -- ±0 encode as 0 / 2^(nbits-1)
    have ⟨hlt, hdec⟩ := sm_decode_add f hv x.s 0 (Nat.two_pow_pos _)
    refine ⟨_, ⟨x.s, f.scale, 0⟩, ?_, hlt, hdec, ⟨sameValue_zero hc rfl, rfl⟩, rfl⟩
    unfold SM.encode; simp [hr, hc]
  · have ⟨hc', hr', hsame⟩ := mpbfix_rescale f.mpb f.scale rfl x hc hr
    have ⟨hclt, henc⟩ := sm_encode_on_scale f hv x.s _ hr'
    have ⟨hlt, hdec⟩ := sm_decode_add f hv x.s _ hclt
    refine ⟨_, ⟨x.s, f.scale, shiftBy x.c (x.exp - f.scale)⟩, ?_, hlt, hdec, hsame, rfl⟩
    rw [← henc]
    unfold SM.encode
    simp only [hr, hr', Bool.not_true, Bool.false_eq_true, if_false, hc, hc', ite_nonneg_eq_shiftBy, Int.sub_self, shiftBy_zero]

/-! ## Fixed-point ordinals: the unbounded `MPFixedFormat` (`MPFixFmt`)

The bounded formats (`MPBFixed`, `Fixed`, `SMFixed`) run their own representability test, give ±∞ ordinals of their own
and hand finite values to these functions; their own `to_ordinal` / `from_ordinal`, and so `next_up` on them, have no
theorem here. -/

/-- the ordinal of a representable value is that value counted in units of the spacing -/
theorem fixed_ordinal_is_value (f : MPFixFmt) (x : RF) (hr : x.isMoreSignificant f.nmin = true) (m : Int)
    (h1 : m ≤ x.exp) (h2 : m ≤ f.nmin + 1) :
    units x m = f.ordRF x * ((2 ^ (f.nmin + 1 - m).toNat : Nat) : Int) :=
  fixOrdinal_units f.nmin x hr m h1 h2

/-- strictly increasing -/
theorem fixed_ordinal_strict_mono (f : MPFixFmt) (x y : RF)
    (hx : x.isMoreSignificant f.nmin = true) (hy : y.isMoreSignificant f.nmin = true) :
    f.ordRF x < f.ordRF y ↔ ltValue x y :=
  (ord_scheme (f.nmin + 1) x y _ _ (fixed_ordinal_is_value f x hx) (fixed_ordinal_is_value f y hy)).1

/-- the two zeros (and every respelling of a value) share one ordinal, different values do not -/
theorem fixed_ordinal_eq_iff (f : MPFixFmt) (x y : RF)
    (hx : x.isMoreSignificant f.nmin = true) (hy : y.isMoreSignificant f.nmin = true) :
    f.ordRF x = f.ordRF y ↔ sameValue x y :=
  (ord_scheme (f.nmin + 1) x y _ _ (fixed_ordinal_is_value f x hx) (fixed_ordinal_is_value f y hy)).2

/-- onto every integer -/
theorem fixed_to_from_ordinal (f : MPFixFmt) (k : Int) : f.ordRF (f.unordRF k) = k := by
  unfold MPFixFmt.ordRF MPFixFmt.unordRF
  by_cases hk : k = 0
  · subst hk; simp [fixOrdinal]
  · rw [fixOrdinal_eq]
    have : k.natAbs ≠ 0 := by omega
    simp only [hk, if_false, this, MPFixFmt.expmin, Int.sub_self, shiftBy_zero]
    by_cases h : k < 0 <;> simp [h] <;> omega

theorem fixed_from_to_ordinal (f : MPFixFmt) (x : RF) (hr : x.isMoreSignificant f.nmin = true) :
    sameValue (f.unordRF (f.ordRF x)) x :=
  (fixed_ordinal_eq_iff f _ x (fix_unord_repr f _) hr).1 (fixed_to_from_ordinal f _)

/-- `next_up` / `next_down` step by exactly one ordinal -/
theorem fixed_next_up_ord (f : MPFixFmt) (x : RF) (hr : f.repr (.fin x) = true) :
    ∃ y z, (Fmt.mpfix f).nextUp (.fin x) false = .ok (.fin y) ∧ f.ordRF y = f.ordRF x + 1 ∧
           (Fmt.mpfix f).nextDown (.fin x) false = .ok (.fin z) ∧ f.ordRF z = f.ordRF x - 1 :=
  ⟨_, _, (fix_next f x hr).1, fixed_to_from_ordinal f _, (fix_next f x hr).2, fixed_to_from_ordinal f _⟩

/-! ### `normalize` of the fixed-point family (repaired: F2) -/

/-- normalisation of a representable value returns the same value and sign in the canonical spelling
`exp = expmin` (before the repair `FixedContext(True,0,8).normalize(Float(c=1,exp=2))` was 0) -/
theorem fixed_normalize (f : MPFixFmt) (x : RF) (hr : f.repr (.fin x) = true) :
    ∃ y, f.normalize (.fin x) = .ok (.fin y) ∧ same x y ∧ y.exp = f.expmin := by
  have hms := mpfix_repr_fin f x hr
  have hdiv : x.c % 2 ^ (f.expmin - x.exp).toNat = 0 := isMoreSignificant_div hms
  refine ⟨⟨x.s, f.expmin, shiftBy x.c (x.exp - f.expmin)⟩, ?_, ⟨?_, rfl⟩, rfl⟩
  · unfold MPFixFmt.normalize shiftBy
    simp only [hr, Bool.not_true, Bool.false_eq_true, if_false]
    by_cases h1 : x.exp - f.expmin > 0
    · simp only [h1, if_true]; congr 3; omega
    · by_cases h2 : x.exp - f.expmin < 0
      · simp only [h1, h2, if_false, if_true]; congr 3; omega
      · simp only [h1, h2, if_false]
        have : x.exp = f.expmin := by omega
        congr 2
        cases x; simp_all
  · exact sameValue_shiftBy x f.expmin hdiv

/-- the same through the bounded formats (`MPBFixed`; `Fixed` and `SMFixed` via `FX.mpb` / `SM.mpb`) -/
theorem fixed_normalize_bounded (F : MPBFixFmt) (x : RF) (hr : F.repr (.fin x) = true) :
    ∃ y, F.normalize (.fin x) = .ok (.fin y) ∧ same x y ∧ y.exp = F.nmin + 1 := by
  obtain ⟨y, h1, h2, h3⟩ := fixed_normalize F.mp x (mpbfix_repr_mp F _ hr)
  refine ⟨y, ?_, h2, h3⟩
  unfold MPBFixFmt.normalize
  simp only [hr, Bool.not_true, Bool.false_eq_true, if_false]
  exact h1

/-- the former witness, now correct -/
theorem fixed_normalize_witness :
    (FX.mk true 0 8).mpb.repr (.fin ⟨false, 2, 1⟩) = true ∧
    (FX.mk true 0 8).mpb.normalize (.fin ⟨false, 2, 1⟩) = .ok (.fin ⟨false, 0, 4⟩) := by
  constructor <;> rfl

/-- values that are not representable are refused -/
theorem fixed_normalize_refuses (f : MPFixFmt) (v : FV) (hr : f.repr v = false) :
    f.normalize v = .error .typeError := by
  unfold MPFixFmt.normalize; simp [hr]

/-! ## Float ordinals: the unbounded `MPSFloatFormat` (`MPSFmt`)

The bounded formats (`MPBFloat`, `EFloat`, `IEEE`) run their own representability test, give ±∞ ordinals of their own and
hand finite values to these functions; their own `to_ordinal` / `from_ordinal`, and so `next_up` on them, have no theorem
here (`decoded_ordinal` below reads an `EFloat` pattern through `MPSFmt.ordRF`). -/

/-- the ordinal of a representable value determines its value: `ordValue` turns an ordinal back into
the magnitude in units of `2^expmin` (subnormals are their own ordinal; each further block of
`2^(p-1)` ordinals is one binade) -/
theorem float_ordinal_is_value (f : MPSFmt) (hp : 1 ≤ f.p) (x : RF) (hr : f.reprRF x = true)
    (m : Int) (h1 : m ≤ x.exp) (h2 : m ≤ f.expmin) :
    units x m = sOrdValue (2 ^ (f.p - 1)) (f.ordRF x) * ((2 ^ (f.expmin - m).toNat : Nat) : Int) :=
  mps_ordinal_units f hp x hr m h1 h2

/-- strictly increasing on the representable values -/
theorem ordinal_strict_mono (f : MPSFmt) (hp : 1 ≤ f.p) (x y : RF)
    (hx : f.reprRF x = true) (hy : f.reprRF y = true) :
    f.ordRF x < f.ordRF y ↔ ltValue x y :=
  mps_ordinal_strict_mono f hp x y hx hy

/-- the two zeros counted once; injective otherwise -/
theorem ordinal_eq_iff (f : MPSFmt) (hp : 1 ≤ f.p) (x y : RF)
    (hx : f.reprRF x = true) (hy : f.reprRF y = true) :
    f.ordRF x = f.ordRF y ↔ sameValue x y :=
  mps_ordinal_eq_iff f hp x y hx hy

/-- onto every integer, through representable values -/
theorem to_from_ordinal (f : MPSFmt) (hp : 1 ≤ f.p) (k : Int) :
    f.reprRF (f.unordRF k) = true ∧ f.ordRF (f.unordRF k) = k :=
  ⟨mps_unord_repr f hp k, mps_to_from_ordinal f hp k⟩

theorem from_to_ordinal (f : MPSFmt) (hp : 1 ≤ f.p) (x : RF) (hr : f.reprRF x = true) :
    sameValue (f.unordRF (f.ordRF x)) x :=
  mps_from_to_ordinal f hp x hr

/-- `next_up` / `next_down` step by exactly one ordinal -/
theorem next_up_ord (f : MPSFmt) (hp : 1 ≤ f.p) (x : RF) (hr : f.reprRF x = true) :
    ∃ y z, (Fmt.mps f).nextUp (.fin x) false = .ok (.fin y) ∧ f.ordRF y = f.ordRF x + 1 ∧
           (Fmt.mps f).nextDown (.fin x) false = .ok (.fin z) ∧ f.ordRF z = f.ordRF x - 1 :=
  ⟨_, _, (mps_next f x hr).1, mps_to_from_ordinal f hp _, (mps_next f x hr).2, mps_to_from_ordinal f hp _⟩

/-! ## `EFloatFormat` / `IEEEFormat`: decode is the layout; the largest value -/

/-- decoding gives the value the published layout assigns to the pattern: every valid `es`, `nbits`,
NaN kind, infinity flag and exponent offset -/
theorem decode_layout (f : EF) (hv : f.valid = true) (b : Nat) (hb : b < 2 ^ f.nbits) :
    f.decode b = .ok (efLayout f.es f.nbits f.inf f.kind f.eoff b) :=
  ef_decode_layout f hv b hb

/-- …which, said by magnitude code `G = b mod 2^(nbits-1)`: codes `0..efGmax` are the finite numbers
`from_ordinal(±G)`, `efGmax + 1` is ±∞ when infinities are on, the rest NaN, and NEG_ZERO's `1|0…0` is NaN -/
theorem decode_by_code (f : EF) (hv : f.valid = true) (b : Nat) (hb : b < 2 ^ f.nbits) :
    f.decode b =
      .ok (if f.kind = .negZero ∧ b % 2 ^ (f.nbits - 1) = 0 ∧ b / 2 ^ (f.nbits - 1) = 1 then .nan (decide (b / 2 ^ (f.nbits - 1) = 1))
       else if b % 2 ^ (f.nbits - 1) ≤ efGmax f then .fin (efNumber f (decide (b / 2 ^ (f.nbits - 1) = 1)) (b % 2 ^ (f.nbits - 1)))
       else if f.inf = true ∧ b % 2 ^ (f.nbits - 1) = efGmax f + 1 then .inf (decide (b / 2 ^ (f.nbits - 1) = 1))
       else .nan (decide (b / 2 ^ (f.nbits - 1) = 1))) :=
  ef_decode_class f hv b hb

/-- the largest finite value `_ext_to_mpb_fmt` computes (via `_binade_max` and `next_towards_zero`) is
the value of the largest finite code of the layout, for every valid format -/
theorem maxval_is_largest_code (f : EF) (hv : f.valid = true) :
    f.maxv = (if efGmax f = 0 then ⟨false, f.emin, 0⟩ else f.mpb.mps.unordRF (efGmax f : Int)) :=
  ef_maxv_canon f hv

/-- a decoded finite value is representable in the underlying `MPSFloatFormat`, its ordinal there is its
signed magnitude code (±0 ↦ 0), and that code lies in `[-efGmax, efGmax]` -/
theorem decoded_ordinal (f : EF) (hv : f.valid = true) (b : Nat) (hb : b < 2 ^ f.nbits) (x : RF)
    (hd : f.decode b = .ok (.fin x)) :
    f.mpb.mps.reprRF x = true ∧
    f.mpb.mps.ordRF x = (if b / 2 ^ (f.nbits - 1) = 1 then -((b % 2 ^ (f.nbits - 1) : Nat) : Int) else ((b % 2 ^ (f.nbits - 1) : Nat) : Int)) ∧
    b % 2 ^ (f.nbits - 1) ≤ efGmax f := by
  obtain ⟨hle, rfl⟩ := ef_decode_fin_inv f hv b hb x hd
  generalize b / 2 ^ (f.nbits - 1) = S at *
  generalize b % 2 ^ (f.nbits - 1) = G at *
  by_cases hG0 : G = 0
  · subst hG0
    refine ⟨mps_reprRF_zero _ rfl, ?_, hle⟩
    rw [mps_ordRF_zero _ rfl]; split <;> rfl
  · have ⟨hc, hs, hr, hu⟩ := efNumber_facts f hv (decide (S = 1)) G hG0
    refine ⟨hr, ?_, hle⟩
    rw [mps_ordRF_eq _ _ hc, hs, hu]
    by_cases h : S = 1 <;> simp [h]

/-- `maxval` is decoded from a pattern and bounds every finite decoded value on both sides -/
theorem maxval_is_max (f : EF) (hv : f.valid = true) :
    (∃ y, f.decode (efGmax f) = .ok (.fin y) ∧ sameValue y f.maxv) ∧
    (∀ b x, b < 2 ^ f.nbits → f.decode b = .ok (.fin x) →
      ¬ ltValue f.maxv x ∧ ¬ ltValue x ⟨true, f.maxv.exp, f.maxv.c⟩) := by
  have hp := ef_pmax_pos f hv
  have ⟨hn, _⟩ := ef_valid_basic f hv
  have hN := two_pow_pred f.nbits hn
  have hGlt := ef_Gmax_lt f hv
  have ⟨mr, ms, mo, mz⟩ := ef_maxv_facts f hv
  constructor
  · have ⟨hlt, hdec⟩ := ef_decode_split f hv false (efGmax f) hGlt
    simp only [Bool.false_eq_true, and_false, if_false, Nat.le_refl, if_true, Nat.mul_zero, Nat.zero_add] at hlt hdec
    have ⟨hr, ho, _⟩ := decoded_ordinal f hv _ hlt _ hdec
    rw [Nat.div_eq_of_lt hGlt, Nat.mod_eq_of_lt hGlt, if_neg Nat.zero_ne_one, ← mo] at ho
    exact ⟨_, hdec, (mps_ordinal_eq_iff f.mpb.mps hp _ _ hr mr).1 ho⟩
  · intro b x hb hd
    have ⟨hr, ho, hle⟩ := decoded_ordinal f hv b hb x hd
    have ⟨hnr, hno⟩ := ef_negmaxv_facts f hv
    constructor
    · rw [← mps_ordinal_strict_mono f.mpb.mps hp _ _ mr hr, mo, ho]
      split <;> omega
    · rw [← mps_ordinal_strict_mono f.mpb.mps hp _ _ hr hnr, hno, ho]
      split <;> omega

/-! ### every decoded value is representable (repaired: F15) -/

/-- every pattern decodes to a value the format calls representable — finite, ±∞ and NaN alike,
down to the 1- and 2-bit formats that have no non-zero finite value -/
theorem decode_repr (f : EF) (hv : f.valid = true) (b : Nat) (hb : b < 2 ^ f.nbits) :
    ∃ v, f.decode b = .ok v ∧ f.repr v = true :=
  ef_decode_repr f hv b hb

/-- `has_nonzero()` is exact: it holds iff the layout has a non-zero finite code -/
theorem has_nonzero_exact (f : EF) (hv : f.valid = true) : f.hasNonzero = decide (1 ≤ efGmax f) :=
  ef_hasNonzero f hv

/-- representability of the special values is what the format parameters say -/
theorem repr_specials (f : EF) (s : Bool) :
    f.repr (.inf s) = f.inf ∧ f.repr (.nan s) = !(f.kind == .none) :=
  ⟨ef_repr_inf f s, ef_repr_nan f s⟩

/-! ### encode ∘ decode (repaired: F15, F16) -/

/-- every pattern is the encoding of what it decodes to, up to NaN payloads: finite and ±∞ patterns
exactly; a NaN pattern encodes to a NaN pattern -/
theorem encode_decode (f : EF) (hv : f.valid = true) (b : Nat) (hb : b < 2 ^ f.nbits) :
    ∃ v, f.decode b = .ok v ∧
      (v.isNan = false → f.encode v = .ok b) ∧
      (v.isNan = true → ∃ b' t, f.encode v = .ok b' ∧ b' < 2 ^ f.nbits ∧ f.decode b' = .ok (.nan t)) := by
  obtain ⟨v, hdv, hr⟩ := ef_decode_repr f hv b hb
  refine ⟨v, hdv, fun hnn => ?_, fun hnan => ?_⟩
  · rcases ef_decode_cases f hv b hb with ⟨_, _, h⟩ | ⟨_, hG, h⟩ | ⟨_, h⟩ <;> rw [hdv] at h <;> cases h
    · exact ef_encode_decode_fin f hv b hb _ hdv hr
    · -- ±∞: the code is `efGmax + 1`, which is what `encode` writes
      have hH := Nat.two_pow_pos (f.nbits - 1)
      have hS : b / 2 ^ (f.nbits - 1) < 2 :=
        (Nat.div_lt_iff_lt_mul hH).2 (by rw [← two_pow_pred f.nbits (ef_valid_basic f hv).1]; exact hb)
      rw [(ef_encode_inf f hv _ hr).2, ← hG, (sign_bit hS).2]
      conv => rhs; rw [← Nat.div_add_mod b (2 ^ (f.nbits - 1))]
    · cases hnn
  · cases v with
    | nan s => exact ef_encode_nan f hv s hr
    | fin x => cases hnan
    | inf s => cases hnan

/-- the former F16 witness: `EFloatFormat(2, 3, True, MAX_VAL, 0)`, pattern 2 = +∞ -/
theorem encode_decode_witness :
    (EF.mk 2 3 true .maxVal 0).decode 2 = .ok (.inf false) ∧
    (EF.mk 2 3 true .maxVal 0).encode (.inf false) = .ok 2 := by
  constructor <;> rfl

/-! ### decode ∘ encode (repaired: F16, F23) -/

/-- for every representable value — any `(exp, c)` spelling of a finite number, ±0, ±∞, NaN of either
sign — `encode` gives a pattern in range whose decoding is the same value with the same sign
(NaN ↦ NaN, payload and sign of NaN not observed) -/
theorem decode_encode (f : EF) (hv : f.valid = true) (v : FV) (hr : f.repr v = true) :
    ∃ b w, f.encode v = .ok b ∧ b < 2 ^ f.nbits ∧ f.decode b = .ok w ∧ sameFV v w := by
  have hp := ef_pmax_pos f hv
  have hH := Nat.two_pow_pos (f.nbits - 1)
  cases v with
  | nan s =>
    obtain ⟨b, t, h1, h2, h3⟩ := ef_encode_nan f hv s hr
    exact ⟨b, .nan t, h1, h2, h3, trivial⟩
  | inf s =>
    have ⟨hlt, henc⟩ := ef_encode_inf f hv s hr
    have ⟨hblt, hdec⟩ := ef_decode_split f hv s (efGmax f + 1) hlt
    rw [ef_repr_inf] at hr
    refine ⟨_, .inf s, henc, hblt, ?_, rfl⟩
    rw [hdec, if_neg (fun h => Nat.succ_ne_zero _ h.2.1), if_neg (Nat.not_succ_le_self _), if_pos ⟨hr, rfl⟩]
  | fin x =>
    by_cases hc : x.c = 0
    · have henc := ef_encode_fin_zero f x hc hr
      have ⟨hblt, hdec⟩ := ef_decode_split f hv x.s 0 hH
      rw [Nat.add_zero] at hblt hdec
      rw [ef_repr_fin_zero f x hc] at hr
      refine ⟨_, .fin ⟨x.s, f.expmin, 0⟩, henc, hblt, ?_, ?_⟩
      · -- `-0` is representable only when its code is not the NaN of a NEG_ZERO format
        have a : ¬ (f.kind = .negZero ∧ 0 = 0 ∧ x.s = true) := fun ⟨h1, _, h3⟩ => by
          rw [h3, h1] at hr; simp at hr
        rw [hdec, if_neg a, if_pos (Nat.zero_le _)]; rfl
      · exact ⟨sameValue_zero hc rfl, rfl⟩
    · have ⟨hle, henc⟩ := ef_encode_fin_nonzero f hv x hc hr
      have hlt : mpsUord f.mpb.mps x < 2 ^ (f.nbits - 1) := Nat.lt_of_le_of_lt hle (ef_Gmax_lt f hv)
      have ⟨hblt, hdec⟩ := ef_decode_split f hv x.s _ hlt
      rw [ef_repr_fin_nonzero f hv x hc] at hr
      simp only [Bool.and_eq_true, decide_eq_true_eq] at hr
      have hrr := hr.1.1
      have hU := (mps_uord_mag f.mpb.mps hp x hc hrr (min x.exp f.mpb.mps.expmin) (by omega) (by omega)).1
      refine ⟨_, .fin (efNumber f x.s (mpsUord f.mpb.mps x)), henc, hblt, ?_, ?_⟩
      · rw [hdec, if_neg (fun h => hU h.2.1), if_pos hle]
      · have ⟨_, hs, _, _⟩ := efNumber_facts f hv x.s _ hU
        refine ⟨sameValue_symm ?_, hs.symm⟩
        have : efNumber f x.s (mpsUord f.mpb.mps x) = f.mpb.mps.unordRF (f.mpb.mps.ordRF x) := by
          unfold efNumber; simp only [hU, if_false]; rw [mps_ordRF_eq _ x hc]
        rw [this]
        exact mps_from_to_ordinal f.mpb.mps hp x hrr

/-- the former F23 witness: a NaN with clear sign bit in a NEG_ZERO format takes the code `1|0…0` -/
theorem decode_encode_witness :
    (EF.mk 2 4 false .negZero 0).repr (.nan false) = true ∧
    (EF.mk 2 4 false .negZero 0).encode (.nan false) = .ok 8 ∧
    (EF.mk 2 4 false .negZero 0).decode 8 = .ok (.nan true) := by
  refine ⟨by decide, by rfl, by rfl⟩

/-- `encode` stays in `[0, 2^nbits)` for everything it accepts -/
theorem encode_lt (f : EF) (hv : f.valid = true) (v : FV) (b : Nat) (h : f.encode v = .ok b) : b < 2 ^ f.nbits := by
  have hr : f.repr v = true := guard_passed h (by simp)
  obtain ⟨b', _, h1, h2, _⟩ := decode_encode f hv v hr
  rw [h] at h1; cases h1; exact h2

/-! ### `normalize` of the float family -/

/-- `normalize` of the unbounded `MPSFloatFormat` on a representable non-zero value: same value and sign,
canonical spelling (`exp = expmin` with at most `p` digits, or exactly `p` digits above it) -/
theorem mps_normalize_val (f : MPSFmt) (hp : 1 ≤ f.p) (x : RF) (hc : x.c ≠ 0) (hr : f.reprRF x = true) :
    ∃ y, f.normalize (.fin x) = .ok (.fin y) ∧ same x y ∧
      ((y.exp = f.expmin ∧ y.p ≤ f.p) ∨ (y.exp > f.expmin ∧ y.p = f.p)) := by
  have hr' : f.repr (.fin x) = true := hr
  -- the exponent `T` that `RealFloat.normalize` aims at is `expmin` or leaves exactly `p` digits
  obtain ⟨T, hnorm, hT⟩ : ∃ T, x.normalize (some f.p) (some f.nmin) = x.normGo T ∧
      ((T = f.expmin ∧ x.exp + x.p - f.p ≤ T) ∨ (T = x.exp + x.p - f.p ∧ f.expmin < T)) :=
    ⟨_, RF.normalize_pn x f.p f.nmin, by unfold RF.e MPSFmt.nmin; omega⟩
  -- no digit is lost on the way there
  have hdiv : x.c % 2 ^ (T - x.exp).toNat = 0 := by
    rcases hT with ⟨rfl, _⟩ | ⟨hT, _⟩
    · exact (mps_repr_facts f x hr).2
    · rw [show (T - x.exp).toNat = x.p - f.p by omega]; exact (mps_repr_facts f x hr).1
  have ⟨_, hbl⟩ := shiftBy_spec x.exp T x.c hc hdiv
  refine ⟨⟨x.s, T, shiftBy x.c (x.exp - T)⟩, ?_, ⟨?_, rfl⟩, ?_⟩
  · unfold MPSFmt.normalize
    simp only [hr', Bool.not_true, Bool.false_eq_true, if_false, hc, hnorm, normGo_shiftBy x T hdiv]
  · exact sameValue_shiftBy x T hdiv
  · have hxp : (x.p : Int) = bitLength x.c := rfl
    clear hdiv  -- a `%` fact among the hypotheses is fed to `omega`
    rcases hT with ⟨h1, h2⟩ | ⟨h1, h2⟩
    · exact .inl ⟨h1, show bitLength (shiftBy x.c (x.exp - T)) ≤ f.p by omega⟩
    · exact .inr ⟨h2, show bitLength (shiftBy x.c (x.exp - T)) = f.p by omega⟩

/-- the same through `EFloatFormat` (`exp = expmin` with at most `pmax` digits, or exactly `pmax` digits above
it); zeros go to `exp = expmin` -/
theorem normalize_val (f : EF) (hv : f.valid = true) (x : RF) (hc : x.c ≠ 0) (hr : f.repr (.fin x) = true) :
    ∃ y, f.normalize (.fin x) = .ok (.fin y) ∧ same x y ∧
      ((y.exp = f.expmin ∧ y.p ≤ f.pmax) ∨ (y.exp > f.expmin ∧ y.p = f.pmax)) := by
  have hp := ef_pmax_pos f hv
  have hm := ef_repr_mpb f _ hr
  have hrr : f.mpb.mps.reprRF x = true := by
    rw [ef_repr_fin_nonzero f hv x hc] at hr
    simp only [Bool.and_eq_true] at hr; exact hr.1.1
  obtain ⟨y, h1, h2, h3⟩ := mps_normalize_val f.mpb.mps hp x hc hrr
  refine ⟨y, ?_, h2, h3⟩
  unfold EF.normalize MPBFmt.normalize
  simp only [hr, hm, Bool.not_true, Bool.false_eq_true, if_false]
  exact h1

theorem normalize_zero (f : EF) (x : RF) (hc : x.c = 0) (hr : f.repr (.fin x) = true) :
    f.normalize (.fin x) = .ok (.fin ⟨x.s, f.expmin, 0⟩) := by
  have hm := ef_repr_mpb f _ hr
  have hrr : f.mpb.mps.repr (.fin x) = true := mps_reprRF_zero _ hc
  unfold EF.normalize MPBFmt.normalize MPSFmt.normalize
  simp only [hr, hm, hrr, Bool.not_true, Bool.false_eq_true, if_false, hc, if_true]
  rfl

/-! ## `ExpFormat` (powers of two): layout and round trips -/

theorem exp_decode_layout (f : ExpFmt) (b : Nat) (hb : b < 2 ^ f.nbits) :
    f.decode b = .ok (expLayout f.nbits f.eoff b) := by
  unfold ExpFmt.decode expLayout ExpFmt.ebias bitmask
  have h0 : ¬ (b ≥ 2 ^ f.nbits) := by omega
  simp only [h0, if_false]
  split <;> rfl

theorem exp_encode_decode (f : ExpFmt) (hv : f.valid = true) (b : Nat) (hb : b < 2 ^ f.nbits) :
    ∃ v, f.decode b = .ok v ∧ f.encode v = .ok b := by
  rw [exp_decode_layout f b hb]
  refine ⟨_, rfl, ?_⟩
  unfold expLayout
  by_cases h : b = 2 ^ f.nbits - 1
  · rw [if_pos h, h]
    unfold ExpFmt.encode ExpFmt.repr bitmask; simp
  · rw [if_neg h]
    change f.encode (.fin ⟨false, (b : Int) - f.ebias, 1⟩) = .ok b
    have hr : f.repr (.fin ⟨false, (b : Int) - f.ebias, 1⟩) = true := by
      rw [exp_repr_fin, e_pow_one, exp_range f hv]
      exact ⟨rfl, Nat.one_ne_zero, rfl, by omega, by omega⟩
    unfold ExpFmt.encode
    simp only [hr, Bool.not_true, Bool.false_eq_true, if_false, e_pow_one]
    congr 1; omega

theorem exp_decode_encode (f : ExpFmt) (hv : f.valid = true) (v : FV) (hr : f.repr v = true) :
    ∃ b w, f.encode v = .ok b ∧ b < 2 ^ f.nbits ∧ f.decode b = .ok w ∧ sameFV v w := by
  have hN := Nat.two_pow_pos f.nbits
  cases v with
  | inf s => cases hr
  | nan s =>
    refine ⟨bitmask f.nbits, .nan false, ?_, by unfold bitmask; omega, ?_, trivial⟩
    · unfold ExpFmt.encode; simp [hr]
    · unfold ExpFmt.decode bitmask
      have : ¬ (2 ^ f.nbits - 1 ≥ 2 ^ f.nbits) := by omega
      simp [this]
  | fin x =>
    obtain ⟨h1, hc, hs, hrange⟩ := (exp_repr_fin f x).1 hr
    obtain ⟨h0, hlt⟩ := (exp_range f hv x.e).1 hrange
    refine ⟨(x.e + f.ebias).toNat, .fin ⟨false, x.e, 1⟩, ?_, by omega, ?_, ?_, hs⟩
    · unfold ExpFmt.encode; simp [hr]
    · unfold ExpFmt.decode bitmask
      have a : ¬ ((x.e + f.ebias).toNat ≥ 2 ^ f.nbits) := by omega
      have b : ¬ ((x.e + f.ebias).toNat = 2 ^ f.nbits - 1) := by omega
      rw [if_neg a, if_neg b, Int.toNat_of_nonneg h0, Int.add_sub_cancel]
    · -- same value: `c` is a power of two
      have hpow := mp1_pow x hc h1
      have hpp := bitLength_pos hc
      unfold sameValue units mag
      have hmin : min x.exp x.e = x.exp := by unfold RF.e RF.p; omega
      simp only [hs, Bool.false_eq_true, if_false, hmin, Int.sub_self, Int.toNat_zero, Nat.pow_zero, Nat.mul_one,
        Nat.one_mul]
      have : (x.e - x.exp).toNat = x.p - 1 := by unfold RF.e RF.p; omega
      rw [this, ← hpow]

/-! ## Non-vacuity -/
example : (FX.mk true (-2) 4).valid = true ∧ (FX.mk true (-2) 4).mpb.repr (.fin ⟨true, -1, 3⟩) = true := by
  constructor <;> rfl
example : (SM.mk 3 5).valid = true ∧ (SM.mk 3 5).mpb.repr (.fin ⟨true, 3, 0⟩) = true := by constructor <;> rfl
example : (EF.mk 2 3 true .maxVal 0).valid = true ∧ (EF.mk 5 16 true .ieee 0).valid = true := by constructor <;> rfl
example : (MPSFmt.mk 3 (-2) true true).reprRF ⟨true, -5, 12⟩ = true ∧ (MPSFmt.mk 3 (-2) true true).ordRF ⟨true, -5, 12⟩ = -6 := by
  decide

example : (EF.mk 4 8 false .negZero 2).valid = true ∧ (EF.mk 4 8 false .negZero 2).repr (.fin ⟨true, -3, 5⟩) = true ∧
    (EF.mk 0 2 false .maxVal 0).valid = true ∧ (EF.mk 0 2 false .maxVal 0).repr (.nan false) = true := by
  decide
example : (EF.mk 5 16 true .ieee 0).hasNonzero = true ∧ efGmax (EF.mk 5 16 true .ieee 0) = 31743 := by decide

example : (ExpFmt.mk 3 (-1)).valid = true ∧ (ExpFmt.mk 3 (-1)).repr (.fin ⟨false, -3, 4⟩) = true := by decide

end Fpy.Props.C16
