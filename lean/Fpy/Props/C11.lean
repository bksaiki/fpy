/-
C11 — compiled C++ agrees bit for bit with the interpreter.  **PARTIAL**: a Lean semantics of the
emitted C++ (3.8k-line emitter, `shared_ptr` handles, `fesetround`) is out of reach.  What is proved
here is the *decision logic* the emitter relies on; the emitter and the toolchain are tied to the
interpreter by differential compile-and-run testing in `harness/c11.py` (testing, not proof).

Model: `Fpy/Model/Storage.lean` — the storage ladder and `choose_storage_scalar`, `scalar_fits_in`,
the op table of `target.make_op_table` and phases (1)/(2) of `CppEmitter._dispatch`, as written today
(tied to the real functions on a grid by the harness); machine types as value sets `values T`.
Spec: `γ` of C14 (`Fpy/Spec/AbsFmt.lean`): the values an inferred format denotes; `Fpy/Spec/Storage.lean`: the
hypotheses on the C++ implementation and the hardware (`CastSem`, `Hardware`, structures, not axioms), what a bound
admits (`γB`) and what the emitted expression computes for a dispatched signature (`machEval`).

* `storage_sound` — the ladder search is sound: every value of the inferred format is a value of the
  chosen machine type (−0, NaN/inf, a fractional quantum, the bounds each keep a format off an
  integer rung).  `narrow_id` is its corollary: the narrowing cast the emitter inserts is the identity.
* `storage_sound_counterexample` — the `MPFixedFormat` fallback to `int64_t` ignores the magnitude
  (documented by the backend as "the user's problem"): `storage_sound_partial` excludes it.
* `ladder_exact`, `ladder_monotone` — a rung's abstract format denotes exactly the machine type's
  values; `scalar_fits_in a b` implies `values a ⊆ values b`.
* `dispatch_contract` — for `+ - * / sqrt fma` under the eight hardware contexts: the signature
  `_dispatch` selects computes in the active context's type and rounding mode, after value-preserving
  operand conversions; hence, UNDER THE HYPOTHESIS `Hardware.correct` (the machine operation is the
  IEEE correctly rounded one in the current `fesetround` mode — a structure field, not an axiom), the
  machine result is the interpreter's `opEval`.
* `int_add_no_overflow`, `int_sub_no_overflow`, `int_mul_no_overflow_partial` — an integer operation
  whose exact-result format fits a rung cannot overflow it; `int_direct_match_overflow_counterexample`
  — the direct match `intN + intN` under a wrap-around `SINTn` context is NOT covered by that;
  `int_mul_neg_zero_counterexample` — finding F29 (C14) seen from the storage: `SINT8 * SINT8` is stored
  as `int16_t`, which cannot hold the `-0` the interpreter returns for `(-2)·(+0)`.
-/
import Fpy.Proof.Storage
import Fpy.Props.C14
namespace Fpy.C11
open Fpy AbsFmt

/-- a rung's abstract format denotes exactly the values of the machine type -/
theorem ladder_exact (T : MachTy) (l : AbsFmt) (h : ladderFmt T = some l) (v : FV) : γ l v ↔ values T v := by
  cases T <;> simp only [ladderFmt] at h <;> cases h
  · exact gamma_uint 8 v
  · exact gamma_sint 8 v
  · exact gamma_uint 16 v
  · exact gamma_sint 16 v
  · exact gamma_uint 32 v
  · exact gamma_sint 32 v
  · exact gamma_ieee_iff 24 (-149) 104 (by decide) v
  · exact gamma_uint 64 v
  · exact gamma_sint 64 v
  · exact gamma_ieee_iff 53 (-1074) 971 (by decide) v

theorem fitsRung_sound (a : AbsFmt) (T : MachTy) (h : fitsRung a T = true) (v : FV) (hv : γ a v) : values T v := by
  unfold fitsRung at h
  cases hl : ladderFmt T with
  | none => rw [hl] at h; cases h
  | some l =>
    rw [hl] at h
    have hb := Fpy.Props.C14.le_sound a l (ladderFmt_wf T l hl) h v hv
    exact (ladder_exact T l hl v).1 hb

/-- **the ladder search is sound**: `chooseLadder a = T → γ a ⊆ values T` -/
theorem storage_sound (a : AbsFmt) (T : MachTy) (h : chooseLadder a = some T) (v : FV) (hv : γ a v) : values T v :=
  fitsRung_sound a T (by unfold chooseLadder at h; exact List.find?_some h) v hv

/-- `choose_storage_scalar` is sound whenever the answer comes from the ladder (not from the
unbounded-integer fallback) -/
theorem storage_sound_partial (b : Bound) (T : MachTy) (h : chooseStorageScalar b = some T)
    (hlad : ∀ a mp, b = .fmt a mp → chooseLadder a ≠ none) (v : FV) (hv : γB b v) : values T v := by
  cases b with
  | none => exact absurd hv (by simp [γB])
  | real => simp [chooseStorageScalar] at h
  | other => simp [chooseStorageScalar] at h
  | bottom => exact absurd hv (by simp [γB])
  | fmt a mp =>
    simp only [chooseStorageScalar] at h
    cases hl : chooseLadder a with
    | none => exact absurd hl (hlad a mp rfl)
    | some T' =>
      rw [hl] at h
      injection h with h
      subst h
      exact storage_sound a _ hl v hv

/-- the fallback is unsound for the value sets: `INTEGER`'s format is stored as `int64_t`, `2^63` is one of
its values.  (Deliberate, per the comment in `choose_storage_scalar`: "overflow is the user's problem".)
Python: `choose_storage_scalar(fp.INTEGER.format())` is `CppScalar.S64`. -/
theorem storage_sound_counterexample :
    chooseStorageScalar NativeCtx.integer.bound = some .s64 ∧
    γB NativeCtx.integer.bound (.fin ⟨false, 0, 2 ^ 63⟩) ∧ ¬ values .s64 (.fin ⟨false, 0, 2 ^ 63⟩) := by
  -- membership in a machine type is decided by `member` of its rung's format
  refine ⟨by decide, ?_, mt (ladder_exact .s64 _ rfl _).2 (mt (Fpy.Props.C14.member_iff_gamma _ _).2 (by decide))⟩
  simp only [γB, NativeCtx.bound, γ, finMem]
  exact ⟨⟨⟨false, 0, 2 ^ 63⟩, by decide, rfl, nofun, fun E h => by cases h; decide⟩, rfl, rfl⟩

/-- **narrowing casts are identities**: a `static_cast` to the storage chosen for a format changes no
value of that format -/
theorem narrow_id (cs : CastSem) (a : AbsFmt) (T : MachTy) (h : chooseLadder a = some T) (v : FV) (hv : γ a v) :
    cs.cast T v = v :=
  cs.exact T v (storage_sound a T h v hv)

/-- **`scalar_fits_in a b` implies `values a ⊆ values b`** (a format that fits a smaller rung fits every
rung the smaller one fits in) -/
theorem ladder_monotone (A B : MachTy) (h : scalarFitsIn A B = true) (v : FV) (hv : values A v) : values B v := by
  unfold scalarFitsIn at h
  cases ha : ladderFmt A with
  | none =>
    cases ladderFmt_eq_none ha; exact absurd hv (by simp [values])
  | some fa =>
    cases hb : ladderFmt B with
    | none =>
      rw [ha, hb] at h
      cases ladderFmt_eq_none hb
      have : A = .bool := by simpa using h
      subst this; simp [ladderFmt] at ha
    | some fb =>
      rw [ha, hb] at h
      have h1 := (ladder_exact A fa ha v).2 hv
      have h2 := Fpy.Props.C14.le_sound fa fb (ladderFmt_wf B fb hb) h v h1
      exact (ladder_exact B fb hb v).1 h2

theorem ladder_monotone_fits (a : AbsFmt) (A B : MachTy) (ha : fitsRung a A = true) (h : scalarFitsIn A B = true)
    (v : FV) (hv : γ a v) : values B v :=
  ladder_monotone A B h v (fitsRung_sound a A ha v hv)

/-- **the dispatch contract** for `+ - * / sqrt fma` under `IEEEContext(8,32,rm)` / `IEEEContext(11,64,rm)`,
`rm ∈ {RNE, RTZ, RTP, RTN}`: whatever signature `_dispatch` selects — directly, or after casting every
operand into the active context's storage — the machine result is the value `opEval` gives for the same
operands under the active context.  Assumes `hw.correct` (the hardware/libm operation is the IEEE
correctly rounded one in the current `fesetround` mode) and `cs.exact` (value-preserving conversions). -/
theorem dispatch_contract (hw : Hardware) (cs : CastSem) (nd : Node) (hnd : nd ∈ crNodes)
    (tys : List MachTy) (dbl : Bool) (rm : HwRM) (s : Sig) (hd : dispatch nd tys (.fp dbl rm) = some s)
    (args : List FV) (hargs : ValuesOf tys args) (r : FV)
    (hr : opEval (NativeCtx.fp dbl rm).toCtx nd.toOp (args.map NV.fv) = .ok (.fv r)) :
    ∃ out, machEval hw cs nd s args = some out ∧ sameValue out r := by
  obtain ⟨hctx, hin, hlen, hfit⟩ := dispatch_fp_shape nd tys dbl rm s hd
  have hlenA : args.length = nd.arity := by rw [← hlen]; exact hargs.length_eq.symm
  -- every operand is a value of the context's type (the operand conversions widen)
  have hvals : ∀ a ∈ args, values (fpTy dbl) a := by
    intro a ha
    obtain ⟨t, ht, hta⟩ := hargs.mem a ha
    rcases hfit t ht with h | h
    · rw [← h]; exact hta
    · exact ladder_monotone t (fpTy dbl) h a hta
  refine ⟨hw.op nd dbl rm args, ?_, hw.correct nd dbl rm args r hnd hlenA hvals hr⟩
  unfold machEval
  rw [hctx, hin, ← hlenA, zipWith_cast_id cs (fpTy dbl) args hvals]

/-- an integer (or any) sum whose exact-result format fits a rung is a value of that rung: the machine
addition in that type cannot overflow -/
theorem int_add_no_overflow (a b c : AbsFmt) (ha : a.WF) (hb : b.WF) (hc : a.add b = .ok c) (T : MachTy)
    (hT : chooseLadder c = some T) (x y : FV) (hx : γ a x) (hy : γ b y) : values T (x.add y) :=
  storage_sound c T hT _ (Fpy.Props.C14.add_sound a b c ha hb hc x y hx hy)

theorem int_sub_no_overflow (a b c : AbsFmt) (ha : a.WF) (hb : b.WF) (hc : a.sub b = .ok c) (T : MachTy)
    (hT : chooseLadder c = some T) (x y : FV) (hx : γ a x) (hy : γ b y) : values T (x.sub y) :=
  storage_sound c T hT _ (Fpy.Props.C14.sub_sound a b c ha hb hc x y hx hy)

/-- products: under the hypothesis of C14's `mul_sound_partial` (the abstract product is unsound at the
sign of a zero product: `__mul__` sets `has_neg_zero = a.has_neg_zero or b.has_neg_zero` — finding F29,
C14 counterexample).  Missing for full strength: exactly that region. -/
theorem int_mul_no_overflow_partial (a b c : AbsFmt) (ha : a.WF) (hb : b.WF) (hc : a.mul b = .ok c)
    (T : MachTy) (hT : chooseLadder c = some T) (x y : FV) (hx : γ a x) (hy : γ b y)
    (hz : ∀ p q, x = .fin p → y = .fin q → (p.mul q).c = 0 → (p.mul q).s = true → (a.negZero || b.negZero) = true) :
    values T (x.mul y) :=
  storage_sound c T hT _ (Fpy.Props.C14.mul_sound_partial a b c ha hb hc x y hx hy hz)

/-- the sign of a zero product reaches the storage: `SINT8 * SINT8` is stored as `int16_t`, and
`(-2)·(+0) = -0` is not an `int16_t` value (C14's `mul_sound_counterexample_neg_zero`, seen from C11).
Python: `with fp.REAL: b = x * y` on `SINT8` arguments `(-2, 0)`: the interpreter returns `-0`, the compiled
`int16_t` product is `0`. -/
theorem int_mul_neg_zero_counterexample :
    ∃ c, (sintFmt 8).mul (sintFmt 8) = .ok c ∧ chooseLadder c = some .s16 ∧
      γ (sintFmt 8) (.fin ⟨true, 0, 2⟩) ∧ γ (sintFmt 8) (.fin ⟨false, 0, 0⟩) ∧
      ¬ values .s16 (FV.mul (.fin ⟨true, 0, 2⟩) (.fin ⟨false, 0, 0⟩)) := by
  refine ⟨⟨some 16, some 0, .fin ⟨false, 0, 16384⟩, .fin ⟨true, 0, 16256⟩, false, false, false, false⟩,
    by rfl, by decide, (Fpy.Props.C14.member_iff_gamma _ _).1 (by decide), (Fpy.Props.C14.member_iff_gamma _ _).1 (by decide),
    mt (ladder_exact .s16 _ rfl _).2 (mt (Fpy.Props.C14.member_iff_gamma _ _).2 (by decide))⟩

/-- `_dispatch` has a direct match `int32_t + int32_t` under `SINT32` (a wrap-around context), and the exact
sum of two `int32_t` values need not be an `int32_t` value: the machine addition overflows (undefined
behaviour for a signed type) where the interpreter wraps.  The `no_overflow` theorems do not cover
the same-width direct match. -/
theorem int_direct_match_overflow_counterexample :
    dispatch .add [.s32, .s32] (.sint 32) = some ⟨"+", [.s32, .s32], .sint 32⟩ ∧
    values .s32 (.fin ⟨false, 0, 2147483647⟩) ∧ values .s32 (.fin ⟨false, 0, 1⟩) ∧
    ¬ values .s32 (FV.add (.fin ⟨false, 0, 2147483647⟩) (.fin ⟨false, 0, 1⟩)) := by
  have mem : ∀ v, (sintFmt 32).member v = true ↔ values .s32 v := fun v =>
    (Fpy.Props.C14.member_iff_gamma _ v).trans (ladder_exact .s32 _ rfl v)
  exact ⟨by decide, (mem _).1 (by decide), (mem _).1 (by decide), mt (mem _).2 (by decide)⟩

/-- the hypotheses of `dispatch_contract` are satisfiable, and the model evaluates the operations it speaks of -/
example : ∃ out, machEval Hardware.model CastSem.id .add ⟨"+", [.f64, .f64], .fp true .rtz⟩ [.fin ⟨false, 0, 1⟩, .fin ⟨false, 0, 2⟩] = some out ∧
    sameValue out (.fin ⟨false, 0, 3⟩) := by
  have h1 : values .f32 (.fin ⟨false, 0, 1⟩) := Or.inr ⟨1, 0, by decide, by decide, by decide, by simp [denotes]⟩
  have h2 : values .f64 (.fin ⟨false, 0, 2⟩) := Or.inr ⟨2, 0, by decide, by decide, by decide, by simp [denotes]⟩
  exact dispatch_contract Hardware.model CastSem.id .add (by decide) [.f32, .f64] true .rtz _ (by decide) _
    (.cons h1 (.cons h2 .nil)) _ (by rfl)

example : chooseLadder (sintFmt 8) = some .s8 ∧ chooseLadder (uintFmt 8) = some .u8 ∧
    chooseLadder (ieeeFmt 24 (-149) 104) = some .f32 ∧ chooseLadder (ieeeFmt 53 (-1074) 971) = some .f64 := by decide

example : ∃ c, (sintFmt 8).add (sintFmt 8) = .ok c ∧ chooseLadder c = some .s16 :=
  ⟨_, rfl, by decide⟩

/-- `-0` keeps an integer-valued format off the integer rungs: `{-0, 0, 1}` is stored as `float` -/
example : chooseLadder { prec := none, exp := some 0, pos := .fin ⟨false, 0, 1⟩, neg := .fin ⟨false, 0, 0⟩, negZero := true } = some .f32 := by decide

/-- a NaN flag does the same; a half-integer quantum too -/
example : chooseLadder { prec := none, exp := some 0, pos := .fin ⟨false, 0, 1⟩, neg := .fin ⟨false, 0, 0⟩, nan := true } = some .f32 ∧
    chooseLadder { prec := none, exp := some (-1), pos := .fin ⟨false, 0, 1⟩, neg := .fin ⟨false, 0, 0⟩ } = some .f32 := by decide

example : dispatch .add [.f32, .f64] (.fp true .rtz) = some ⟨"+", [.f64, .f64], .fp true .rtz⟩ ∧
    dispatch .add [.f32, .f64] (.fp false .rne) = none ∧
    dispatch .fma [.f32, .f32, .f32] (.fp false .rtp) = some ⟨"std::fma", [.f32, .f32, .f32], .fp false .rtp⟩ := by decide

example : values .f32 (.fin ⟨false, -149, 1⟩) ∧ values .s8 (.fin ⟨true, 0, 128⟩) ∧ ¬ values .s8 (.fin ⟨true, 0, 0⟩) := by
  refine ⟨Or.inr ⟨1, -149, by decide, by decide, by decide, by simp [denotes]⟩,
    ⟨by decide, 128, by simp [denotes], by decide, by decide⟩, ?_⟩
  simp [values, intValues]

end Fpy.C11
