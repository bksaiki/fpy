/-
C08 — `for` unrolling, with the two number-layer interfaces discharged.

`Props/C08.lean` states the three unrolling theorems for an arbitrary context `CI` of the emitted control code
under the hypotheses `IntArith CI` (integer `+`, `−`, `fmod` are exact under `CI`) and, for the STRICT `assert`,
`IntEq` (`==` on integer-valued numbers is equality of the integers).  `Proof/IntCtx.lean` proves both for the
context the transformation really emits, `fp.INTEGER = MPFixedContext(-1, RM.RTZ, enable_neg_zero=False)`
(`Lib.integerCtx`), from C02 (the operation is the exact result rounded once), C05 (the value is a homomorphism)
and C01v (a value on the grid is returned unchanged).  Here the headline statements are instantiated: no
number-layer hypothesis is left.
-/
import Fpy.Props.C08
import Fpy.Proof.IntCtx
namespace Fpy.Props.C08
open Fpy Fpy.Lang Fpy.Xform

/-- **`fp.INTEGER` is exact on integers**: for every representation of integers `a`, `b` that the interpreter reads
as an integer (`Float` in any encoding, either zero, integer-valued `Fraction`), `x + y`, `x − y` under `fp.INTEGER`
read as `a + b`, `a − b`, and for naturals with `0 < b`, `fmod(x, y)` reads as `a mod b`. -/
theorem intArith_INTEGER : IntArith Lib.integerCtx := Xform.intArith_INTEGER

/-- **`==` on integer-valued numbers is integer equality** (whatever the representations; `−0 == 0`). -/
theorem intEq : IntEq where
  eq := by
    intro x y a b μ n hx hy
    rw [valEq]
    show (Except.ok (Lang.nvCompare x y == some .eq) : M Bool) = .ok (decide (a = b))
    rw [nvCompare_int x y a b hx hy]

/-- PEEL strategy, length not statically known, control code under `fp.INTEGER`: no number-layer hypothesis. -/
theorem for_unroll_peel_sound_INTEGER {Φ : Funs} {C : Ctx} {S : List String}
    {p : Pat} {it : Expr} {body rest : List Stmt} {t n m idx ridx : String} {offs : List String} {lits : List NV}
    {z0 zk z1 : NV} {k : Nat}
    (hk : offs.length + 1 = k) (hlits : offs.length = lits.length)
    (hl : ∀ j (h : j < lits.length), nvInt? lits[j] = some ((1 + j : Nat) : Int))
    (hz0 : nvInt? z0 = some 0) (hzk : nvInt? zk = some (k : Int)) (hz1 : nvInt? z1 = some 1)
    (hnd : (t :: n :: m :: ridx :: idx :: offs).Nodup)
    (hfresh : ∀ z ∈ t :: n :: m :: ridx :: idx :: offs, z ∉ S ∧ z ∉ bvP p ++ bvB body)
    (hbody : ∀ z ∈ readsB body, z ∈ S) (hrest : ∀ z ∈ readsB rest, z ∈ S)
    {σ : Env} {μ : Heap} (hwfh : WFH μ) (hwfe : WFE σ μ) :
    FinRel S (evalBω Φ σ μ C (.for p it body :: rest))
      (evalBω Φ σ μ C (forUnrollPeel Lib.integerCtx p it body t n m idx ridx offs lits z0 zk z1 ++ rest)) :=
  for_unroll_peel_sound Xform.intArith_INTEGER hk hlits hl hz0 hzk hz1 hnd hfresh hbody hrest hwfh hwfe

/-- STRICT strategy, length not statically known, `assert fmod(n, k) == 0` under `fp.INTEGER`. -/
theorem for_unroll_strict_sound_INTEGER {Φ : Funs} {C : Ctx} {S : List String}
    {p : Pat} {it : Expr} {body rest : List Stmt} {t n idx : String} {offs : List String} {lits : List NV}
    {z0 zk : NV} {k : Nat}
    (hk : offs.length + 1 = k) (hlits : offs.length = lits.length)
    (hl : ∀ j (h : j < lits.length), nvInt? lits[j] = some ((1 + j : Nat) : Int))
    (hz0 : nvInt? z0 = some 0) (hzk : nvInt? zk = some (k : Int))
    (hnd : (t :: n :: idx :: offs).Nodup)
    (hfresh : ∀ z ∈ t :: n :: idx :: offs, z ∉ S ∧ z ∉ bvP p ++ bvB body)
    (hbody : ∀ z ∈ readsB body, z ∈ S) (hrest : ∀ z ∈ readsB rest, z ∈ S)
    {σ : Env} {μ : Heap} (hwfh : WFH μ) (hwfe : WFE σ μ)
    (hdiv : ∀ r l μ0, evalEω Φ σ μ C it = .ok (.list r, μ0) → μ0[r]? = some l → l.length % k = 0) :
    FinRel S (evalBω Φ σ μ C (.for p it body :: rest))
      (evalBω Φ σ μ C (forUnrollStrict Lib.integerCtx p it body t n idx offs lits z0 zk ++ rest)) :=
  for_unroll_strict_sound Xform.intArith_INTEGER intEq hk hlits hl hz0 hzk hnd hfresh hbody hrest hwfh hwfe hdiv

/-- statically known length `k·q + zps.length`, control code under `fp.INTEGER`. -/
theorem for_unroll_static_sound_INTEGER {Φ : Funs} {C : Ctx} {S : List String}
    {p : Pat} {it : Expr} {body rest : List Stmt} {t idx : String} {offs : List String} {lits : List NV}
    {z0 zm zk : NV} {zps : List NV} {k q : Nat} {withMain : Bool}
    (hk : offs.length + 1 = k) (hlits : offs.length = lits.length)
    (hl : ∀ j (h : j < lits.length), nvInt? lits[j] = some ((1 + j : Nat) : Int))
    (hz0 : nvInt? z0 = some 0) (hzk : nvInt? zk = some (k : Int)) (hzm : nvInt? zm = some ((k * q : Nat) : Int))
    (hzps : ∀ j (h : j < zps.length), nvInt? zps[j] = some ((k * q + j : Nat) : Int))
    (hmain : withMain = false → q = 0)
    (hnd : (t :: idx :: offs).Nodup)
    (hfresh : ∀ z ∈ t :: idx :: offs, z ∉ S ∧ z ∉ bvP p ++ bvB body)
    (hbody : ∀ z ∈ readsB body, z ∈ S) (hrest : ∀ z ∈ readsB rest, z ∈ S)
    {σ : Env} {μ : Heap} (hwfh : WFH μ) (hwfe : WFE σ μ)
    (hsize : ∀ v μ0, evalEω Φ σ μ C it = .ok (v, μ0) → ∃ r l, v = .list r ∧ μ0[r]? = some l ∧ l.length = k * q + zps.length) :
    FinRel S (evalBω Φ σ μ C (.for p it body :: rest))
      (evalBω Φ σ μ C (forUnrollStatic Lib.integerCtx p it body t idx offs lits z0 zm zk zps withMain ++ rest)) :=
  for_unroll_static_sound Xform.intArith_INTEGER hk hlits hl hz0 hzk hzm hzps hmain hnd hfresh hbody hrest hwfh hwfe hsize

/-! non-vacuity: the corners the interfaces quantify over, evaluated (redundant encodings, `Fraction` operands, `−0`) -/

example : (opEval Lib.integerCtx .add [cvtReal (.fv (.fin ⟨false, -2, 28⟩)), cvtReal (.q (-9) 1)]).toOption.map nvInt? = some (some (-2)) := by decide +kernel
example : (opEval Lib.integerCtx .fmod [cvtReal (.fv (.fin ⟨true, 5, 0⟩)), cvtReal (.fv (.fin ⟨false, 0, 3⟩))]).toOption.map nvInt? = some (some 0) := by decide +kernel
example : (opEval Lib.integerCtx .fmod [cvtReal (.fv (.fin ⟨false, -2, 28⟩)), cvtReal (.fv (.fin ⟨false, 0, 3⟩))]).toOption.map nvInt? = some (some 1) := by decide +kernel
example : nvInt? (.fv (.fin ⟨true, 5, 0⟩)) = some 0 ∧ nvInt? (.fv (.fin ⟨false, -2, 28⟩)) = some 7 ∧ nvInt? (.q 7 1) = some 7 := by decide
example : (Lang.nvCompare (.fv (.fin ⟨true, 5, 0⟩)) (.q 0 1) == some .eq) = true := by decide
example : (Lang.nvCompare (.fv (.fin ⟨false, -2, 28⟩)) (.q 7 1) == some .eq) = true := by decide
example : (Lang.nvCompare (.fv (.fin ⟨false, -2, 28⟩)) (.fv (.fin ⟨false, 3, 1⟩)) == some .eq) = false := by decide
example : valEq [] 1 (.num (.fv (.fin ⟨true, 5, 0⟩))) (.num (.q 0 1)) = .ok true :=
  intEq.eq _ _ 0 0 [] 0 (by decide) (by decide)

end Fpy.Props.C08
