/-
C13 — Static analysis facts hold on every execution.  Proved here: the pure transfer functions of the
value-class analysis, and the union-find the other analyses unify with.  Not proved: the fixpoint drivers of the
analyses are not modelled, and there is no Lean model of reaching definitions, type shapes, sizes or aliasing.

Value classes (`fpy2/analysis/value_class.py`): a flag `a : VC` denotes the set `γ a` of values
whose class (`classOf`: NaN, infinite, zero, finite non-zero) is one of its atoms.  The transfer
functions proved sound for the operation they abstract on the number model are those of
`Float.__add__`, `Float.__mul__`, `__neg__`, `__abs__`, `ops.logb`, Min/Max selection, `Sum` and the
rounding of EVERY context family through `Ctx.roundAtCore`; the table `_POW_POS_BASE` of `pow` is modelled
(`powPosBaseTable`) and has no theorem.  The branch refinements of `_implied` / `_implied_compare` proved
to follow from the tested condition are `isnan`, `isinf`, `isfinite`, comparisons between non-literals and
comparisons against a dyadic literal; `isnormal` is modelled (`impliedPred .isnormal`) and has no theorem.

Union-find (`fpy2/utils/unionfind.py`, the basis of TypeInfer unification, ArraySizeInfer size
variables, ReachingDefs phi unification and Alias region merging): see the second half.

The facts the real analyses report (type shapes, static sizes, constants, reaching definitions, aliasing) are
compared with traced executions by `harness/c13.py`: runtime monitoring, not proof.

Where the hypotheses are defined: `γ`, `γNV`, `IsSelection` in `Model/VClass`; `WFq`, `fvIsFinite` in
`Proof/VClassOps`; `WF`, `RootOf`, `Same`, `specRun`, `specSame` in `Proof/UnionFind`.
-/
import Fpy.Proof.VClassRound
import Fpy.Proof.VClassOps
import Fpy.Proof.UnionFind
namespace Fpy.Props.C13
open Fpy Fpy.C13 Fpy.C13.VC

/-- `_exact_add` is sound for `Float.__add__` (all specials by the IEEE rules the class implements:
`inf + -inf = nan`, NaN absorbs, zeros keep being zeros). -/
theorem vclass_add_sound (a b : VC) (x y : FV) (hx : γ a x) (hy : γ b y) : γ (exactAdd a b) (FV.add x y) :=
  exactAdd_has hx hy (fv_add_class x y)

/-- … and for subtraction, which the analysis sends through the same table. -/
theorem vclass_sub_sound (a b : VC) (x y : FV) (hx : γ a x) (hy : γ b y) : γ (exactAdd a b) (FV.sub x y) := by
  have hy' : γ b y.neg := by unfold γ; rw [classOf_neg]; exact hy
  exact vclass_add_sound a b x y.neg hx hy'

/-- `_exact_mul` is sound for `Float.__mul__` (`0 * inf = nan`). -/
theorem vclass_mul_sound (a b : VC) (x y : FV) (hx : γ a x) (hy : γ b y) : γ (exactMul a b) (FV.mul x y) :=
  exactMul_has hx hy (fv_mul_class x y)

/-- The same three rules for the exact `RealEngine` — what the interpreter runs under `fp.REAL`, the only
context where `_rounded` lets the exact class stand — on interpreter values: Floats AND Fractions
(`WFq`: a Fraction operand is non-zero with a positive denominator, as every non-dyadic Fraction is). -/
theorem vclass_real_add_sound (a b : VC) (x y : NV) (wx : WFq x) (wy : WFq y) (hx : γNV a x) (hy : γNV b y) :
    γNV (exactAdd a b) (realAdd x y) :=
  exactAdd_has hx hy (nv_add_class x y wx wy)

theorem vclass_real_sub_sound (a b : VC) (x y : NV) (wx : WFq x) (wy : WFq y) (hx : γNV a x) (hy : γNV b y) :
    γNV (exactAdd a b) (realAdd x (realNeg y)) := by
  have wy' : WFq (realNeg y) := by
    cases y with
    | fv v => trivial
    | q n d => exact ⟨by simpa [realNeg] using wy.1, wy.2⟩
  have hy' : γNV b (realNeg y) := by unfold γNV; rw [nv_neg_class]; exact hy
  exact vclass_real_add_sound a b x (realNeg y) wx wy' hx hy'

theorem vclass_real_mul_sound (a b : VC) (x y : NV) (wx : WFq x) (wy : WFq y) (hx : γNV a x) (hy : γNV b y) :
    γNV (exactMul a b) (realMul x y) :=
  exactMul_has hx hy (nv_mul_class x y wx wy)

theorem vclass_real_neg_sound (a : VC) (x : NV) (hx : γNV a x) : γNV a (realNeg x) := by
  unfold γNV; rw [nv_neg_class]; exact hx

/-- `Neg` / `Abs` keep the operand's class (`_rounded(e, a)` with the exact class `a`). -/
theorem vclass_neg_sound (a : VC) (x : FV) (hx : γ a x) : γ a x.neg := by
  unfold γ; rw [classOf_neg]; exact hx

theorem vclass_abs_sound (a : VC) (x : FV) (hx : γ a x) : γ a x.abs := by
  unfold γ; rw [classOf_abs]; exact hx

/-- `_map(_LOGB, a)` is sound for `ops.logb` before its final rounding. -/
theorem vclass_logb_sound (a : VC) (x : FV) (hx : γ a x) : γ (mapTable logbTable a) (logbFV x) :=
  mapTable_has logbTable a _ _ hx (logb_atoms x)

/-- `Min` / `Max`: whichever operand the selection returns, its class is in the join
(`pairs` = each operand's abstract class with its run-time value). -/
theorem vclass_minmax_sound (pairs : List (VC × NV)) (h : ∀ p ∈ pairs, γNV p.1 p.2)
    (p : VC × NV) (hp : p ∈ pairs) : γNV (minMax (pairs.map Prod.fst)) p.2 :=
  minMax_foldl_mem _ _ p.1 _ (List.mem_map.mpr ⟨p, hp, rfl⟩) (h p hp)

/-- with a selection function (what `_unchecked_min` / `_unchecked_max` are: the result IS one operand) -/
theorem vclass_minmax_selection_sound (sel : List NV → NV) (hsel : IsSelection sel) (pairs : List (VC × NV))
    (h : ∀ p ∈ pairs, γNV p.1 p.2) (hne : pairs ≠ []) :
    γNV (minMax (pairs.map Prod.fst)) (sel (pairs.map Prod.snd)) := by
  have hmem := hsel (pairs.map Prod.snd) (by simpa using hne)
  obtain ⟨p, hp, hpe⟩ := List.mem_map.mp hmem
  rw [← hpe]
  exact vclass_minmax_sound pairs h p hp

/-- **Rounding transfer, every family** (`real`, `MPFloat`, `MPSFloat`, `MPBFloat`, `EFloat`/`IEEE`,
`MPFixed`, `MPBFixed`/`Fixed`/`SMFixed`, `ExpContext`), every operand incl. NaN/±Inf, every rounding position,
`exact` flag and stochastic draw: if the context returns a value, its class is one of
`representable_classes(ctx)` — overflow to an infinity, substitution of `inf_value`/`nan_value`,
EFloat's NaN/Inf/maxval fix-up are all accounted for by the three probes. -/
theorem vclass_round_sound (C : Ctx) (v : FV) (n : Option Int) (exact : Bool) (r : Nat) (res : Res)
    (h : C.roundAtCore v n exact r = .ok res) : γ (representableClasses C) res.v :=
  accounted_sound (round_accounted C v n exact r res h)

/-- the same through `Context.round` on a `Float` operand -/
theorem vclass_ctx_round_sound (C : Ctx) (v : FV) (exact : Bool) (r : Nat) (res : Res)
    (h : C.round (.flt v) exact r = .ok res) : γ (representableClasses C) res.v :=
  vclass_round_sound C v none exact r res h

/-- `_rounded(e, exact)`: under `REAL` the exact class stands (rounding is the identity), under any
other concrete context the result is one of the representable classes, with no scope it is top: the
analysis then knows nothing of the context that rounds, which is why `D` is arbitrary when `C = none`. -/
theorem vclass_rounded_sound (C : Option Ctx) (cls : VC) (v : FV) (hv : γ cls v)
    (D : Ctx) (hD : C = none ∨ C = some D) (exact : Bool) (r : Nat) (res : Res)
    (h : D.roundAtCore v none exact r = .ok res) : γ (rounded C cls) res.v := by
  rcases hD with rfl | rfl
  · exact has_top _
  · cases D with
    | real => cases h; exact hv
    | _ => exact vclass_round_sound _ v none exact r res h

/-- `sum(xs)`: the `Sum()` rule answers the top class, and the conclusion is membership in top, which holds
of any value: `_h`, the folding function `addC` and the list play no part.  That the default rule
`_rounded(e, TOP)` would not do is the next theorem. -/
theorem vclass_sum_sound (C : Option Ctx) (a : VC) (addC : FV → FV → Except Err FV) (xs : List FV) (r : FV)
    (_h : evalSum addC xs = .ok r) : γ (sumRule C a) r := has_top _

/-- … and the default rule `_rounded(e, TOP)` is unsound for it: `_eval_sum` returns the single element of a
one-element list without rounding it, so under `MPFixedContext(-3, RM.RTN)` (no NaN, no infinity:
`representable_classes` is ZERO | FINITE) the sum of `[+inf]` is `+inf`.  This is the witness of the
repaired finding C13-F4, where `Sum` went through the default rule `_rounded(e, TOP)`. -/
theorem vclass_sum_not_representable (addC : FV → FV → Except Err FV) :
    let C : Ctx := .mpfix (-3) .rtn none true { enableNan := false, enableInf := false }
    evalSum addC [.inf false] = .ok (.inf false) ∧
    rounded (some C) top = (ZERO ||| FINITE) ∧
    (rounded (some C) top).has (classOf (.inf false)) = false := by
  refine ⟨rfl, ?_, ?_⟩ <;> decide

/-- `isnan(x)`, `isinf(x)`, `isfinite(x)` evaluating to `truth` imply the mask `_implied` intersects in. -/
theorem vclass_refine_isnan_sound (v : FV) (truth : Bool) (h : v.isNan = truth) (m : VC)
    (hm : impliedPred .isnan truth = some m) : γ m v :=
  implied_of_mask rfl ((isNan_eq_has v).symm.trans h) hm

theorem vclass_refine_isinf_sound (v : FV) (truth : Bool) (h : v.isInf = truth) (m : VC)
    (hm : impliedPred .isinf truth = some m) : γ m v :=
  implied_of_mask rfl ((isInf_eq_has v).symm.trans h) hm

theorem vclass_refine_isfinite_sound (v : FV) (truth : Bool) (h : fvIsFinite v = truth) (m : VC)
    (hm : impliedPred .isfinite truth = some m) : γ m v :=
  implied_of_mask rfl ((fvIsFinite_eq_has v).symm.trans h) hm

/-- A link `x op y` of a comparison that HOLDS, neither side a literal: both operands get the mask
`INF | ZERO | FINITE` unless the operator is `!=` (which gets none).  Values are interpreter values
(Floats or Fractions), compared as the interpreter compares them. -/
theorem vclass_refine_cmp_true_sound (op : CmpOp) (x y : NV) (h : cmpHolds op x y = true) (m : VC)
    (hm : impliedLinkTrue op .notLit = some m) : γNV m x ∧ γNV m y := by
  have hop : op ≠ .ne := by intro e; subst e; cases hm
  have hm' : (INF ||| ZERO) ||| FINITE = m := by cases op <;> first | exact Option.some.inj hm | cases hm
  subst hm'
  exact cmp_true_not_nan op x y hop h

/-- A link that HOLDS against a literal `l` (a finite constant; here a dyadic one, i.e. a `Float`
operand — the gap: a non-dyadic `Fraction` literal such as `0.1`, compared by cross-multiplication,
is not covered by this theorem): `x == 0` pins ZERO, `x == l` (l ≠ 0) pins FINITE, `x != 0` removes
ZERO, an ordering removes NaN.  `_both` applies it with the literal on either side. -/
theorem vclass_refine_cmp_lit_true_partial (op : CmpOp) (x : FV) (l : RF)
    (h : cmpHolds op (.fv x) (.fv (.fin l)) = true ∨ cmpHolds op (.fv (.fin l)) (.fv x) = true) (m : VC)
    (hm : impliedLinkTrue op (litOf (.fv (.fin l))) = some m) : γ m x := by
  have hlit : litOf (.fv (.fin l)) = if l.c = 0 then Lit.zero else Lit.nonzero := by
    simp [litOf, nvIsZero, FV.isZero]
  rw [hlit] at hm
  cases op with
  | eq =>
    have hc : classOf x = classOf (.fin l) := h.elim cmpHolds_eq_class fun h => (cmpHolds_eq_class h).symm
    unfold γ; rw [hc]
    by_cases hl : l.c = 0
    · rw [if_pos hl] at hm; cases hm; rw [classOf_fin_zero hl]; rfl
    · rw [if_neg hl] at hm; cases hm; rw [classOf_fin_nz hl]; rfl
  | ne =>
    by_cases hl : l.c = 0
    · rw [if_pos hl] at hm; cases hm
      unfold γ
      cases x with
      | nan s => rfl
      | inf s => rfl
      | fin r =>
        by_cases hr : r.c = 0
        · -- two zeros compare equal, whichever side the literal is on
          rw [cmpHolds_ne, cmpHolds_ne, cmpHolds_eq_zero hr hl, cmpHolds_eq_zero hl hr] at h
          rcases h with h | h <;> cases h
        · rw [classOf_fin_nz hr]; rfl
    · rw [if_neg hl] at hm; cases hm
  | lt | le | ge | gt =>
    cases Option.some.inj hm
    rcases h with h | h
    · exact (cmp_true_not_nan _ (.fv x) _ (by decide) h).1
    · exact (cmp_true_not_nan _ _ (.fv x) (by decide) h).2

/-- A single comparison that FAILS: `not (x != l)` is `x == l`; a failed `x == 0` removes ZERO and
nothing else (a NaN takes that arm too); a failed ordering says nothing.  Same literal gap as above. -/
theorem vclass_refine_cmp_lit_false_partial (op : CmpOp) (x : FV) (l : RF)
    (h : cmpHolds op (.fv x) (.fv (.fin l)) = false ∨ cmpHolds op (.fv (.fin l)) (.fv x) = false) (m : VC)
    (hm : impliedLinkFalse op (litOf (.fv (.fin l))) = some m) : γ m x := by
  cases op with
  | ne =>
    exact vclass_refine_cmp_lit_true_partial .eq x l
      (by simpa only [cmpHolds_ne, Bool.not_eq_false'] using h) m hm
  | eq =>
    exact vclass_refine_cmp_lit_true_partial .ne x l
      (by simpa only [cmpHolds_ne, Bool.not_eq_true'] using h) m hm
  | lt | le | ge | gt => cases hm

/-- `_refined`: intersecting a sound mask with an implied class stays sound. -/
theorem vclass_refine_meet_sound (mask : VC) (cls : Option VC) (v : FV) (hmask : γ mask v)
    (hcls : ∀ c, cls = some c → γ c v) : γ (refine mask cls) v := by
  cases cls with
  | none => exact hmask
  | some c =>
    unfold γ refine
    rw [has_meet, hmask, hcls c rfl]; rfl

/-- joins at phi nodes (`lhs | rhs`) over-approximate both arms -/
theorem vclass_join_sound (a b : VC) (v : FV) (h : γ a v ∨ γ b v) : γ (a ||| b) v := by
  rcases h with h | h
  · exact has_join_left h
  · exact has_join_right h

example : γ (exactAdd INF INF) (FV.add (.inf false) (.inf true)) :=
  vclass_add_sound INF INF _ _ rfl rfl
example : exactAdd INF INF = (NAN ||| INF) := by decide
example : exactMul (ZERO ||| FINITE) INF = (NAN ||| INF) := by decide
example : classOf (FV.mul (.fin ⟨false, 0, 0⟩) (.inf true)) = .nan := by decide
example : impliedLinkTrue .eq .zero = some ZERO := rfl
example : mapTable logbTable (ZERO ||| FINITE) = ((INF ||| ZERO) ||| FINITE) := by decide

/-! ## Union-find (`fpy2/utils/unionfind.py`)

`UF` models the object's two dictionaries; `find` is the path-halving loop as written (fuel computed
from the state and proved sufficient), `union` links the root of the second argument under the root
of the first.  `RootOf u x r`: `r` is the representative of `x` (reachable along parent pointers, and
a root); `Same u a b`: same representative; `WF`: the object invariant (no duplicate keys, parents
stay inside the key set, no cycles, `_sets` = the roots with exactly their classes). -/

/-- every reachable object state is well formed: any sequence of `add`/`find`/`get`/`union`/`component`
calls on a fresh `Unionfind()` (raising calls change nothing) -/
theorem uf_run_wf (ops : List C13.Op) : WF (UF.run UF.empty ops) := wf_run wf_empty ops

/-- `Unionfind(xs)` is well formed and starts from the discrete partition -/
theorem uf_ofList (xs : List Nat) :
    WF (UF.ofList xs) ∧ (∀ y, y ∈ (UF.ofList xs).dom ↔ y ∈ xs) ∧ (∀ y z, Same (UF.ofList xs) y z ↔ y = z) :=
  ⟨wf_ofList xs, mem_dedup xs, same_id⟩

/-- in a well-formed state every element has exactly one representative (`hx` is not used: an absent
`x` is its own representative, the model's `parent` being the identity outside `dom`; it is there so that
the statement speaks of elements only) -/
theorem uf_root_exists_unique {u : UF} (h : WF u) {x : Nat} (hx : x ∈ u.dom) :
    ∃ r, RootOf u x r ∧ ∀ s, RootOf u x s → s = r := by
  obtain ⟨r, hr⟩ := rootOf_exists h x
  exact ⟨r, hr, fun s hs => rootOf_unique hr hs⟩

/-- `find` returns the representative (before and after its own path compression), which is a key;
it raises `KeyError` exactly for absent elements -/
theorem uf_find_root {u u' : UF} {x r : Nat} (h : WF u) (hf : u.find x = some (u', r)) :
    RootOf u x r ∧ RootOf u' x r ∧ r ∈ u.dom ∧ WF u' :=
  let ⟨hx, hw, e, hr⟩ := find_spec h hf
  ⟨hr, (e.rootOf x r).2 hr, rootOf_mem_dom h hx hr, hw⟩

theorem uf_find_keyerror (u : UF) (x : Nat) : u.find x = none ↔ x ∉ u.dom := find_keyerror u x

/-- path halving changes no representative, no key and no `_sets` entry -/
theorem uf_find_preserves {u u' : UF} {x r : Nat} (h : WF u) (hf : u.find x = some (u', r)) :
    (∀ y s, RootOf u' y s ↔ RootOf u y s) ∧ u'.dom = u.dom ∧ u'.sets = u.sets :=
  let ⟨_, _, e, _⟩ := find_spec h hf
  ⟨e.rootOf, e.dom, e.sets⟩

/-- `find` is idempotent: asking again (for the result, or for the same element) gives the same answer -/
theorem uf_find_idempotent {u u' : UF} {x r : Nat} (h : WF u) (hf : u.find x = some (u', r)) :
    (∃ u'', u'.find r = some (u'', r)) ∧ (∃ u'', u'.find x = some (u'', r)) := by
  obtain ⟨hx, h', e, hr⟩ := find_spec h hf
  have hr' : RootOf u' x r := (e.rootOf x r).2 hr
  exact ⟨⟨_, find_of_root h' (e.dom ▸ rootOf_mem_dom h hx hr) ⟨Reach.refl r, hr'.2⟩⟩,
    ⟨_, find_of_root h' (e.dom ▸ hx) hr'⟩⟩

/-- after `union a b` the two elements have the same representative, and it is the OLD representative
of the first argument (the docstring's promise) -/
theorem uf_union_connects {u u' : UF} {a b r : Nat} (h : WF u) (hu : u.union a b = some (u', r)) :
    Same u' a b ∧ RootOf u' a r ∧ RootOf u' b r ∧ RootOf u a r ∧ WF u' := by
  obtain ⟨ry, h1, h2, hw, _, h6⟩ := union_spec h hu
  have ha : RootOf u' a r := (h6 a r).2 ⟨r, h1, by split <;> rfl⟩
  have hb : RootOf u' b r := (h6 b r).2 ⟨ry, h2, by rw [if_pos rfl]⟩
  exact ⟨⟨r, ha, hb⟩, ha, hb, h1, hw⟩

/-- classes not involving `a`, `b` are untouched (`z ∈ u.dom` and `¬ Same u z a` are not used: the
representative renamed is that of `b` alone) -/
theorem uf_union_preserves {u u' : UF} {a b r : Nat} (h : WF u) (hu : u.union a b = some (u', r)) :
    ∀ z, z ∈ u.dom → ¬ Same u z a → ¬ Same u z b → ∀ s, RootOf u' z s ↔ RootOf u z s := by
  obtain ⟨ry, _, h2, _, _, h6⟩ := union_spec h hu
  intro z _ _ hzb s
  rw [h6 z s]
  have hne : ∀ t, RootOf u z t → t ≠ ry := fun t ht e => hzb ⟨ry, e ▸ ht, h2⟩
  constructor
  · rintro ⟨t, ht, e⟩
    rw [if_neg (hne t ht)] at e
    exact e ▸ ht
  · intro hs
    exact ⟨s, hs, by rw [if_neg (hne s hs)]⟩

/-- exact characterisation: the new partition is the old one with the classes of `a` and `b` merged
(`z ∈ u.dom`, `w ∈ u.dom` are not used; they keep the statement to elements) -/
theorem uf_union_merges {u u' : UF} {a b r : Nat} (h : WF u) (hu : u.union a b = some (u', r)) :
    ∀ z w, z ∈ u.dom → w ∈ u.dom →
      (Same u' z w ↔ (Same u z w ∨ ((Same u z a ∨ Same u z b) ∧ (Same u w a ∨ Same u w b)))) :=
  fun z w _ _ => union_merges h hu z w

theorem uf_union_keyerror (u : UF) (a b : Nat) : u.union a b = none ↔ (a ∉ u.dom ∨ b ∉ u.dom) := union_keyerror u a b

/-- `Same` is an equivalence relation on the elements (reflexivity for every `x`; symmetry and
transitivity for the `x y z` bound at the head, i.e. for all of them) -/
theorem uf_same_equiv {u : UF} (h : WF u) {x y z : Nat} :
    (∀ x, x ∈ u.dom → Same u x x) ∧ (Same u x y → Same u y x) ∧ (Same u x y → Same u y z → Same u x z) :=
  ⟨fun x _ => same_refl h x, same_symm, same_trans⟩

/-- **the partition invariant over any operation sequence**: after any sequence of calls the elements are
exactly those added, and two of them have the same representative iff they are related by the smallest
equivalence relation containing the pairs `(a, b)` of the `union a b` calls made when both were present
(`specSame` is defined on the op list alone, independently of the data structure) -/
theorem uf_run_partition (ops : List C13.Op) :
    (UF.run UF.empty ops).dom = (specRun ⟨[], []⟩ ops).elems ∧
    ∀ x y, x ∈ (UF.run UF.empty ops).dom → y ∈ (UF.run UF.empty ops).dom →
      (Same (UF.run UF.empty ops) x y ↔ specSame ops x y) := by
  obtain ⟨hd, hs⟩ := agree_run wf_empty agree_empty ops
  refine ⟨hd, fun x y hx hy => ?_⟩
  unfold specSame
  rw [hs x y]
  exact ⟨fun he => ⟨hd ▸ hx, hd ▸ hy, he⟩, fun he => he.2.2⟩

/-- `component(x)` is exactly the class of `x` -/
theorem uf_component_correct {u u' : UF} {x : Nat} {ms : List Nat} (h : WF u)
    (hc : u.component x = some (u', ms)) : ∀ y, y ∈ ms ↔ (y ∈ u.dom ∧ Same u y x) := by
  obtain ⟨r, hf, hl⟩ := component_eq hc
  obtain ⟨_, _, e, hr⟩ := find_spec h hf
  rw [e.sets] at hl
  intro y
  rw [h.members r ms (lookup_mem hl) y, same_iff_of_root hr]

/-- `representatives()` is exactly the set of roots -/
theorem uf_representatives_correct {u : UF} (h : WF u) :
    ∀ r, r ∈ u.representatives ↔ (r ∈ u.dom ∧ u.parent r = r) := h.keys

/-- `items()` does NOT yield (element, representative) as its docstring says: after
`add 0; add 1; add 2; union 1 2; union 0 1` it yields `(2, 1)` while the representative of 2 is 0
(API-level finding; the only in-tree caller, `ReachingDefs._normalize`, unions singletons only). -/
theorem uf_items_counterexample :
    (2, 1) ∈ (UF.run UF.empty exOps).items ∧ RootOf (UF.run UF.empty exOps) 2 0 ∧ ¬ RootOf (UF.run UF.empty exOps) 2 1 := by
  have h0 : RootOf (UF.run UF.empty exOps) 2 0 :=
    (by decide : ((UF.run UF.empty exOps).findCore 2).2 = 0) ▸ findCore_root (wf_run wf_empty exOps) 2
  refine ⟨by decide, h0, ?_⟩
  intro h1
  exact absurd (rootOf_unique h0 h1) (by decide)

example : ((UF.run UF.empty exOps).find 2).map Prod.snd = some 0 := by decide
example : (UF.run UF.empty [.add 3, .add 5, .add 7, .union 5 7]).representatives = [3, 5] := by decide

end Fpy.Props.C13
