/-
C01 at the VALUE level — Rounding under any context is correct rounding.
Specification: `Fpy/Spec/Rep.lean` (representable sets `OnGrid`, `RepFloat`,
`RepFixed`, `RepFloatSub`, `RepIn`; textbook rounding `roundVal` via `⌊·⌋`/`⌈·⌉`; format membership
`CtxMember`/`CtxSubstitute`/`CtxWF`).  Helper lemmas: `Fpy/Proof/RoundVal*.lean`; the whole-context statements of §3–4
are instances of `round_fin` over the normal form of `Fpy/Proof/CtxCore.lean`.  The integer-level statements
(`Props/C01.lean`) are lifted here to rationals and to whole contexts.

Vocabulary.  `x.val : Rat` is the value of a `RealFloat` record.  `roundVal rm u q` is the correct
rounding of the real `q` to the multiples of `2^u` under mode `rm`: the candidates are
`gridLo u q = ⌊q/2^u⌋·2^u` and `gridHi u q = ⌈q/2^u⌉·2^u`; on the grid the number itself, otherwise
what the mode's name says.  `RepIn p minN` is `RepFloat p` for `minN = none` and `RepFloatSub p nmin` for
`minN = some nmin` (`repIn_none`, `repIn_some`).  `floatN x p minN = max(nmin, e − p)` is the rounding position of the
float shape (`e = x.e` is the binade exponent, `e_is_binade`).
-/
import Fpy.Proof.RoundValCtx
import Fpy.Proof.RoundValRat
namespace Fpy.Props.C01v
open Fpy Fpy.Spec Fpy.C01v

/-! ## 0. The specification is sane (any rational operand, no model involved)

What RTE and RTO choose off the grid, and which way RNE and RNA break a tie, is pinned down only by `spec_bridge`
(agreement with the integer-level `Spec.roundQuot`); the other statements hold whichever neighbour they take.  At the end
of the section the two facts about records that the vocabulary above refers to, `e_is_binade` and `floatN_def`. -/

/-- the two candidates enclose the operand, coincide or are one spacing apart, and the prescribed
value is one of them -/
theorem spec_neighbours (rm : RM) (u : Int) (q : Rat) :
    gridLo u q ≤ q ∧ q ≤ gridHi u q ∧
    (gridHi u q = gridLo u q ∨ gridHi u q = gridLo u q + (2 : Rat) ^ u) ∧
    (roundVal rm u q = gridLo u q ∨ roundVal rm u q = gridHi u q) :=
  roundVal_neighbours rm u q

theorem spec_on_grid (rm : RM) (u : Int) (q : Rat) :
    OnGrid u (roundVal rm u q) ∧ OnGrid u (gridLo u q) ∧ OnGrid u (gridHi u q) :=
  ⟨onGrid_roundVal rm u q, onGrid_gridLo u q, onGrid_gridHi u q⟩

/-- less than one spacing away, in every mode -/
theorem spec_close (rm : RM) (u : Int) (q : Rat) : (roundVal rm u q - q).abs < (2 : Rat) ^ u := by
  obtain ⟨h, hR, -⟩ := roundVal_cell rm u q
  have hG := RF.two_zpow_pos u
  rcases h with ⟨e, hq⟩ | ⟨e, h1, h2⟩
  · -- on the grid both neighbours are the operand
    have : roundVal rm u q = q := hR.elim (fun h => h.trans hq.symm) (fun h => (h.trans e).trans hq.symm)
    rw [this, Rat.sub_self, Rat.abs_zero]; exact hG
  · -- off it the operand is strictly inside a cell one spacing wide
    rcases hR with h | h <;> rw [h]
    · rw [Rat.abs_sub_comm, Rat.abs_of_nonneg ((Rat.le_iff_sub_nonneg _ _).1 (Rat.le_of_lt h1))]; grind
    · rw [Rat.abs_of_nonneg ((Rat.le_iff_sub_nonneg _ _).1 (Rat.le_of_lt h2))]; grind

/-- the operand itself exactly when it is representable -/
theorem spec_exact_iff (rm : RM) (u : Int) (q : Rat) : roundVal rm u q = q ↔ OnGrid u q :=
  roundVal_eq_iff rm u q

/-- nearest modes: within half a spacing, and no grid point is strictly closer -/
theorem spec_nearest (rm : RM) (hrm : rm = .rne ∨ rm = .rna) (u : Int) (q : Rat) :
    2 * (roundVal rm u q - q).abs ≤ (2 : Rat) ^ u ∧
    ∀ g, OnGrid u g → (roundVal rm u q - q).abs ≤ (g - q).abs := by
  refine ⟨?_, fun g hg => roundVal_nearest_best rm hrm u q g hg⟩
  -- no further than either neighbour, and the two distances add up to at most one spacing
  obtain ⟨h1, h2, h3, -⟩ := roundVal_neighbours rm u q
  have b1 := roundVal_nearest_outside rm hrm u q _ (Or.inl Rat.le_refl)
  have b2 := roundVal_nearest_outside rm hrm u q _ (Or.inr Rat.le_refl)
  rw [Rat.abs_sub_comm (x := gridLo u q), Rat.abs_of_nonneg ((Rat.le_iff_sub_nonneg _ _).1 h1)] at b1
  rw [Rat.abs_of_nonneg ((Rat.le_iff_sub_nonneg _ _).1 h2)] at b2
  have hG := RF.two_zpow_pos u
  generalize (roundVal rm u q - q).abs = X at *
  rcases h3 with h3 | h3 <;> grind

/-- directed modes point where their names say -/
theorem spec_directed (u : Int) (q : Rat) :
    roundVal .rtn u q = gridLo u q ∧ roundVal .rtp u q = gridHi u q ∧
    (roundVal .rtz u q).abs ≤ q.abs ∧ q.abs ≤ (roundVal .raz u q).abs :=
  ⟨roundVal_rtn u q, roundVal_rtp u q, roundVal_rtz u q, roundVal_raz u q⟩

/-- **Bridge to the integer-level specification of `Props/C01.lean`.**  For a real of sign `s` and
magnitude `c / 2^k` grid units, the textbook rule picks the multiple `Spec.roundQuot rm s c k`. -/
theorem spec_bridge (rm : RM) (s : Bool) (c k : Nat) (u : Int) :
    roundVal rm u (RF.sgn s * ((c : Rat) / ((2 ^ k : Nat) : Rat)) * (2 : Rat) ^ u)
      = RF.sgn s * ((roundQuot rm s c k : Nat) : Rat) * (2 : Rat) ^ u := by
  rw [roundVal_frac rm s c (2 ^ k) (Nat.pow_pos (by decide)) u, roundQuot_eq_roundDiv]

/-- `x.e` is the binade exponent of a non-zero record -/
theorem e_is_binade (x : RF) (hc : x.c ≠ 0) :
    (2 : Rat) ^ x.e ≤ x.val.abs ∧ x.val.abs < (2 : Rat) ^ (x.e + 1) :=
  ⟨val_abs_ge x hc, val_abs_lt x⟩

theorem floatN_def (x : RF) (p : Nat) :
    floatN x p none = x.e - p ∧ ∀ m, floatN x p (some m) = max m (x.e - p) := ⟨rfl, fun _ => rfl⟩

/-! ## 1. The fixed shape: `RealFloat.round(min_n = n)`, every operand (zero, fast path, slow path) -/

/-- never raises -/
theorem round_fixed_total (x : RF) (n : Int) (rm : RM) : ∃ y fl, x.round none (some n) rm = .ok (y, fl) := by
  obtain ⟨y, fl, h, -⟩ := fixed_round_total x n rm; exact ⟨y, fl, h⟩

/-- **the result is the correct rounding of the value** to the multiples of `2^(n+1)`; sign kept -/
theorem round_fixed_val (x y : RF) (n : Int) (rm : RM) (fl : Flags)
    (h : x.round none (some n) rm = .ok (y, fl)) :
    y.val = roundVal rm (n + 1) x.val ∧ y.s = x.s := by
  obtain ⟨a, -, -, rm', hk, d, -⟩ := fixed_round_any x n rm (some 0) 0 y fl h
  rw [hk rfl] at d; exact ⟨d, a⟩

/-- the result is a member of the format -/
theorem round_fixed_on_grid (x y : RF) (n : Int) (rm : RM) (fl : Flags)
    (h : x.round none (some n) rm = .ok (y, fl)) : RepFixed n y.val := by
  rw [(round_fixed_val x y n rm fl h).1]; exact onGrid_roundVal rm (n + 1) x.val

/-- `lower ≤ x ≤ upper` with `lower`/`upper` the enclosing grid points, and the result is one of them -/
theorem round_fixed_neighbours (x y : RF) (n : Int) (rm : RM) (fl : Flags)
    (h : x.round none (some n) rm = .ok (y, fl)) :
    gridLo (n + 1) x.val ≤ x.val ∧ x.val ≤ gridHi (n + 1) x.val ∧
    (gridHi (n + 1) x.val = gridLo (n + 1) x.val ∨
      gridHi (n + 1) x.val = gridLo (n + 1) x.val + (2 : Rat) ^ (n + 1)) ∧
    (y.val = gridLo (n + 1) x.val ∨ y.val = gridHi (n + 1) x.val) := by
  rw [(round_fixed_val x y n rm fl h).1]; exact roundVal_neighbours rm (n + 1) x.val

theorem round_fixed_close (x y : RF) (n : Int) (rm : RM) (fl : Flags)
    (h : x.round none (some n) rm = .ok (y, fl)) : (y.val - x.val).abs < (2 : Rat) ^ (n + 1) := by
  rw [(round_fixed_val x y n rm fl h).1]; exact spec_close rm (n + 1) x.val

/-- nearest modes: at most half a spacing (`2^n`) away, and no member of the format is strictly closer -/
theorem round_fixed_nearest (x y : RF) (n : Int) (rm : RM) (fl : Flags) (hrm : rm = .rne ∨ rm = .rna)
    (h : x.round none (some n) rm = .ok (y, fl)) :
    (y.val - x.val).abs ≤ (2 : Rat) ^ n ∧ ∀ g, RepFixed n g → (y.val - x.val).abs ≤ (g - x.val).abs := by
  rw [(round_fixed_val x y n rm fl h).1]
  refine ⟨?_, fun g hg => roundVal_nearest_best rm hrm (n + 1) x.val g hg⟩
  have := (spec_nearest rm hrm (n + 1) x.val).1
  rw [two_zpow_succ] at this
  have hG := RF.two_zpow_pos n
  grind

theorem round_fixed_rtz (x y : RF) (n : Int) (fl : Flags) (h : x.round none (some n) .rtz = .ok (y, fl)) :
    y.val.abs ≤ x.val.abs := by
  rw [(round_fixed_val x y n .rtz fl h).1]; exact roundVal_rtz (n + 1) x.val

theorem round_fixed_raz (x y : RF) (n : Int) (fl : Flags) (h : x.round none (some n) .raz = .ok (y, fl)) :
    x.val.abs ≤ y.val.abs := by
  rw [(round_fixed_val x y n .raz fl h).1]; exact roundVal_raz (n + 1) x.val

theorem round_fixed_rtp (x y : RF) (n : Int) (fl : Flags) (h : x.round none (some n) .rtp = .ok (y, fl)) :
    x.val ≤ y.val ∧ y.val = gridHi (n + 1) x.val := by
  rw [(round_fixed_val x y n .rtp fl h).1, roundVal_rtp]
  exact ⟨(roundVal_neighbours .rtp (n + 1) x.val).2.1, rfl⟩

theorem round_fixed_rtn (x y : RF) (n : Int) (fl : Flags) (h : x.round none (some n) .rtn = .ok (y, fl)) :
    y.val ≤ x.val ∧ y.val = gridLo (n + 1) x.val := by
  rw [(round_fixed_val x y n .rtn fl h).1, roundVal_rtn]
  exact ⟨(roundVal_neighbours .rtn (n + 1) x.val).1, rfl⟩

/-- the `inexact` flag is truthful -/
theorem round_fixed_exact_iff (x y : RF) (n : Int) (rm : RM) (fl : Flags)
    (h : x.round none (some n) rm = .ok (y, fl)) :
    (fl.inexact = false ↔ y.val = x.val) ∧ (y.val = x.val ↔ RepFixed n x.val) ∧ fl.overflow = false := by
  obtain ⟨-, -, ho, rm', hk, d, e⟩ := fixed_round_any x n rm (some 0) 0 y fl h
  rw [hk rfl] at d
  exact ⟨inexact_iff_eq d e, by rw [d]; exact roundVal_eq_iff rm (n + 1) x.val, ho⟩

/-- a representable operand is returned unchanged and unflagged -/
theorem round_fixed_unchanged (x y : RF) (n : Int) (rm : RM) (fl : Flags)
    (h : x.round none (some n) rm = .ok (y, fl)) (hx : RepFixed n x.val) :
    y.val = x.val ∧ fl.inexact = false := by
  obtain ⟨a, b, -⟩ := round_fixed_exact_iff x y n rm fl h
  exact ⟨b.2 hx, a.2 (b.2 hx)⟩

/-! ## 2. The float shape: `RealFloat.round(max_p = p, min_n = minN)`, non-zero operand -/

theorem round_float_total (x : RF) (p : Nat) (minN : Option Int) (rm : RM) (hc : x.c ≠ 0) (hp : 1 ≤ p) :
    ∃ y fl, x.round (some p) minN rm = .ok (y, fl) := by
  obtain ⟨y, fl, h, -⟩ := float_val x p minN rm hc hp; exact ⟨y, fl, h⟩

/-- **the result is the correct rounding of the value** to the multiples of `2^(n+1)`,
`n = max(nmin, e − p)`; sign kept -/
theorem round_float_val (x y : RF) (p : Nat) (minN : Option Int) (rm : RM) (fl : Flags) (hc : x.c ≠ 0)
    (hp : 1 ≤ p) (h : x.round (some p) minN rm = .ok (y, fl)) :
    y.val = roundVal rm (floatN x p minN + 1) x.val ∧ y.s = x.s := by
  obtain ⟨a, -, -, -, rm', hk, d, -⟩ := float_round_any x p minN rm (some 0) 0 y fl hc hp h
  rw [hk rfl] at d; exact ⟨d, a⟩

/-- the result is a member of the format: `p` digits, and on the subnormal grid when there is one -/
theorem round_float_rep (x y : RF) (p : Nat) (minN : Option Int) (rm : RM) (fl : Flags) (hc : x.c ≠ 0)
    (hp : 1 ≤ p) (h : x.round (some p) minN rm = .ok (y, fl)) :
    RepFloat p y.val ∧ ∀ nmin, minN = some nmin → RepFloatSub p nmin y.val := by
  obtain ⟨-, b, c, -⟩ := float_round_any x p minN rm (some 0) 0 y fl hc hp h
  refine ⟨repFloat_of_bitLength y p b, ?_⟩
  intro nmin e; subst e
  have := floatN_ge_nmin x p nmin
  exact repFloatSub_of_shape y p nmin b (by omega)

theorem round_float_close (x y : RF) (p : Nat) (minN : Option Int) (rm : RM) (fl : Flags) (hc : x.c ≠ 0)
    (hp : 1 ≤ p) (h : x.round (some p) minN rm = .ok (y, fl)) :
    (y.val - x.val).abs < (2 : Rat) ^ (floatN x p minN + 1) := by
  rw [(round_float_val x y p minN rm fl hc hp h).1]; exact spec_close rm _ x.val

/-- A `p`-digit float of magnitude at least `2^e` has no digit below `e − p + 1`. -/
theorem rep_float_on_grid (p : Nat) (e : Int) (q : Rat) (h : RepFloat p q) (hq : (2 : Rat) ^ e ≤ q.abs) :
    OnGrid (e - p + 1) q :=
  repFloat_onGrid p e q h hq

/-- **Adjacency.**  Inside the binade `|z| ≥ 2^e` no `p`-digit float lies strictly between two
adjacent multiples of `2^(e−p+1)`. -/
theorem no_rep_between (p : Nat) (e : Int) (a : Int) (z : Rat) (hz : RepFloat p z)
    (hmag : (2 : Rat) ^ e ≤ z.abs) :
    ¬ ((a : Rat) * (2 : Rat) ^ (e - p + 1) < z ∧ z < ((a + 1 : Int) : Rat) * (2 : Rat) ^ (e - p + 1)) :=
  no_grid_between _ a z (repFloat_onGrid p e z hz hmag)

/-- **the result is one of the two NEAREST representable neighbours**: the enclosing grid points at the
rounding position are members of the format, no member lies strictly between them, and the result is
one of them (which one: `round_float_val`) -/
theorem round_float_neighbours (x y : RF) (p : Nat) (minN : Option Int) (rm : RM) (fl : Flags) (hc : x.c ≠ 0)
    (hp : 1 ≤ p) (h : x.round (some p) minN rm = .ok (y, fl)) :
    RepIn p minN (gridLo (floatN x p minN + 1) x.val) ∧ RepIn p minN (gridHi (floatN x p minN + 1) x.val) ∧
    gridLo (floatN x p minN + 1) x.val ≤ x.val ∧ x.val ≤ gridHi (floatN x p minN + 1) x.val ∧
    (y.val = gridLo (floatN x p minN + 1) x.val ∨ y.val = gridHi (floatN x p minN + 1) x.val) ∧
    ∀ z, RepIn p minN z →
      ¬ (gridLo (floatN x p minN + 1) x.val < z ∧ z < gridHi (floatN x p minN + 1) x.val) := by
  obtain ⟨a, b, c⟩ := float_neighbours x p minN hc hp
  obtain ⟨d, e, -, f⟩ := roundVal_neighbours rm (floatN x p minN + 1) x.val
  rw [← (round_float_val x y p minN rm fl hc hp h).1] at f
  exact ⟨a, b, d, e, f, c⟩

/-- nearest modes: no member of the format is strictly closer to the operand than the result -/
theorem round_float_nearest (x y : RF) (p : Nat) (minN : Option Int) (rm : RM) (fl : Flags)
    (hrm : rm = .rne ∨ rm = .rna) (hc : x.c ≠ 0) (hp : 1 ≤ p)
    (h : x.round (some p) minN rm = .ok (y, fl)) (z : Rat) (hz : RepIn p minN z) :
    (y.val - x.val).abs ≤ (z - x.val).abs := by
  rw [(round_float_val x y p minN rm fl hc hp h).1]
  -- `z` is a member, so it is not strictly inside the cell
  apply roundVal_nearest_outside rm hrm
  have hb := (float_neighbours x p minN hc hp).2.2 z hz
  by_cases h1 : z ≤ gridLo (floatN x p minN + 1) x.val
  · exact Or.inl h1
  · exact Or.inr (Rat.not_lt.1 fun h2 => hb ⟨Rat.not_le.1 h1, h2⟩)

theorem round_float_directed (x y : RF) (p : Nat) (minN : Option Int) (rm : RM) (fl : Flags) (hc : x.c ≠ 0)
    (hp : 1 ≤ p) (h : x.round (some p) minN rm = .ok (y, fl)) :
    (rm = .rtz → y.val.abs ≤ x.val.abs) ∧ (rm = .raz → x.val.abs ≤ y.val.abs) ∧
    (rm = .rtp → x.val ≤ y.val) ∧ (rm = .rtn → y.val ≤ x.val) := by
  have hv := (round_float_val x y p minN rm fl hc hp h).1
  refine ⟨?_, ?_, ?_, ?_⟩ <;> intro e <;> subst e <;> rw [hv]
  · exact roundVal_rtz _ x.val
  · exact roundVal_raz _ x.val
  · rw [roundVal_rtp]; exact (roundVal_neighbours .rtp _ x.val).2.1
  · rw [roundVal_rtn]; exact (roundVal_neighbours .rtn _ x.val).1

/-- a representable operand is returned unchanged (in value) and unflagged -/
theorem round_float_unchanged (x y : RF) (p : Nat) (minN : Option Int) (rm : RM) (fl : Flags) (hc : x.c ≠ 0)
    (hp : 1 ≤ p) (h : x.round (some p) minN rm = .ok (y, fl)) (hx : RepIn p minN x.val) :
    y.val = x.val ∧ fl.inexact = false := by
  obtain ⟨-, -, -, -, rm', hk, d, e⟩ := float_round_any x p minN rm (some 0) 0 y fl hc hp h
  have hg := repIn_on_grid x p minN x.val hx (fun _ => val_abs_ge x hc)
  exact ⟨by rw [d]; exact (roundVal_eq_iff rm' _ x.val).2 hg, e.2 hg⟩

/-- the `inexact` flag is truthful: clear ⇔ value unchanged ⇔ the operand is a member of the format -/
theorem round_float_exact_iff (x y : RF) (p : Nat) (minN : Option Int) (rm : RM) (fl : Flags) (hc : x.c ≠ 0)
    (hp : 1 ≤ p) (h : x.round (some p) minN rm = .ok (y, fl)) :
    (fl.inexact = false ↔ y.val = x.val) ∧ (y.val = x.val ↔ RepIn p minN x.val) ∧ fl.overflow = false := by
  obtain ⟨-, -, -, ho, rm', hk, d, e⟩ := float_round_any x p minN rm (some 0) 0 y fl hc hp h
  refine ⟨inexact_iff_eq d e, ⟨?_, fun hx => (round_float_unchanged x y p minN rm fl hc hp h hx).1⟩, ho⟩
  intro hv
  obtain ⟨r1, r2⟩ := round_float_rep x y p minN rm fl hc hp h
  rw [hv] at r1 r2
  exact ⟨r1, fun nmin e => (r2 nmin e).2⟩

/-! ## 3. Non-dyadic rational operands (`Fraction`): `mpfr_value` + round-to-odd, then the core -/

/-- `ratE N D` (the exponent search of `truncRat`) is the binade exponent of the rational -/
theorem frac_binade (num : Int) (den : Nat) (hnum : num ≠ 0) (hden : 0 < den) :
    (2 : Rat) ^ ratE num.natAbs den ≤ ((num : Rat) / (den : Rat)).abs ∧
    ((num : Rat) / (den : Rat)).abs < (2 : Rat) ^ (ratE num.natAbs den + 1) := by
  have hpos : (0 : Rat) ≤ (num.natAbs : Rat) / (den : Rat) := by
    rw [Rat.div_def]; exact Rat.mul_nonneg Rat.natCast_nonneg (Rat.le_of_lt (Rat.inv_pos.2 (Rat.natCast_pos.2 hden)))
  have : ((num : Rat) / (den : Rat)).abs = (num.natAbs : Rat) / (den : Rat) := by
    rw [frac_val, ratVal]
    cases decide (num < 0)
    · simp only [RF.sgn, Bool.false_eq_true, if_false, Rat.one_mul]; exact Rat.abs_of_nonneg hpos
    · simp only [RF.sgn, if_true, Rat.neg_mul, Rat.one_mul, Rat.abs_neg]; exact Rat.abs_of_nonneg hpos
  rw [this]; exact ratE_spec num.natAbs den (by omega) hden

theorem ratN_def (N D p : Nat) :
    ratN N D p none = ratE N D - p ∧ ∀ m, ratN N D p (some m) = max m (ratE N D - p) := ⟨rfl, fun _ => rfl⟩

/-- **Round-to-odd re-rounding at the value level.**  The truncation of the real `A/B · 2^exp` with a
sticky last digit rounds, on every grid at least two digits coarser and under every mode, to the
correct rounding of the real itself, and is on that grid exactly when the real is. -/
theorem rto_reround_val (rm : RM) (neg : Bool) (A B : Nat) (hB : 0 < B) (exp u : Int) (hu : exp + 2 ≤ u) :
    roundVal rm u (⟨neg, exp, rtoBit (A / B) (A % B != 0)⟩ : RF).val
      = roundVal rm u (RF.sgn neg * ((A : Rat) / (B : Rat)) * (2 : Rat) ^ exp) ∧
    (OnGrid u (⟨neg, exp, rtoBit (A / B) (A % B != 0)⟩ : RF).val
      ↔ OnGrid u (RF.sgn neg * ((A : Rat) / (B : Rat)) * (2 : Rat) ^ exp)) :=
  rto_roundVal rm neg A B hB exp u hu

/-- **prepare + round, fixed shape**: `mpfr_value(N/D, n = n)` never raises and its rounding at `n` is
the correct rounding of the rational `±N/D` -/
theorem prepare_sound_fixed (neg : Bool) (N D : Nat) (n : Int) (rm : RM) (hN : N ≠ 0) (hD : 0 < D) :
    ∃ xi y fl, mpfrValue neg N D none (some n) = .ok xi ∧ xi.c ≠ 0 ∧ xi.s = neg ∧
      xi.round none (some n) rm = .ok (y, fl) ∧ y.s = neg ∧ y.exp > n ∧
      y.val = roundVal rm (n + 1) (ratVal neg N D) ∧
      (fl.inexact = false ↔ OnGrid (n + 1) (ratVal neg N D)) := by
  have hb2 := truncRat_bits N D 2 hN hD (by omega)
  have main : ∀ prec : Nat, 1 ≤ prec → ratE N D - prec + 1 + 2 ≤ n + 1 →
      ∃ y fl, (rtoRat neg N D prec).c ≠ 0 ∧ (rtoRat neg N D prec).s = neg ∧
        (rtoRat neg N D prec).round none (some n) rm = .ok (y, fl) ∧ y.s = neg ∧ y.exp > n ∧
        y.val = roundVal rm (n + 1) (ratVal neg N D) ∧
        (fl.inexact = false ↔ OnGrid (n + 1) (ratVal neg N D)) := by
    intro prec hp hu
    obtain ⟨s1, s2, -, -⟩ := rtoRat_binade neg N D prec hN hD hp
    obtain ⟨y, fl, hr, a, b, c, d⟩ := fixed_round_total (rtoRat neg N D prec) n rm
    obtain ⟨r1, r2⟩ := rtoRat_roundVal rm neg N D prec hD (n + 1) hu
    exact ⟨y, fl, s1, s2, hr, by rw [a, s2], b, by rw [c, r1], by rw [d, r2]⟩
  unfold mpfrValue
  simp only [truncRat_eq N D 2]
  rw [hb2]
  -- `mpfrValue`'s test `e ≤ n`, where `e = exp2 + bitLength c2 − 1` with `exp2 = ratE N D − 2 + 1` and `bitLength c2 = 2`
  -- (`hb2`): it is `ratE N D ≤ n`
  by_cases he : ratE N D - ((2 : Nat) : Int) + 1 + ((2 : Nat) : Int) - 1 ≤ n
  · rw [if_pos he]
    obtain ⟨y, fl, h⟩ := main 2 (by omega) (by omega)
    exact ⟨_, y, fl, rfl, h⟩
  · rw [if_neg he]
    obtain ⟨y, fl, h⟩ := main ((ratE N D - ((2 : Nat) : Int) + 1 + ((2 : Nat) : Int) - 1 - n).toNat + 2) (by omega) (by omega)
    exact ⟨_, y, fl, rfl, h⟩

/-- **prepare + round, float shape**: `mpfr_value(N/D, prec = p)` (`p + 2` digits, round to odd) rounded to
`p` digits is the correct rounding of the rational at `n = max(nmin, e − p)` -/
theorem prepare_sound_float (neg : Bool) (N D p : Nat) (minN : Option Int) (rm : RM) (hN : N ≠ 0) (hD : 0 < D)
    (hp : 1 ≤ p) :
    mpfrValue neg N D (some p) minN = .ok (rtoRat neg N D (p + 2)) ∧
    (rtoRat neg N D (p + 2)).c ≠ 0 ∧ (rtoRat neg N D (p + 2)).s = neg ∧
    ∃ y fl, (rtoRat neg N D (p + 2)).round (some p) minN rm = .ok (y, fl) ∧
      y.s = neg ∧ bitLength y.c ≤ p ∧ y.exp > ratN N D p minN ∧
      y.val = roundVal rm (ratN N D p minN + 1) (ratVal neg N D) ∧
      (fl.inexact = false ↔ OnGrid (ratN N D p minN + 1) (ratVal neg N D)) := by
  obtain ⟨s1, s2, s3, s4⟩ := rtoRat_binade neg N D (p + 2) hN hD (by omega)
  refine ⟨rfl, s1, s2, ?_⟩
  obtain ⟨y, fl, hr, a, b, c, d, e⟩ := float_val (rtoRat neg N D (p + 2)) p minN rm s1 hp
  have hn : floatN (rtoRat neg N D (p + 2)) p minN = ratN N D p minN := by
    cases minN <;> simp only [floatN, ratN, s4]
  rw [hn] at c d e
  have hge : ratE N D - p ≤ ratN N D p minN := roundPos_ge (ratE N D) p minN
  obtain ⟨r1, r2⟩ := rtoRat_roundVal rm neg N D (p + 2) hD (ratN N D p minN + 1) (by
    have : ((p + 2 : Nat) : Int) = (p : Int) + 2 := by omega
    omega)
  exact ⟨y, fl, hr, by rw [a, s2], b, c, by rw [d, r1], by rw [e, r2]⟩

/-- a fraction in lowest terms with a non-power-of-two denominator is on no binary grid: its rounding
is always inexact -/
theorem frac_never_exact (num : Int) (den : Nat) (hden : 0 < den) (hcop : Nat.gcd num.natAbs den = 1)
    (h2 : isPow2 den = false) (u : Int) : ¬ OnGrid u ((num : Rat) / (den : Rat)) := by
  -- `num/den = ±(A/B)·2^u` with `A`, `B` the scaled pair `truncRat` divides; on the grid means `B ∣ A`
  rw [frac_val, ratVal, ← ratAB_val _ _ hden u, ← Rat.mul_assoc, onGrid_frac_iff _ _ _ (ratB_pos den hden u) u]
  intro h
  have hdvd : ∃ j : Nat, den ∣ num.natAbs * 2 ^ j := by
    have := Nat.dvd_of_mod_eq_zero h
    unfold ratA ratB at this
    split at this
    · exact ⟨0, by rw [Nat.pow_zero, Nat.mul_one]; exact Nat.dvd_trans (Nat.dvd_mul_right _ _) this⟩
    · exact ⟨_, this⟩
  obtain ⟨j, hj⟩ := hdvd
  have hc : Nat.Coprime den num.natAbs := by unfold Nat.Coprime; rw [Nat.gcd_comm]; exact hcop
  obtain ⟨i, hi⟩ := dvd_two_pow j den (hc.dvd_of_dvd_mul_left hj)
  rw [hi, isPow2_two_pow] at h2
  cases h2

/-- `Context.round(Fraction)`, unbounded families, deterministic rounding -/
theorem mp_round_frac (p : Nat) (rm : RM) (o : Opts) (hp : 1 ≤ p) (num : Int) (den : Nat)
    (hnum : num ≠ 0) (hden : 0 < den) (h1 : den ≠ 1) (h2 : isPow2 den = false) :
    ∃ y fl, Ctx.round (.mp p rm (some 0) o) (.frac num den) = .ok ⟨.fin y, fl⟩ ∧
      bitLength y.c ≤ p ∧
      y.val = roundVal rm (ratN num.natAbs den p none + 1) ((num : Rat) / (den : Rat)) ∧
      (fl.inexact = false ↔ OnGrid (ratN num.natAbs den p none + 1) ((num : Rat) / (den : Rat))) := by
  obtain ⟨-, s1, -, y, fl, hr, -, b, -, d, e⟩ :=
    prepare_sound_float (decide (num < 0)) num.natAbs den p none rm (by omega) hden hp
  rw [← frac_val] at d e
  refine ⟨y, fl, ?_, b, d, e⟩
  rw [Ctx.round_frac_float (C := .mp p rm (some 0) o) rfl num den h1 h2]
  simpa only [Ctx.dropsNegZero, RF.dropNegZero_false] using
    (round_fin (C := .mp p rm (some 0) o) rfl hp s1 hr).1 rfl

theorem mps_round_frac (p : Nat) (emin : Int) (rm : RM) (o : Opts) (hp : 1 ≤ p) (num : Int) (den : Nat)
    (hnum : num ≠ 0) (hden : 0 < den) (h1 : den ≠ 1) (h2 : isPow2 den = false) :
    ∃ y fl, Ctx.round (.mps p emin rm (some 0) o) (.frac num den) = .ok ⟨.fin y, fl⟩ ∧
      bitLength y.c ≤ p ∧ y.exp > emin - p ∧
      y.val = roundVal rm (ratN num.natAbs den p (some (emin - p)) + 1) ((num : Rat) / (den : Rat)) ∧
      (fl.inexact = false ↔
        OnGrid (ratN num.natAbs den p (some (emin - p)) + 1) ((num : Rat) / (den : Rat))) := by
  obtain ⟨-, s1, -, y, fl, hr, -, b, c, d, e⟩ :=
    prepare_sound_float (decide (num < 0)) num.natAbs den p (some (emin - p)) rm (by omega) hden hp
  have := ratN_ge_nmin num.natAbs den p (emin - p)
  rw [← frac_val] at d e
  refine ⟨y, fl, ?_, b, by omega, d, e⟩
  rw [Ctx.round_frac_float (C := .mps p emin rm (some 0) o) rfl num den h1 h2]
  simpa only [Ctx.dropsNegZero, RF.dropNegZero_false] using
    (round_fin (C := .mps p emin rm (some 0) o) rfl hp s1 hr).1 rfl

theorem mpfix_round_frac (nmin : Int) (rm : RM) (nz : Bool) (o : Opts) (num : Int) (den : Nat)
    (hnum : num ≠ 0) (hden : 0 < den) (h1 : den ≠ 1) (h2 : isPow2 den = false) :
    ∃ y fl, Ctx.round (.mpfix nmin rm (some 0) nz o) (.frac num den) = .ok ⟨.fin y, fl⟩ ∧
      y.val = roundVal rm (nmin + 1) ((num : Rat) / (den : Rat)) ∧
      (fl.inexact = false ↔ OnGrid (nmin + 1) ((num : Rat) / (den : Rat))) := by
  obtain ⟨xi, y, fl, hm, s1, -, hr, -, -, c, d⟩ :=
    prepare_sound_fixed (decide (num < 0)) num.natAbs den nmin rm (by omega) hden
  rw [← frac_val] at c d
  refine ⟨y.dropNegZero (!nz), fl, ?_, by rw [RF.dropNegZero_val]; exact c, d⟩
  rw [Ctx.round_frac_eq (C := .mpfix nmin rm (some 0) nz o) rfl num den h1 h2, hm]
  exact (round_fin (C := .mpfix nmin rm (some 0) nz o) rfl trivial s1 hr).1 rfl

/-- `Context.round(Fraction)`, bounded families: the unbounded rounding `y` that feeds the range check is
the correct rounding of the rational; in range it is the result; the overflow flag is set exactly when it
is out of range (what is returned then: `Props.C01.mpb_overflow`) -/
theorem mpb_round_frac (c : MPBParams) (hk : c.k = some 0) (hwf : CtxWF (.mpb c)) (num : Int) (den : Nat)
    (hnum : num ≠ 0) (hden : 0 < den) (h1 : den ≠ 1) (h2 : isPow2 den = false) :
    ∃ (y : RF) (fl : Flags), bitLength y.c ≤ c.p ∧ y.exp > c.nmin ∧
      y.val = roundVal c.rm (ratN num.natAbs den c.p (some c.nmin) + 1) ((num : Rat) / (den : Rat)) ∧
      (fl.inexact = false ↔ OnGrid (ratN num.natAbs den c.p (some c.nmin) + 1) ((num : Rat) / (den : Rat))) ∧
      ((c.negMax.val ≤ y.val ∧ y.val ≤ c.posMax.val) →
        Ctx.round (.mpb c) (.frac num den) = .ok ⟨.fin y, fl⟩) ∧
      (∀ res, Ctx.round (.mpb c) (.frac num den) = .ok res →
        (res.fl.overflow = true ↔ (y.val < c.negMax.val ∨ c.posMax.val < y.val))) := by
  obtain ⟨-, s1, -, y, fl, hr, -, b, cc, d, e⟩ :=
    prepare_sound_float (decide (num < 0)) num.natAbs den c.p (some c.nmin) c.rm (by omega) hden hwf.1
  have := ratN_ge_nmin num.natAbs den c.p c.nmin
  obtain ⟨g1, g2⟩ := round_fin_bounded (C := .mpb c) (k := c.k) (r := 0) rfl rfl hwf s1 (by rw [hk]; exact hr)
  rw [Ctx.round_frac_float (C := .mpb c) (by rw [Ctx.core, hk]) num den h1 h2]
  rw [← frac_val] at d e
  refine ⟨y, fl, b, by omega, d, e, fun hin => ?_, g2⟩
  simpa only [Ctx.dropsNegZero, RF.dropNegZero_false] using g1 hin

theorem efloat_round_frac (c : EFloatParams) (hk : c.k = some 0) (hwf : CtxWF (.efloat c)) (num : Int) (den : Nat)
    (hnum : num ≠ 0) (hden : 0 < den) (h1 : den ≠ 1) (h2 : isPow2 den = false) :
    ∃ (y : RF) (fl : Flags), bitLength y.c ≤ c.mpb.p ∧ y.exp > c.mpb.nmin ∧
      y.val = roundVal c.rm (ratN num.natAbs den c.mpb.p (some c.mpb.nmin) + 1) ((num : Rat) / (den : Rat)) ∧
      (fl.inexact = false ↔
        OnGrid (ratN num.natAbs den c.mpb.p (some c.mpb.nmin) + 1) ((num : Rat) / (den : Rat))) ∧
      ((c.mpb.negMax.val ≤ y.val ∧ y.val ≤ c.mpb.posMax.val) →
        ∃ y', y'.val = y.val ∧ Ctx.round (.efloat c) (.frac num den) = .ok ⟨.fin y', fl⟩) ∧
      (∀ res, Ctx.round (.efloat c) (.frac num den) = .ok res →
        (res.fl.overflow = true ↔ (y.val < c.mpb.negMax.val ∨ c.mpb.posMax.val < y.val))) := by
  obtain ⟨-, s1, -, y, fl, hr, -, b, cc, d, e⟩ :=
    prepare_sound_float (decide (num < 0)) num.natAbs den c.mpb.p (some c.mpb.nmin) c.mpb.rm (by omega) hden hwf.1
  have := ratN_ge_nmin num.natAbs den c.mpb.p c.mpb.nmin
  have hk' : c.mpb.k = some 0 := hk
  obtain ⟨g1, g2⟩ := round_fin_bounded (C := .efloat c) (k := c.mpb.k) (r := 0) rfl rfl hwf s1 (by rw [hk']; exact hr)
  rw [Ctx.round_frac_float (C := .efloat c) (by rw [Ctx.core, hk']) num den h1 h2]
  rw [← frac_val] at d e
  exact ⟨y, fl, b, by omega, d, e, fun hin => ⟨_, RF.dropNegZero_val _ _, g1 hin⟩, g2⟩

theorem mpbfix_round_frac (c : MPBFixParams) (hk : c.k = some 0) (hwf : CtxWF (.mpbfix c)) (num : Int) (den : Nat)
    (hnum : num ≠ 0) (hden : 0 < den) (h1 : den ≠ 1) (h2 : isPow2 den = false) :
    ∃ (y : RF) (fl : Flags), y.exp > c.nmin ∧
      y.val = roundVal c.rm (c.nmin + 1) ((num : Rat) / (den : Rat)) ∧
      (fl.inexact = false ↔ OnGrid (c.nmin + 1) ((num : Rat) / (den : Rat))) ∧
      ((c.negMax.val ≤ y.val ∧ y.val ≤ c.posMax.val) →
        ∃ y', y'.val = y.val ∧ Ctx.round (.mpbfix c) (.frac num den) = .ok ⟨.fin y', fl⟩) ∧
      (∀ res, Ctx.round (.mpbfix c) (.frac num den) = .ok res →
        (res.fl.overflow = true ↔ (y.val < c.negMax.val ∨ c.posMax.val < y.val))) := by
  obtain ⟨xi, y, fl, hm, s1, -, hr, -, b, cc, d⟩ :=
    prepare_sound_fixed (decide (num < 0)) num.natAbs den c.nmin c.rm (by omega) hden
  obtain ⟨g1, g2⟩ := round_fin_bounded (C := .mpbfix c) (k := c.k) (r := 0) rfl rfl hwf s1 (by rw [hk]; exact hr)
  rw [Ctx.round_frac_eq (C := .mpbfix c) (by rw [Ctx.core, hk]) num den h1 h2, hm]
  rw [← frac_val] at cc d
  exact ⟨y, fl, b, cc, d, fun hin => ⟨_, RF.dropNegZero_val _ _, g1 hin⟩, g2⟩

/-! ## 4. Whole contexts -/

/-- **Membership.**  Every value returned by `Context.round` on a prepared operand (`_round_at(x, n = None,
exact = False)`) of every family — for every operand (finite, infinite, NaN), every number of random bits and every
draw — is a member of the context's format:
a finite member (`p` digits / on the grid, within `[negMax, posMax]` for the bounded families, `−0`
only where the format has it), `±∞` only if the format has infinities, NaN only if it has NaN; or it
is the configured substitute of a special value the format lacks.  (The exponential family `ExpContext`
is included: its finite members are the powers of two `2^e`, `emin ≤ e ≤ emax`.) -/
theorem round_mem (C : Ctx) (hwf : CtxWF C) (v : FV) (r : Nat) (res : Res)
    (h : C.roundAtCore v none false r = .ok res) : CtxMember C res.v ∨ CtxSubstitute C res.v := by
  cases C with
  | real =>
    simp only [Ctx.roundAtCore, Except.ok.injEq] at h
    left; rw [← h]
    cases v <;> simp [CtxMember, CtxFinMember, hasNegZero, hasInf, hasNan]
  | exp c => exact exp_round_mem c v res h
  | mp p rm k o =>
    rcases v with x | s | s
    · exact fin_round_mem rfl hwf x r res h
    · exact special_mem _ o rfl rfl rfl rfl (.inf s) res (Or.inl (congrArg some h))
    · exact special_mem _ o rfl rfl rfl rfl (.nan s) res (Or.inl (congrArg some h))
  | mps p emin rm k o =>
    rcases v with x | s | s
    · exact fin_round_mem rfl hwf x r res h
    · exact special_mem _ o rfl rfl rfl rfl (.inf s) res (Or.inl (congrArg some h))
    · exact special_mem _ o rfl rfl rfl rfl (.nan s) res (Or.inl (congrArg some h))
  | mpb c =>
    rcases v with x | s | s
    · exact fin_round_mem rfl hwf x r res h
    · exact special_mem _ c.o rfl rfl rfl rfl (.inf s) res (Or.inl (congrArg some h))
    · exact special_mem _ c.o rfl rfl rfl rfl (.nan s) res (Or.inl (congrArg some h))
  | mpfix nmin rm k nz o =>
    rcases v with x | s | s
    · exact fin_round_mem rfl hwf x r res h
    · exact special_mem _ o rfl rfl rfl rfl (.inf s) res (Or.inr (congrArg some h))
    · exact special_mem _ o rfl rfl rfl rfl (.nan s) res (Or.inr (congrArg some h))
  | mpbfix c =>
    rcases v with x | s | s
    · exact fin_round_mem rfl hwf x r res h
    · exact special_mem _ c.o rfl rfl rfl rfl (.inf s) res (Or.inr (congrArg some h))
    · exact special_mem _ c.o rfl rfl rfl rfl (.nan s) res (Or.inr (congrArg some h))
  | efloat c =>
    rcases v with x | s | s
    · exact fin_round_mem rfl hwf x r res h
    · exact efloatFixup_mem c hwf ⟨.inf s, {}⟩ rfl res h
    · exact efloatFixup_mem c hwf ⟨.nan false, {}⟩ rfl res h

/-- no substitutes configured: every result IS a member (any family, any operand) -/
theorem round_mem_no_substitutes (C : Ctx) (hwf : CtxWF C) (v : FV) (r : Nat) (res : Res)
    (hi : infSub C = none) (hn : nanSub C = none)
    (h : C.roundAtCore v none false r = .ok res) : CtxMember C res.v := by
  rcases round_mem C hwf v r res h with h' | h'
  · exact h'
  · exfalso
    rcases h' with ⟨-, w, hw, -⟩ | ⟨-, w, hw, -⟩
    · rw [hi] at hw; cases hw
    · rw [hn] at hw; cases hw

/-- **Correct rounding at context level** (deterministic rounding, finite non-zero dyadic operand),
unbounded families -/
theorem mp_round_val (p : Nat) (rm : RM) (o : Opts) (hp : 1 ≤ p) (x : RF) (hx : x.c ≠ 0) :
    ∃ (y : RF) (fl : Flags), (Ctx.mp p rm (some 0) o).roundAtCore (.fin x) none false 0 = .ok ⟨.fin y, fl⟩ ∧
      bitLength y.c ≤ p ∧ y.val = roundVal rm (floatN x p none + 1) x.val ∧
      (fl.inexact = false ↔ y.val = x.val) := by
  obtain ⟨y, fl, hr, -, b, -, d, e⟩ := float_val x p none rm hx hp
  refine ⟨y, fl, ?_, b, d, inexact_iff_eq d e⟩
  simpa only [Ctx.dropsNegZero, RF.dropNegZero_false] using
    (round_fin (C := .mp p rm (some 0) o) rfl hp hx hr).1 rfl

theorem mps_round_val (p : Nat) (emin : Int) (rm : RM) (o : Opts) (hp : 1 ≤ p) (x : RF) (hx : x.c ≠ 0) :
    ∃ (y : RF) (fl : Flags), (Ctx.mps p emin rm (some 0) o).roundAtCore (.fin x) none false 0 = .ok ⟨.fin y, fl⟩ ∧
      bitLength y.c ≤ p ∧ y.exp > emin - p ∧
      y.val = roundVal rm (floatN x p (some (emin - p)) + 1) x.val ∧
      (fl.inexact = false ↔ y.val = x.val) := by
  obtain ⟨y, fl, hr, -, b, c, d, e⟩ := float_val x p (some (emin - p)) rm hx hp
  have := floatN_ge_nmin x p (emin - p)
  refine ⟨y, fl, ?_, b, by omega, d, inexact_iff_eq d e⟩
  simpa only [Ctx.dropsNegZero, RF.dropNegZero_false] using
    (round_fin (C := .mps p emin rm (some 0) o) rfl hp hx hr).1 rfl

theorem mpfix_round_val (nmin : Int) (rm : RM) (nz : Bool) (o : Opts) (x : RF) (hx : x.c ≠ 0) :
    ∃ (y : RF) (fl : Flags), (Ctx.mpfix nmin rm (some 0) nz o).roundAtCore (.fin x) none false 0 = .ok ⟨.fin y, fl⟩ ∧
      y.val = roundVal rm (nmin + 1) x.val ∧ (fl.inexact = false ↔ y.val = x.val) := by
  obtain ⟨y, fl, hr, -, -, c, d⟩ := fixed_round_total x nmin rm
  exact ⟨y.dropNegZero (!nz), fl, (round_fin (C := .mpfix nmin rm (some 0) nz o) rfl trivial hx hr).1 rfl,
    by rw [RF.dropNegZero_val]; exact c, by rw [RF.dropNegZero_val]; exact inexact_iff_eq c d⟩

/-- … bounded families: the unbounded rounding `y` is the correct rounding; it is the result when in
range; the overflow flag is set exactly when it is not -/
theorem mpb_round_val (c : MPBParams) (hk : c.k = some 0) (hwf : CtxWF (.mpb c)) (x : RF) (hx : x.c ≠ 0) :
    ∃ (y : RF) (fl : Flags), bitLength y.c ≤ c.p ∧ y.exp > c.nmin ∧
      y.val = roundVal c.rm (floatN x c.p (some c.nmin) + 1) x.val ∧
      (fl.inexact = false ↔ y.val = x.val) ∧
      ((c.negMax.val ≤ y.val ∧ y.val ≤ c.posMax.val) →
        (Ctx.mpb c).roundAtCore (.fin x) none false 0 = .ok ⟨.fin y, fl⟩) ∧
      (∀ res, (Ctx.mpb c).roundAtCore (.fin x) none false 0 = .ok res →
        (res.fl.overflow = true ↔ (y.val < c.negMax.val ∨ c.posMax.val < y.val))) := by
  obtain ⟨y, fl, hr, -, b, cc, d, e⟩ := float_val x c.p (some c.nmin) c.rm hx hwf.1
  have := floatN_ge_nmin x c.p c.nmin
  obtain ⟨g1, g2⟩ := round_fin_bounded (C := .mpb c) (k := c.k) (r := 0) rfl rfl hwf hx (by rw [hk]; exact hr)
  refine ⟨y, fl, b, by omega, d, inexact_iff_eq d e, fun hin => ?_, g2⟩
  simpa only [Ctx.dropsNegZero, RF.dropNegZero_false] using g1 hin

theorem efloat_round_val (c : EFloatParams) (hk : c.k = some 0) (hwf : CtxWF (.efloat c)) (x : RF) (hx : x.c ≠ 0) :
    ∃ (y : RF) (fl : Flags), bitLength y.c ≤ c.mpb.p ∧ y.exp > c.mpb.nmin ∧
      y.val = roundVal c.rm (floatN x c.mpb.p (some c.mpb.nmin) + 1) x.val ∧
      (fl.inexact = false ↔ y.val = x.val) ∧
      ((c.mpb.negMax.val ≤ y.val ∧ y.val ≤ c.mpb.posMax.val) →
        ∃ y', y'.val = y.val ∧ (Ctx.efloat c).roundAtCore (.fin x) none false 0 = .ok ⟨.fin y', fl⟩) ∧
      (∀ res, (Ctx.efloat c).roundAtCore (.fin x) none false 0 = .ok res →
        (res.fl.overflow = true ↔ (y.val < c.mpb.negMax.val ∨ c.mpb.posMax.val < y.val))) := by
  obtain ⟨y, fl, hr, -, b, cc, d, e⟩ := float_val x c.mpb.p (some c.mpb.nmin) c.mpb.rm hx hwf.1
  have := floatN_ge_nmin x c.mpb.p c.mpb.nmin
  have hk' : c.mpb.k = some 0 := hk
  obtain ⟨g1, g2⟩ := round_fin_bounded (C := .efloat c) (k := c.mpb.k) (r := 0) rfl rfl hwf hx (by rw [hk']; exact hr)
  exact ⟨y, fl, b, by omega, d, inexact_iff_eq d e, fun hin => ⟨_, RF.dropNegZero_val _ _, g1 hin⟩, g2⟩

theorem mpbfix_round_val (c : MPBFixParams) (hk : c.k = some 0) (hwf : CtxWF (.mpbfix c)) (x : RF) (hx : x.c ≠ 0) :
    ∃ (y : RF) (fl : Flags), y.exp > c.nmin ∧
      y.val = roundVal c.rm (c.nmin + 1) x.val ∧ (fl.inexact = false ↔ y.val = x.val) ∧
      ((c.negMax.val ≤ y.val ∧ y.val ≤ c.posMax.val) →
        ∃ y', y'.val = y.val ∧ (Ctx.mpbfix c).roundAtCore (.fin x) none false 0 = .ok ⟨.fin y', fl⟩) ∧
      (∀ res, (Ctx.mpbfix c).roundAtCore (.fin x) none false 0 = .ok res →
        (res.fl.overflow = true ↔ (y.val < c.negMax.val ∨ c.posMax.val < y.val))) := by
  obtain ⟨y, fl, hr, -, b, cc, d⟩ := fixed_round_total x c.nmin c.rm
  obtain ⟨g1, g2⟩ := round_fin_bounded (C := .mpbfix c) (k := c.k) (r := 0) rfl rfl hwf hx (by rw [hk]; exact hr)
  exact ⟨y, fl, b, cc, inexact_iff_eq cc d, fun hin => ⟨_, RF.dropNegZero_val _ _, g1 hin⟩, g2⟩

/-- **The overflow flag is truthful** (any number of random bits): set exactly when the
unbounded-range rounding exceeds `[negMax, posMax]` -/
theorem flag_overflow_iff_mpb (c : MPBParams) (hwf : CtxWF (.mpb c)) (x : RF) (hx : x.c ≠ 0) (r : Nat) (y : RF)
    (fl : Flags) (hr : x.round (some c.p) (some c.nmin) c.rm c.k r false = .ok (y, fl)) (res : Res)
    (h : mpbRoundAt c (.fin x) none false r = .ok res) :
    res.fl.overflow = true ↔ (y.val < c.negMax.val ∨ c.posMax.val < y.val) :=
  (round_fin_bounded (C := .mpb c) rfl rfl hwf hx hr).2 res h

theorem flag_overflow_iff_mpbfix (c : MPBFixParams) (hwf : CtxWF (.mpbfix c)) (x : RF) (hx : x.c ≠ 0) (r : Nat)
    (y : RF) (fl : Flags) (hr : x.round none (some c.nmin) c.rm c.k r false = .ok (y, fl)) (res : Res)
    (h : mpbfixRoundAt c (.fin x) none false r = .ok res) :
    res.fl.overflow = true ↔ (y.val < c.negMax.val ∨ c.posMax.val < y.val) :=
  (round_fin_bounded (C := .mpbfix c) rfl rfl hwf hx hr).2 res h

theorem flag_overflow_iff_efloat (c : EFloatParams) (hwf : CtxWF (.efloat c)) (x : RF) (hx : x.c ≠ 0) (r : Nat)
    (y : RF) (fl : Flags)
    (hr : x.round (some c.mpb.p) (some c.mpb.nmin) c.mpb.rm c.mpb.k r false = .ok (y, fl)) (res : Res)
    (h : (Ctx.efloat c).roundAtCore (.fin x) none false r = .ok res) :
    res.fl.overflow = true ↔ (y.val < c.mpb.negMax.val ∨ c.mpb.posMax.val < y.val) :=
  (round_fin_bounded (C := .efloat c) rfl rfl hwf hx hr).2 res h

/-- stochastic rounding (any number of random bits, any draw) lands on one of the two neighbours:
it is the deterministic rounding under SOME mode -/
theorem round_stochastic_is_some_mode (x : RF) (maxP : Option Nat) (minN : Option Int) (rm : RM)
    (k : Option Nat) (r : Nat) (y : RF) (fl : Flags) (h : x.round maxP minN rm k r false = .ok (y, fl)) :
    ∃ rm', x.round maxP minN rm' (some 0) 0 false = .ok (y, fl) ∧ (k = some 0 → rm' = rm) :=
  round_any_k x maxP minN rm k r y fl h

/-- the well-formedness hypothesis follows from the shape of the extreme values (decidable) -/
theorem wf_of_shape_mpb (c : MPBParams) (h1 : 1 ≤ c.p)
    (h2 : bitLength c.posMax.c ≤ c.p) (h3 : c.posMax.exp > c.nmin) (h4 : c.posMax.s = false)
    (h5 : bitLength c.negMax.c ≤ c.p) (h6 : c.negMax.exp > c.nmin) (h7 : c.negMax.s = true) :
    CtxWF (.mpb c) :=
  ⟨h1, repFloatSub_of_shape _ _ _ h2 h3, repFloatSub_of_shape _ _ _ h5 h6,
    val_nonpos_of_neg _ h7, val_nonneg_of_pos _ h4⟩

theorem wf_of_shape_efloat (c : EFloatParams) (h1 : 1 ≤ c.mpb.p)
    (h2 : bitLength c.mpb.posMax.c ≤ c.mpb.p) (h3 : c.mpb.posMax.exp > c.mpb.nmin) (h4 : c.mpb.posMax.s = false) :
    CtxWF (.efloat c) :=
  ⟨h1, repFloatSub_of_shape _ _ _ h2 h3, repFloatSub_of_shape _ _ _ (by rw [mpb_negMax_c]; exact h2) h3,
    val_nonpos_of_neg _ (mpb_negMax_s c), val_nonneg_of_pos _ h4, h4⟩

theorem wf_of_shape_mpbfix (c : MPBFixParams)
    (h3 : c.posMax.exp > c.nmin) (h4 : c.posMax.s = false)
    (h6 : c.negMax.exp > c.nmin) (h7 : c.negMax.s = true ∨ c.negMax.c = 0) :
    CtxWF (.mpbfix c) := by
  refine ⟨onGrid_of_le_exp _ _ (by omega), onGrid_of_le_exp _ _ (by omega), ?_, val_nonneg_of_pos _ h4, h4⟩
  rcases h7 with h | h
  · exact val_nonpos_of_neg _ h
  · rw [RF.val_zero_c h]; exact Rat.le_refl

/-! ## Non-vacuity: concrete operands and contexts meeting the hypotheses, evaluated by the kernel -/

-- 13 rounded to multiples of 2 under RNE is 12 (inexact); 13 = 6.5 grid units
example : ((⟨false, 0, 13⟩ : RF).round none (some 0) .rne).toOption = some (⟨false, 1, 6⟩, { inexact := true }) := by
  decide
-- a grid point is returned unchanged: 12 on the grid of spacing 2
example : ((⟨false, 0, 12⟩ : RF).round none (some 0) .rne).toOption = some (⟨false, 1, 6⟩, { }) := by decide
example : RepFixed 0 (⟨false, 1, 6⟩ : RF).val := onGrid_of_le_exp _ _ (by decide)
-- float shape, 3 digits: 13 → 12 (= 6·2^1), 15 → 16 (carry into the next binade)
example : ((⟨false, 0, 13⟩ : RF).round (some 3) none .rne).toOption = some (⟨false, 1, 6⟩, { inexact := true }) := by
  decide
example : (⟨false, 0, 13⟩ : RF).c ≠ 0 ∧ 1 ≤ 3 ∧ floatN ⟨false, 0, 13⟩ 3 none = 0 := by decide
example : RepFloat 3 (⟨false, 1, 6⟩ : RF).val := repFloat_of_bitLength _ 3 (by decide)
-- a non-dyadic fraction: 1/3 with 3 digits is prepared as 5 digits round-to-odd: 21·2^-6 (=0.328125, sticky set)
example : mpfrValue false 1 3 (some 3) none = .ok ⟨false, -6, 21⟩ := rfl
example : (1 : Nat) ≠ 0 ∧ 0 < 3 ∧ (3 : Nat) ≠ 1 ∧ isPow2 3 = false ∧ Nat.gcd (1 : Int).natAbs 3 = 1 := by decide
example : ratE 1 3 = -2 := by decide
-- well-formed bounded contexts exist: a 3-digit bounded float, an 8-bit signed fixed-point, an 8-bit EFloat
example : CtxWF (.mpb { p := 3, emin := -2, posMax := ⟨false, 1, 7⟩, negMax := ⟨true, 1, 7⟩, rm := RM.rne, ov := OV.overflow, k := some 0, o := {} }) :=
  wf_of_shape_mpb _ (by decide) (by decide) (by decide) rfl (by decide) (by decide) rfl
example : CtxWF (Ctx.fixed true (-2) 8 .rne .saturate (some 0) none none) :=
  wf_of_shape_mpbfix _ (by decide) rfl (by decide) (Or.inl rfl)
example : CtxWF (.efloat { es := 4, nbits := 8, inf := false, kind := NanKind.maxVal, eoff := 0, rm := RM.rne, ov := OV.saturate, k := some 0, nanValue := none, infValue := none }) :=
  wf_of_shape_efloat _ (by decide) (by decide) (by decide) (by decide)

end Fpy.Props.C01v
