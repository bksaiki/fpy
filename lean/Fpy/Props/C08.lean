/-
C08 — Loop and iterator restructuring preserves results.

What is proved here (model level, `Fpy.Lang` evaluator of Model/Lang/Core.lean; the real
transformations' outputs are run on that evaluator by harness/c08.py):

* `while_unroll_sound`: for every unroll count `k`, the `k`-times unrolled loop — the nest
  `if c: b; if c: b; … while c: b` that `fpy2/transform/while_unroll.py` emits — and the loop have the same
  outcome in every state, whatever stands before and after: same returned value and heap (early `return` in the
  body included), same final environment and heap, same error, or both diverge.  `Returns`/`Normal` forms follow.
* the equivalence is a CONGRUENCE (`stmt_equiv_congruence`): the unrolled loop may sit anywhere —
  inside `if`, `with`, other `while`/`for` bodies — and the enclosing function returns the same.
* fuel: `Returns` is "there is a fuel with which the evaluator returns"; by `fuel_mono` more fuel
  never changes a definite outcome, so `Returns` is deterministic (`returns_deterministic`).

* `heap_parametricity`: evaluation commutes with renaming of heap references, garbage cells on the
  left and extra cells on the right — the tool for every rewrite whose output allocates differently.
* `for_unroll_peel_sound`, `for_unroll_strict_sound`, `for_unroll_static_sound` (for the blocks
  `for_unroll.py` emits, every factor `k ≥ 1`, every list length (STRICT: every multiple of `k`), any target pattern,
  any body): same outcome up to a renaming of heap references, the heaps compared on what the outcome reaches
  (`FinRel`); `for_unroll_returns` reads it off for numbers/Booleans.
  The control arithmetic under `fp.INTEGER` enters through the interface `IntArith` (integer `+`, `-`,
  `fmod` are exact there) and, for the STRICT `assert`, `IntEq`.
Not proved here (see "the two interfaces, and open parts" below): unrolling of NESTED loops (generated names of the
inner unroll are refreshed per copy), loop splitting, zip/enumerate elimination, any/all fusion.
-/
import Fpy.Proof.LangUnroll
import Fpy.Model.Lib
namespace Fpy.Props.C08
open Fpy Fpy.Lang Fpy.Xform

/-- more fuel never changes a definite result (one of ten: `evalE_fuel_mono … evalB_fuel_mono`) -/
theorem fuel_mono {Φ : Funs} {f f' : Nat} (hf : f ≤ f') {σ : Env} {μ : Heap} {C : Ctx} {ss : List Stmt}
    {r : M (Outcome × Heap)} (h : evalB Φ f σ μ C ss = r) (hr : r ≠ .error .outOfFuel) :
    evalB Φ f' σ μ C ss = r := evalB_fuel_mono hf h hr

theorem returns_deterministic {Φ : Funs} {σ : Env} {μ : Heap} {C : Ctx} {ss : List Stmt} {v w : Val} {μ' μ'' : Heap}
    (h1 : Returns Φ σ μ C ss v μ') (h2 : Returns Φ σ μ C ss w μ'') : v = w ∧ μ' = μ'' := h1.det h2

/-- `while` unrolling, every `k`, both directions, any early `return` -/
theorem while_unroll_sound (Φ : Funs) (c : Expr) (b pre rest : List Stmt) (k : Nat) (σ : Env) (μ : Heap) (C : Ctx) :
    (∀ v μ', Returns Φ σ μ C (pre ++ unrollWhile c b k :: rest) v μ' ↔ Returns Φ σ μ C (pre ++ .while c b :: rest) v μ') ∧
    (∀ σ' μ', Normal Φ σ μ C (pre ++ unrollWhile c b k :: rest) σ' μ' ↔ Normal Φ σ μ C (pre ++ .while c b :: rest) σ' μ') ∧
    (∀ e, Fails Φ σ μ C (pre ++ unrollWhile c b k :: rest) e ↔ Fails Φ σ μ C (pre ++ .while c b :: rest) e) ∧
    (Diverges Φ σ μ C (pre ++ unrollWhile c b k :: rest) ↔ Diverges Φ σ μ C (pre ++ .while c b :: rest)) :=
  have h := Fpy.Xform.while_unroll_sound Φ c b pre rest k
  ⟨fun _ _ => h.returns, fun _ _ => h.normal, fun _ => h.fails, h.diverges⟩

/-- the shape: one unroll step is `if c: (b; <previous>)`, zero steps is the loop itself -/
theorem unroll_shape (c : Expr) (b : List Stmt) (k : Nat) :
    unrollWhile c b 0 = .while c b ∧ unrollWhile c b (k + 1) = .if1 c (b ++ [unrollWhile c b k]) := ⟨rfl, rfl⟩

/-- the rewritten loop may be nested at any depth: statement equivalence is preserved by every block former -/
theorem stmt_equiv_congruence (Φ : Funs) {s s' : Stmt} (h : SEquiv Φ s s') (pre rest : List Stmt) (c : Expr)
    (p : Pat) (it ce : Expr) (nm : Option String) (other : List Stmt) :
    BEquiv Φ (pre ++ s :: rest) (pre ++ s' :: rest) ∧
    SEquiv Φ (.if1 c (pre ++ s :: rest)) (.if1 c (pre ++ s' :: rest)) ∧
    SEquiv Φ (.ifte c (pre ++ s :: rest) other) (.ifte c (pre ++ s' :: rest) other) ∧
    SEquiv Φ (.ifte c other (pre ++ s :: rest)) (.ifte c other (pre ++ s' :: rest)) ∧
    SEquiv Φ (.while c (pre ++ s :: rest)) (.while c (pre ++ s' :: rest)) ∧
    SEquiv Φ (.for p it (pre ++ s :: rest)) (.for p it (pre ++ s' :: rest)) ∧
    SEquiv Φ (.with ce nm (pre ++ s :: rest)) (.with ce nm (pre ++ s' :: rest)) :=
  have hb : BEquiv Φ (pre ++ s :: rest) (pre ++ s' :: rest) :=
    BEquiv.append (BEquiv.refl Φ pre) (BEquiv.cons h (BEquiv.refl Φ rest))
  ⟨hb, SEquiv.if1 c hb, SEquiv.ifte c hb (BEquiv.refl Φ other), SEquiv.ifte c (BEquiv.refl Φ other) hb,
    SEquiv.while c hb, SEquiv.for p it hb, SEquiv.with ce nm hb⟩

/-- = `Xform.unrollWhile_sequiv` -/
theorem unrolled_loop_anywhere (Φ : Funs) (c : Expr) (b : List Stmt) (k : Nat) :
    SEquiv Φ (unrollWhile c b k) (.while c b) := unrollWhile_sequiv Φ c b k

/-- at the entry point: `f(*args)` versus `unroll_while(f, k)(*args)` for a loop at the top level of the body
(use `stmt_equiv_congruence` for a nested one) -/
theorem while_unroll_entry {Φ : Funs} {f f' : String} {fd fd' : FuncDef} (hf : Φ.find? f = some fd) (hf' : Φ.find? f' = some fd')
    (hp : fd.params = fd'.params) (hc : fd.ctx = fd'.ctx) {c : Expr} {b pre rest : List Stmt} {k : Nat}
    (hbody : fd.body = pre ++ .while c b :: rest) (hbody' : fd'.body = pre ++ unrollWhile c b k :: rest)
    (args : List Val) (μ : Heap) (ctx : Option Ctx) (v : Val) (μ' : Heap) :
    (∃ n, callEntry Φ n f args μ ctx = .ok (v, μ')) ↔ (∃ n, callEntry Φ n f' args μ ctx = .ok (v, μ')) :=
  entry_equiv hf hf' hp hc (by rw [hbody, hbody']; exact (Fpy.Xform.while_unroll_sound Φ c b pre rest k).symm) args μ ctx v μ'

def one : Expr := .num (.fv (.fin ⟨false, 0, 1⟩))
def three : Expr := .num (.fv (.fin ⟨false, 0, 3⟩))
def two : Expr := .num (.fv (.fin ⟨false, 0, 2⟩))
/-- `x = x + 1` -/
def incr : Stmt := .assign (.var "x") (.op .add [.var "x", one])
/-- `x = 0; while x < 3: x = x + 1; return x` -/
def prog (loop : Stmt) : List Stmt :=
  [.assign (.var "x") (.num (.fv (.fin ⟨false, 0, 0⟩))), loop, .ret (.var "x")]
/-- `while True: (if x >= 2: return x); x = x + 1` : leaves through an early return -/
def earlyBody : List Stmt := [.if1 (.cmp [.ge] [.var "x", two]) [.ret (.var "x")], incr]

def retNum : M (Outcome × Heap) → Option NV
  | .ok (.ret (.num a), _) => some a
  | _ => none

example : retNum (evalB ⟨[]⟩ 40 [] [] fp64 (prog (.while (.cmp [.lt] [.var "x", three]) [incr])))
    = some (.fv (.fin ⟨false, 0, 3⟩)) := by decide +kernel
example : retNum (evalB ⟨[]⟩ 40 [] [] fp64 (prog (unrollWhile (.cmp [.lt] [.var "x", three]) [incr] 2)))
    = some (.fv (.fin ⟨false, 0, 3⟩)) := by decide +kernel
example : retNum (evalB ⟨[]⟩ 40 [] [] fp64 (prog (.while (.bool true) earlyBody)))
    = some (.fv (.fin ⟨false, 0, 2⟩)) := by decide +kernel
example : retNum (evalB ⟨[]⟩ 40 [] [] fp64 (prog (unrollWhile (.bool true) earlyBody 5)))
    = some (.fv (.fin ⟨false, 0, 2⟩)) := by decide +kernel
example (v : Val) (μ' : Heap) :
    Returns ⟨[]⟩ [] [] fp64 (prog (unrollWhile (.bool true) earlyBody 5)) v μ' ↔
      Returns ⟨[]⟩ [] [] fp64 (prog (.while (.bool true) earlyBody)) v μ' :=
  ((while_unroll_sound ⟨[]⟩ (.bool true) earlyBody [.assign (.var "x") (.num (.fv (.fin ⟨false, 0, 0⟩)))]
    [.ret (.var "x")] 5 [] [] fp64).1 v μ')

/-- HEAP-LOCATION PARAMETRICITY (fuel-free form): the same block run in states related by a renaming `π` of
heap references (`D`: left cells that are garbage; the right heap may have extra cells) ends in related
states: same error, or related outcome, related heaps, both heaps only grew keeping every cell's length,
and the extra right cells are untouched. -/
theorem heap_parametricity {Φ : Funs} {π : RMap} {D : List Nat} {d : Nat} {σ1 σ2 : Env} {μ1 μ2 : Heap}
    (hd : d ≤ μ1.length) (henv : ER π D d σ1 σ2) (hh : HR π D μ1 μ2) (C : Ctx) (ss : List Stmt) :
    RelM (QS π D μ1 μ2) (evalBω Φ σ1 μ1 C ss) (evalBω Φ σ2 μ2 C ss) := par_evalBω hd henv hh C ss

/-- … and at every fuel, for every evaluator function -/
theorem heap_parametricity_fuel (Φ : Funs) (π : RMap) (D : List Nat) (n : Nat) : ParAt Φ π D n := parAt Φ π D n

/-- PEEL strategy, length not statically known: `t = it; with INTEGER: (n = len(t); m = n - fmod(n, k));
for i in range(0, m, k): (with INTEGER: i₁ = i + 1 …; p = t[i]; body; p = t[i₁]; body; …);
for i' in range(m, n, 1): (p = t[i']; body)`.
The loop and the block have the same outcome for every unroll factor `k = offs.length + 1 ≥ 1`, every iterable
value (any length, also a non-list: the same type error), every body (early `return`, writes to the iterated list,
allocation, calls, loops (not themselves unrolled) included), every context and every well-formed state.  "Same
outcome" is `FinRel S`: the same error, or the same `return` value / final values of the user variables `S` under
SOME renaming of heap references with some left cells declared garbage; the two final heaps are compared on what
that value / those variables reach, and on nothing else (the emitted code allocates the two `range` lists, which the
original does not: they are extra cells of the right heap). -/
theorem for_unroll_peel_sound {Φ : Funs} {CI : Ctx} (IA : IntArith CI) {C : Ctx} {S : List String}
    {p : Pat} {it : Expr} {body rest : List Stmt} {t n m idx ridx : String} {offs : List String} {lits : List NV}
    {z0 zk z1 : NV} {k : Nat}
    (hk : offs.length + 1 = k) (hlits : offs.length = lits.length)
    (hl : ∀ j (h : j < lits.length), nvInt? lits[j] = some ((1 + j : Nat) : Int))
    (hz0 : nvInt? z0 = some 0) (hzk : nvInt? zk = some (k : Int)) (hz1 : nvInt? z1 = some 1)
    (hnd : (t :: n :: m :: ridx :: idx :: offs).Nodup)
    (hfresh : ∀ z ∈ t :: n :: m :: ridx :: idx :: offs, z ∉ S ∧ z ∉ bvP p ++ bvB body)
    (hbody : ∀ z ∈ readsB body, z ∈ S) (hrest : ∀ z ∈ readsB rest, z ∈ S)
    {σ : Env} {μ : Heap} (hwfh : WFH μ) (hwfe : WFE σ μ) :
    FinRel S (evalBω Φ σ μ C (.for p it body :: rest))
      (evalBω Φ σ μ C (forUnrollPeel CI p it body t n m idx ridx offs lits z0 zk z1 ++ rest)) := by
  have hkpos : 0 < k := by omega
  show FinRel S _ (evalBω Φ σ μ C (.assign (.var t) it :: .with _ _ (_ :: _) :: _))
  refine for_unroll_frame_len hwfh hwfe fun r l μ0 _ hcl hh0 he0 => ?_
  -- the sublists `t, n, m, idx :: offs` (`ridx` dropped) for the main loop and `t, n, m, ridx` for the residual one
  obtain ⟨f1, hV1⟩ := fresh_of_sublist (V := [n, m]) (I := idx :: offs) hnd hfresh
    (.cons_cons _ (.cons_cons _ (.cons_cons _ (.cons _ (List.Sublist.refl _)))))
  obtain ⟨f2, hV2⟩ := fresh_of_sublist (V := [n, m]) (I := [ridx]) hnd hfresh
    (.cons_cons _ (.cons_cons _ (.cons_cons _ (.cons_cons _ (List.nil_sublist _)))))
  have hS : ∀ z ∈ [t, n, m], ∀ x ∈ S, x ≠ z := fun z hz x hx e =>
    (hfresh z (List.Sublist.subset (.cons_cons _ (.cons_cons _ (.cons_cons _ (List.nil_sublist _)))) hz)).1 (e ▸ hx)
  simp only [List.nodup_cons, List.mem_cons, not_or] at hnd
  obtain ⟨⟨htn, htm, -⟩, ⟨hnm, -⟩, -⟩ : (t ≠ n ∧ t ≠ m ∧ _) ∧ (n ≠ m ∧ _) ∧ _ := hnd
  obtain ⟨σm, wm, hwm, hpre, hn_get, hm_get, hkeep⟩ := prelude_eval Φ IA C (n := n) (m := m)
    (Env.get?_set_self σ t (.list r)) hcl hzk hkpos hnm
  rw [hpre, ok_bind]
  generalize hq : l.length / k = q at hwm
  have hkq : k * q ≤ l.length := by rw [← hq]; exact Nat.mul_div_le _ _
  have J0 : Jinv S (fun r => r) [] r l.length t σ μ0 σm μ0 := Jinv.init hh0 he0 hcl
    (fun z hz => by
      rw [hkeep z (hS n (by simp) z hz) (hS m (by simp) z hz), Env.get?_set_ne _ _ (Ne.symm (hS t (by simp) z hz))])
    (by rw [hkeep t htn htm]; exact Env.get?_set_self ..)
  -- two segments: the main loop over `0 .. k·q`, the residual loop with one copy per iteration over `k·q .. N`
  refine Covers.run J0 (Covers.loop (V := [n, m]) IA hbody 0 k q hk hlits hl f1 hV1 (by omega) (.num (by simpa using hz0))
    (.var (by simp) hm_get (by simpa using hwm)) (.num hzk) ?_)
  rw [Nat.zero_add]
  refine Covers.loop IA hbody (k * q) 1 (l.length - k * q) (offs := []) (lits := []) rfl rfl (fun j h => absurd h (by simp))
    f2 hV2 (by omega) (.var (by simp) hm_get hwm) (.var (by simp) hn_get (by rw [nvInt_q]; congr 1; omega))
    (.num (by simpa using hz1)) ?_
  rw [show k * q + 1 * (l.length - k * q) = l.length by omega]
  exact Covers.done hrest

/-- STRICT strategy, length not statically known, when the length is a multiple of `k` (`hdiv`): `FinRel S` as for
PEEL.  Otherwise the emitted `assert` fails (`strict_prelude_eval`; no statement about the whole block). -/
theorem for_unroll_strict_sound {Φ : Funs} {CI : Ctx} (IA : IntArith CI) (IE : IntEq) {C : Ctx} {S : List String}
    {p : Pat} {it : Expr} {body rest : List Stmt} {t n idx : String} {offs : List String} {lits : List NV}
    {z0 zk : NV} {k : Nat}
    (hk : offs.length + 1 = k) (hlits : offs.length = lits.length)
    (hl : ∀ j (h : j < lits.length), nvInt? lits[j] = some ((1 + j : Nat) : Int))
    (hz0 : nvInt? z0 = some 0) (hzk : nvInt? zk = some (k : Int))
    (hnd : (t :: n :: idx :: offs).Nodup)
    (hfresh : ∀ z ∈ t :: n :: idx :: offs, z ∉ S ∧ z ∉ bvP p ++ bvB body)
    (hbody : ∀ z ∈ readsB body, z ∈ S) (hrest : ∀ z ∈ readsB rest, z ∈ S)
    {σ : Env} {μ : Heap} (hwfh : WFH μ) (hwfe : WFE σ μ)
    (hdiv : ∀ r l μ0, evalEω Φ σ μ C it = .ok (.list r, μ0) → μ0[r]? = some l → l.length % k = 0) :
    FinRel S (evalBω Φ σ μ C (.for p it body :: rest))
      (evalBω Φ σ μ C (forUnrollStrict CI p it body t n idx offs lits z0 zk ++ rest)) := by
  have hkpos : 0 < k := by omega
  show FinRel S _ (evalBω Φ σ μ C (.assign (.var t) it :: .with _ _ (_ :: _) :: _))
  refine for_unroll_frame_len hwfh hwfe fun r l μ0 hit hcl hh0 he0 => ?_
  have hd := hdiv r l μ0 hit hcl
  obtain ⟨f1, hV1⟩ := fresh_of_sublist (V := [n]) (I := idx :: offs) hnd hfresh (List.Sublist.refl _)
  have hS : ∀ z ∈ [t, n], ∀ x ∈ S, x ≠ z := fun z hz x hx e =>
    (hfresh z (List.Sublist.subset (.cons_cons _ (.cons_cons _ (List.nil_sublist _))) hz)).1 (e ▸ hx)
  have hnt : n ≠ t := fun e => (List.nodup_cons.1 hnd).1 (e ▸ List.mem_cons_self)
  rw [strict_prelude_eval Φ IA IE C (n := n) (Env.get?_set_self σ t (.list r)) hcl hz0 hzk hkpos, if_pos hd, ok_bind]
  have J0 := Jinv.init (S := S) (t := t) (σ2 := (σ.set t (.list r)).set n (.num (.q (l.length : Int) 1))) hh0 he0 hcl
    (fun z hz => by
      rw [Env.get?_set_ne _ _ (Ne.symm (hS n (by simp) z hz)), Env.get?_set_ne _ _ (Ne.symm (hS t (by simp) z hz))])
    (by rw [Env.get?_set_ne _ _ hnt, Env.get?_set_self])
  have hq : k * (l.length / k) = l.length := by
    have := Nat.div_add_mod l.length k; omega
  refine Covers.run J0 (Covers.loop (V := [n]) IA hbody 0 k (l.length / k) hk hlits hl f1 hV1 (by omega) (.num (by simpa using hz0))
    (.var (by simp) (Env.get?_set_self ..) (by rw [nvInt_q]; congr 1; omega)) (.num hzk) ?_)
  rw [show 0 + k * (l.length / k) = l.length by omega]
  exact Covers.done hrest

/-- statically known length `k·q + zps.length` (PEEL: main loop to the literal `k·q` if `q > 0`, the rest peeled
with literal indices; STRICT with a known length is the case `zps = []`): `FinRel S` as for PEEL -/
theorem for_unroll_static_sound {Φ : Funs} {CI : Ctx} (IA : IntArith CI) {C : Ctx} {S : List String}
    {p : Pat} {it : Expr} {body rest : List Stmt} {t idx : String} {offs : List String} {lits : List NV}
    {z0 zm zk : NV} {zps : List NV} {k q : Nat} {withMain : Bool}
    (hk : offs.length + 1 = k) (hlits : offs.length = lits.length)
    (hl : ∀ j (h : j < lits.length), nvInt? lits[j] = some ((1 + j : Nat) : Int))
    (hz0 : nvInt? z0 = some 0) (hzk : nvInt? zk = some (k : Int)) (hzm : nvInt? zm = some ((k * q : Nat) : Int))
    (hzps : ∀ j (h : j < zps.length), nvInt? zps[j] = some ((k * q + j : Nat) : Int))
    (hmain : withMain = false → q = 0)
    (hnd : (t :: idx :: offs).Nodup)
    (hfresh : ∀ z ∈ t :: idx :: offs, z ∉ S ∧ z ∉ bvP p ++ bvB body)
    (hbody : ∀ z ∈ readsB body, z ∈ S) (hrest : ∀ z ∈ readsB rest, z ∈ S)
    {σ : Env} {μ : Heap} (hwfh : WFH μ) (hwfe : WFE σ μ)
    (hsize : ∀ v μ0, evalEω Φ σ μ C it = .ok (v, μ0) → ∃ r l, v = .list r ∧ μ0[r]? = some l ∧ l.length = k * q + zps.length) :
    FinRel S (evalBω Φ σ μ C (.for p it body :: rest))
      (evalBω Φ σ μ C (forUnrollStatic CI p it body t idx offs lits z0 zm zk zps withMain ++ rest)) := by
  show FinRel S _ (evalBω Φ σ μ C (.assign (.var t) it :: _))
  refine for_unroll_frame hwfh hwfe fun v μ0 hit _ hh0 he0 => ?_
  obtain ⟨r, l, rfl, hcl, hlen⟩ := hsize v μ0 hit
  obtain ⟨f1, hV1⟩ := fresh_of_sublist (V := []) (I := idx :: offs) hnd hfresh (List.Sublist.refl _)
  have J0 : Jinv S (fun r => r) [] r l.length t σ μ0 (σ.set t (.list r)) μ0 :=
    Jinv.init hh0 he0 hcl (fun z hz => Env.get?_set_ne _ _ fun e => (hfresh t (by simp)).1 (e ▸ hz)) (Env.get?_set_self ..)
  -- the peeled copies, then the rest of the caller
  have hpeel : Covers Φ C S r l.length t p body rest [] (σ.set t (.list r)) (k * q)
      ((zps.map Expr.num).flatMap (fun ie => copyStmt p t ie body) ++ rest) := by
    refine Covers.copies hbody (f1.2.2 t List.mem_cons_self) (by simp) (zps.map Expr.num) (k * q)
      (fun j hj => ?_) (by simp; omega) ?_
    · simp only [List.getElem_map]; exact .num (hzps j (by simpa using hj))
    · rw [show k * q + (zps.map Expr.num).length = l.length by simp; omega]; exact Covers.done hrest
  cases withMain with
  | false =>
    obtain rfl := hmain rfl
    simpa [forUnrollStatic] using hpeel.run J0
  | true =>
    show FinRel S (forLoopω Φ σ μ0 C r 0 p body >>= thenB Φ C rest)
      (evalBω Φ (σ.set t (.list r)) μ0 C
        (.for (.var idx) (.range [.num z0, .num zm, .num zk]) (mainBody CI p t idx offs lits body) ::
          ((zps.map Expr.num).flatMap (fun ie => copyStmt p t ie body) ++ rest)))
    refine Covers.run J0 (Covers.loop (V := []) IA hbody 0 k q hk hlits hl f1 hV1 (by omega) (.num (by simpa using hz0))
      (.num (by simpa using hzm)) (.num hzk) ?_)
    rw [Nat.zero_add]; exact hpeel

/-- what `FinRel` says about observable results: the same errors, and the same returned numbers, Booleans and
contexts (for returned lists/tuples: the same up to the renaming of references, with corresponding contents) -/
theorem for_unroll_returns {Φ : Funs} {S : List String} {σ : Env} {μ : Heap} {C : Ctx} {ss ss' : List Stmt}
    (h : FinRel S (evalBω Φ σ μ C ss) (evalBω Φ σ μ C ss')) :
    (∀ v, flatV v = true → ((∃ m, Returns Φ σ μ C ss v m) ↔ (∃ m, Returns Φ σ μ C ss' v m))) ∧
    (∀ e, evalBω Φ σ μ C ss = .error e ↔ evalBω Φ σ μ C ss' = .error e) :=
  ⟨fun _ hv => by simp only [returns_iff]; exact h.returns_flat hv, h.fails⟩

/-! non-vacuity: `s = 0; for x in [1, 2, 3]: s = s + x; return s` unrolled by 2 (PEEL), evaluated -/

def nI (i : Int) : NV := .fv (.fin (RF.ofInt i))
def sumBody : List Stmt := [.assign (.var "s") (.op .add [.var "s", .var "x"])]
def xsE : Expr := .list [.num (nI 1), .num (nI 2), .num (nI 3)]
def origP : List Stmt := [.assign (.var "s") (.num (nI 0)), .for (.var "x") xsE sumBody, .ret (.var "s")]
def emitP : List Stmt := [.assign (.var "s") (.num (nI 0))] ++
  forUnrollPeel Fpy.Lib.integerCtx (.var "x") xsE sumBody "t" "n" "m" "i" "i2" ["i1"] [nI 1] (nI 0) (nI 2) (nI 1) ++
  [.ret (.var "s")]

example : retNum (evalB ⟨[]⟩ 60 [] [] fp64 origP) = some (nI 6) := by decide +kernel
example : retNum (evalB ⟨[]⟩ 60 [] [] fp64 emitP) = some (nI 6) := by decide +kernel
/-- the side conditions are satisfiable: fresh distinct names, literals with the right integer readings -/
example : ("t" :: "n" :: "m" :: "i2" :: "i" :: ["i1"]).Nodup := by decide
example : ∀ z ∈ "t" :: "n" :: "m" :: "i2" :: "i" :: ["i1"], z ∉ ["s", "x"] ∧ z ∉ bvP (.var "x") ++ bvB sumBody := by decide +kernel
example : ∀ z ∈ readsB sumBody, z ∈ ["s", "x"] := by decide
example : nvInt? (nI 2) = some 2 := by decide
/-- and the interface `IntArith` holds of `fp.INTEGER` on samples -/
example : (opEval Fpy.Lib.integerCtx .add [cvtReal (nI 7), cvtReal (nI 5)]).toOption.map nvInt? = some (some 12) := by decide +kernel
example : (opEval Fpy.Lib.integerCtx .fmod [cvtReal (.q 3 1), cvtReal (nI 2)]).toOption.map nvInt? = some (some 1) := by decide +kernel
example : (opEval Fpy.Lib.integerCtx .sub [cvtReal (.q 3 1), cvtReal (nI 1)]).toOption.map nvInt? = some (some 2) := by decide +kernel

/-! ### the two interfaces, and open parts

`IntArith CI`, `IntEq` — the two number-layer interfaces are hypotheses of the unrolling theorems here: `IntArith CI`
so that they hold for any context `CI` of the control code; `IntEq`, a fact about `nvCompare` that mentions no
context, because the number layer is not imported here.  Proof/IntCtx.lean proves `IntArith` of `fp.INTEGER`
(`MPFixedContext(-1, RTZ)` is exact on integers) and the content of `IntEq` (`nvCompare_int`); Props/C08Int.lean
has the instance `intEq` and instantiates the three theorems.

Open (each is exercised by the differential runs of harness/c08.py):
* Unrolling of nested loops — no theorem: unrolling an outer loop whose body contains an already unrolled inner
  loop refreshes the inner loop's generated names per copy (`RenameTarget`); needs the simulation checker
  composed with parametricity.
* Loop splitting, `zip`/`enumerate` elimination, `any`/`all` fusion — no theorem.  The tools are here
  (`heap_parametricity` with garbage on the left, `Covers.loop` for an emitted `for i in range(a, b, k)`);
  missing are the nested-`range` loop of `split_loop.py` (the renaming changes at every outer iteration), and for
  the iterator eliminations a "body writes no list ⇒ old cells unchanged" invariant relating the snapshot
  `zip`/`enumerate` take to the live lists the indexed loop reads. -/

/-- one step of the element loop, `forLoopω_eq` as it stands: the rule an argument about a loop inside an unrolled
body would start from.  It says nothing about nesting. -/
theorem for_unroll_nested_partial (Φ : Funs) (σ : Env) (μ : Heap) (C : Ctx) (r i : Nat) (p : Pat) (body : List Stmt) :
    forLoopω Φ σ μ C r i p body =
      (do let l ← heapGet μ r
          match l[i]? with
          | none => .ok (.normal σ, μ)
          | some x => do
            let σ' ← bindPatω p x σ
            let (o, μ') ← evalBω Φ σ' μ C body
            match o with
            | .ret v => .ok (.ret v, μ')
            | .normal σ'' => forLoopω Φ σ'' μ' C r (i + 1) p body) :=
  forLoopω_eq Φ σ μ C r i p body

end Fpy.Props.C08
