/-
C10 — Rounding-lowering rewrites leave the rounding function unchanged.
The model of what the rewrites emit is `Fpy/Model/Lower.lean`, "the same result" is `Fpy/Spec/Lower.lean`
(`sameFV`: same class, same sign, same number; `obsEq`: that plus `inexact`/`overflow`, or the same error).

Vocabulary: `mpbRoundAt c` / `mpbfixRoundAt c` are `MPBFloatContext._round_at` / `MPBFixedContext._round_at`
(bounded float / bounded fixed-point; `IEEEContext`, `EFloatContext`, `FixedContext`, `SMFixedContext` are built on
them), `Ctx.mps` / `Ctx.mpfix` their unbounded counterparts, `x.round (some p) minN rm` / `x.round none (some n) rm`
the float / fixed-point rounding cores of `RealFloat`.  The field `c.k` is `num_randbits`: the hypothesis
`c.k = some 0` says that the context is deterministic.
-/
import Fpy.Proof.LowerCtx
namespace Fpy.Props.C10
open Fpy Fpy.Spec Fpy.C10

/-! ## `float_to_fixed` -/

/-- **Float rounding is fixed-point rounding at the position the float rounding chose** (`float_to_fixed.py`'s
premise).  For every non-zero operand, every precision `p ≥ 1`, with or without a least position, every mode:
both roundings succeed, keep the sign, denote the same number (a carry is re-normalised), set the same `inexact`
and no `overflow`. -/
theorem float_to_fixed_id (x : RF) (p : Nat) (minN : Option Int) (rm : RM) (hc : x.c ≠ 0) (hp : 1 ≤ p) :
    ∃ y fl y' fl', x.round (some p) minN rm = .ok (y, fl) ∧
      x.round none (some (floatPos x p minN)) rm = .ok (y', fl') ∧
      y.s = x.s ∧ y'.s = x.s ∧ y.eqV y' ∧ fl.inexact = fl'.inexact ∧ fl.overflow = false ∧ fl'.overflow = false :=
  float_fixed_round x p minN rm hc hp

/-- **The emitted position formula.**  With `e = logb(x)`, `EXP = emin − P + 1`: the program's
`if e < emin: EXP − 1 else: min(max(e − (P − 1), EXP), EXPMAX) − 1` is the float rounding's own position
`max(emin − P, e − P)` whenever the upper clamp is idle (`e − P + 1 ≤ EXPMAX`, or no bound at all) … -/
theorem float_to_fixed_position (p : Nat) (emin : Int) (expmax : Option Int) (e : Int)
    (h : ∀ M, expmax = some M → e - ((p : Int) - 1) ≤ M) :
    f2fPos p (some (emin, emin - p + 1)) expmax e = max (emin - p) (e - p) := by
  unfold f2fPos
  cases expmax with
  | none => simp only; split <;> omega
  | some M =>
    have := h M rfl
    simp only; split <;> omega

/-- … is `e − P` for a format without subnormals … -/
theorem float_to_fixed_position_nosub (p : Nat) (e : Int) : f2fPos p none none e = e - p := by
  unfold f2fPos; simp only; omega

/-- … and is `EXPMAX − 1` once the clamp is active (every such operand overflows, see `float_to_fixed_ctx_id`). -/
theorem float_to_fixed_position_clamped (p : Nat) (emin M e : Int) (hM : emin - p + 1 ≤ M) (h : M < e - ((p : Int) - 1)) :
    f2fPos p (some (emin, emin - p + 1)) (some M) e = M - 1 := by
  unfold f2fPos
  simp only; split <;> omega

/-- the overflow rule of the emitted context is the source's, for either sign (value and flags) -/
theorem float_to_fixed_policy (c : MPBParams) (pol : Policy) (nz : Bool) (n : Int) (hk : c.k = some 0)
    (hpos : BoundOk c.p c.nmin c.posMax) (hps : c.posMax.s = false) (hm : c.negMax = c.posMax.neg)
    (hpol : policyOf c = some pol) (s : Bool) :
    obsEq (mpbOverflow c s s) (mpbfixOverflow (f2fTarget c pol nz n) s s) := by
  -- the probes return the source's arms (`probe_float`); the policy says what that arm returned for sign `s`
  -- (`policyFrom_inv`); the arm says whether the direction goes to infinity (`mpbOverflow_ok`), which is all the
  -- target's arm asks (`f2fTarget_overflow`)
  obtain ⟨hneg, hns⟩ := negMax_mirror c hpos hps hm
  unfold policyOf at hpol
  rw [probe_float c hk false 1 (Nat.le_refl _) hpos hps, probe_float c hk true 1 (Nat.le_refl _) hneg hns] at hpol
  obtain ⟨v, f, hv, hsame⟩ := policyFrom_inv c _ _ pol hpol s
  have hv' : mpbOverflow c s s = .ok ⟨v, f⟩ := by cases s <;> exact hv
  obtain ⟨h1, h2, h3⟩ := mpbOverflow_ok c s s v f hv'
  rw [hv', f2fTarget_overflow c pol nz n hpos.1 hps hm s]
  refine ⟨?_, h1, h2⟩
  cases ht : overflowToInfinity c.rm s
  · rw [h3.resolve_right (by rw [ht]; nofun)]; exact sameFV_refl _
  · exact hsame

/-- **`float_to_fixed` reproduces an unbounded float context** (`MPSFloatContext`; what `unfold_overflow` leaves
behind): every precision `p ≥ 1`, every `emin`, every mode, every NaN / infinity option, every finite non-zero
operand: rounding under the emitted `MPBFixedContext(n, reach, rm, overflow=ASSERT)` — `reach = 2^emin` in the
subnormal branch, `2^(exp + P)` in the normal one — never trips the assertion and gives the value and `inexact`
flag of the float rounding. -/
theorem float_to_fixed_unbounded_id (p : Nat) (emin : Int) (rm : RM) (o : Opts) (hp : 1 ≤ p) (x : RF) (hx : x.c ≠ 0) :
    obsEq ((Ctx.mps p emin rm (some 0) o).roundAtCore (.fin x) none false 0) (f2fUnbounded p emin rm x) := by
  unfold f2fUnbounded
  rw [float_to_fixed_position p emin none x.e nofun]
  refine float_ctx_as_fixed (F := .mpbfix (f2fTargetUnb rm _ _)) rfl rfl hx hp fun y fl y' fl' h hs he hi ho => ?_
  -- the reach `2^E` is on the grid and above the operand, so `round_fixed_le_pow` keeps the rounded value inside `±2^E`
  obtain ⟨g1, g2⟩ := round_fixed_le_pow x (max (emin - p) (x.e - p)) (if x.e < emin then emin else max (emin - p) (x.e - p) + 1 + p) rm hx
    (by split <;> omega) (by split <;> omega) y' fl' h
  exact post_obsEq hs (Ctx.inRange_of rfl g2 g1).symm rfl rfl (fun _ => ⟨he, hi, ho⟩) nofun

/-- `IEEEContext` (and any `EFloatContext` with infinities and the IEEE NaN layout) adds nothing to its
`MPBFloatContext` on a finite operand, so `float_to_fixed_ctx_id` is about it as well. -/
theorem ieee_is_mpb (c : EFloatParams) (hinf : c.inf = true) (hkind : c.kind = .ieee) (x : RF) :
    (Ctx.efloat c).roundAtCore (.fin x) none false 0 = mpbRoundAt c.mpb (.fin x) none false 0 := by
  have e : (Ctx.efloat c).roundAtCore (.fin x) none false 0 =
      (match mpbRoundAt c.mpb (.fin x) none false 0 with
       | .error e => .error e
       | .ok res => efloatFixup c res) := by
    unfold Ctx.roundAtCore; rfl
  rw [e]
  cases h : mpbRoundAt c.mpb (.fin x) none false 0 with
  | error e => rfl
  | ok r =>
    simp only
    unfold efloatFixup
    cases hv : r.v <;> simp [hinf, hkind]

/-! ## `rescale_fixed` -/

/-- **Shift invariance of the rounding core**: rounding `x · 2^j` at position `n + j` is `2^j ·` (rounding `x` at
position `n`), with *all* flags equal, in every mode. -/
theorem rescale_core (x : RF) (n j : Int) (rm : RM) (hc : x.c ≠ 0) :
    (shiftRF x j).round none (some (n + j)) rm =
      (match x.round none (some n) rm with
       | .ok (y, fl) => .ok (shiftRF y j, fl)
       | .error e => .error e) := by
  rw [round_fixed_spec x n rm, round_fixed_spec (shiftRF x j) (n + j) rm]
  have e1 : ((shiftRF x j).exp > n + j) = (x.exp > n) := by show (x.exp + j > n + j) = _; simp
  have e2 : (n + j + 1 - (shiftRF x j).exp).toNat = (n + 1 - x.exp).toNat := by
    show (n + j + 1 - (x.exp + j)).toNat = _; omega
  have e3 : n + j + 1 = n + 1 + j := by omega
  simp only [e1, e2]
  rw [e3]
  split <;> rfl

/-- **`rescale_fixed` reproduces every bounded fixed-point context**: any rounding mode, any overflow mode
(wrapping included), signed zero on or off, NaN / infinity enabled or substituted by a non-finite value (a finite
substitute is refused by the rewrite: it would have to shift too), and *every* operand — finite, zero of either
sign, infinite, NaN: scale in by `2^k`, round under the format moved by `2^k` (position and both bounds), scale
out — same value, same `inexact`, same `overflow`, or the same error.  (`k = −scale` puts the format at digit
position zero.) -/
theorem rescale_id (c : MPBFixParams) (hk : c.k = some 0) (k : Int) (v : FV)
    (hnv : ∀ w, c.o.nanValue = some w → w.isNar = true) (hiv : ∀ w, c.o.infValue = some w → w.isNar = true) :
    obsEq (mpbfixRoundAt c v none false 0) (rescaleProg c k v) := by
  unfold rescaleProg
  cases v with
  | nan s =>
    unfold mpbfixRoundAt fixedSpecial shiftFV rescaleFix
    simp only
    split
    · exact obsEq_refl _
    · exact rescale_subst c.o.nanValue {} k hnv
  | inf s =>
    unfold mpbfixRoundAt fixedSpecial shiftFV rescaleFix
    simp only
    split
    · exact obsEq_refl _
    · exact rescale_subst c.o.infValue {} k hiv
  | fin x =>
    unfold shiftFV
    by_cases hc : x.c = 0
    · rw [mpbfix_zero c hc, mpbfix_zero _ (show (shiftRF x k).c = 0 from hc)]
      exact obsEq_ok _ _ _ (sameFV_fin _ _ rfl (RF.eqV_zero _ _ rfl rfl))
    · rw [mpbfix_round c hc, mpbfix_round _ (show (shiftRF x k).c ≠ 0 from hc)]
      show obsEq _ (shiftRes (match (shiftRF x k).round none (some (c.nmin + k)) c.rm c.k 0 false with
        | .error e => .error e | .ok (y, fl) => (Ctx.mpbfix (rescaleFix c k)).post x.s y fl) (-k))
      rw [hk, rescale_core x c.nmin k c.rm hc]
      cases x.round none (some c.nmin) c.rm with
      | error e => exact obsEq_refl _
      | ok yf => exact post_rescale c k hiv x.s yf.1 yf.2

/-- the link of the chain `float_to_fixed → rescale_fixed`: the context `float_to_fixed` emits is one
`rescale_fixed` reproduces (deterministic, substitutes non-finite) -/
theorem chain_float_to_fixed_then_rescale (c : MPBParams) (pol : Policy) (nz : Bool) (n k : Int) (v : FV) :
    obsEq (mpbfixRoundAt (f2fTarget c pol nz n) v none false 0) (rescaleProg (f2fTarget c pol nz n) k v) := by
  obtain ⟨h1, h2⟩ := f2fTarget_subs c pol nz n
  apply rescale_id _ rfl
  · intro w hw; rw [h1] at hw; cases hw
  · intro w hw
    rcases h2 with h2 | h2
    · rw [h2] at hw; cases hw
    · rw [h2] at hw; injection hw with hw; subst hw; rfl

/-! ## `unfold_overflow` -/

/-- **`unfold_overflow`, float, flags included**: rounding under the bounded context *is* rounding under
`MPSFloatContext(pmax, emin, rm)`, then `t > maxval` / `t < neg_maxval`, then the context's own overflow arm
(which sets `overflow` and `inexact`) — for any rounding mode, overflow mode and `num_randbits`, at the draw `0`
(`bounded_eq_clamp` is the statement for every position, draw and `exact`). -/
theorem unfold_overflow_arm_float (c : MPBParams)
    (hpos : c.posMax.c = 0 ∨ c.posMax.s = false) (hneg : c.negMax.c = 0 ∨ c.negMax.s = true)
    (x : RF) (hx : x.c ≠ 0) :
    mpbRoundAt c (.fin x) none false 0 =
      (match (unboundedFloat c).roundAtCore (.fin x) none false 0 with
       | .error e => .error e
       | .ok r =>
         match r.v with
         | .fin t => if t.gt c.posMax then mpbOverflow c x.s t.s
                     else if t.lt c.negMax then mpbOverflow c x.s t.s
                     else .ok r
         | _ => .ok r) :=
  mpb_unfold_arm c hpos hneg x hx

/-- the same for a non-wrapping bounded fixed-point format and `MPFixedContext(nmin, rm, …)` -/
theorem unfold_overflow_arm_fixed (c : MPBFixParams) (hw : c.ov ≠ .wrap)
    (hpos : c.posMax.c = 0 ∨ c.posMax.s = false) (hneg : c.negMax.c = 0 ∨ c.negMax.s = true)
    (x : RF) (hx : x.c ≠ 0) :
    mpbfixRoundAt c (.fin x) none false 0 =
      (match (unboundedFixed c).roundAtCore (.fin x) none false 0 with
       | .error e => .error e
       | .ok r =>
         match r.v with
         | .fin t => if t.gt c.posMax then mpbfixOverflow c x.s t.s
                     else if t.lt c.negMax then mpbfixOverflow c x.s t.s
                     else .ok r
         | _ => .ok r) :=
  mpbfix_unfold_arm c hw hpos hneg x hx

/-- **the probe is sound**: what the bounded context returns for `2^k ·` its bound, for every `k ≥ 1` (the rewrite
asks at `k = 1` and `k = 64` and requires the two to agree), is its overflow arm for that sign … -/
theorem overflow_probe_float (c : MPBParams) (hk : c.k = some 0) (k : Nat) (hk1 : 1 ≤ k)
    (hpos : BoundOk c.p c.nmin c.posMax) (hps : c.posMax.s = false)
    (hneg : BoundOk c.p c.nmin c.negMax) (hns : c.negMax.s = true) :
    probeFloat c false k = mpbOverflow c false false ∧ probeFloat c true k = mpbOverflow c true true :=
  ⟨probe_float c hk false k hk1 hpos hps, probe_float c hk true k hk1 hneg hns⟩

theorem overflow_probe_fixed (c : MPBFixParams) (hk : c.k = some 0) (hw : c.ov ≠ .wrap) (k : Nat) (hk1 : 1 ≤ k)
    (hpos : BoundOkFix c.nmin c.posMax) (hps : c.posMax.s = false)
    (hneg : BoundOkFix c.nmin c.negMax) (hns : c.negMax.s = true) :
    probeFixed c false k = mpbfixOverflow c false false ∧ probeFixed c true k = mpbfixOverflow c true true :=
  ⟨probe_fixed c hk hw false k hk1 hpos hps, probe_fixed c hk hw true k hk1 hneg hns⟩

/-- … and every overflowing operand of that sign gets exactly that arm (value and flags): the overflow outcome of
a deterministic non-wrapping context is a constant of the sign, so "probe and write the constant" is sound. -/
theorem overflow_is_constant_float (c : MPBParams) (hk : c.k = some 0) (hp : 1 ≤ c.p) (x y : RF) (fl : Flags) (hx : x.c ≠ 0)
    (hr : x.round (some c.p) (some c.nmin) c.rm (some 0) 0 false = .ok (y, fl))
    (hout : (if y.s then y.lt c.negMax else y.gt c.posMax) = true) :
    mpbRoundAt c (.fin x) none false 0 = mpbOverflow c x.s x.s := by
  have hys : y.s = x.s := round_float_sign x c.p (some c.nmin) c.rm hx hp y fl hr
  exact (Ctx.roundAtCore_out (C := .mpb c) rfl hx none 0 (by rw [hk]; exact hr)
    (by show (!_) = false; rw [hout]; rfl)).trans (by rw [overflowed_mpb, hys])

theorem overflow_is_constant_fixed (c : MPBFixParams) (hk : c.k = some 0) (hw : c.ov ≠ .wrap) (x y : RF) (fl : Flags)
    (hx : x.c ≠ 0) (hr : x.round none (some c.nmin) c.rm (some 0) 0 false = .ok (y, fl))
    (hout : (if y.s then y.lt c.negMax else y.gt c.posMax) = true) :
    mpbfixRoundAt c (.fin x) none false 0 = mpbfixOverflow c x.s x.s := by
  have hys : y.s = x.s := round_fixed_sign x c.nmin c.rm hx y fl hr
  exact (Ctx.roundAtCore_out (C := .mpbfix c) rfl hx none 0 (by rw [hk]; exact hr)
    (by show (!_) = false; rw [hout]; rfl)).trans (by rw [overflowed_mpbfix c hw, hys])

/-- **`unfold_overflow` reproduces a bounded float** (`MPBFloatContext`; the finite part of `EFloatContext` /
`IEEEContext`): every deterministic context whose bounds are values of the format of the right sign, every rounding
mode and overflow mode, every finite non-zero operand: the emitted block — round under the unbounded counterpart,
compare, write the probed constant — returns the value the source returns, or raises the same error. -/
theorem unfold_overflow_id (c : MPBParams) (hk : c.k = some 0) (hp : 1 ≤ c.p)
    (hpos : BoundOk c.p c.nmin c.posMax) (hps : c.posMax.s = false)
    (hneg : BoundOk c.p c.nmin c.negMax) (hns : c.negMax.s = true) (x : RF) (hx : x.c ≠ 0) :
    valOf (mpbRoundAt c (.fin x) none false 0) = unfoldOverflowFloat c x := by
  rw [mpb_unfold_arm c (Or.inr hps) (Or.inr hns) x hx,
    valOf_ovfPostR _ _ (Or.inr hps) (Or.inr hns) (mpbOverflow c) x.s _
      (unbounded_sign (U := unboundedFloat c) (by rw [← hk]; rfl) rfl hx (round_float_sign x c.p _ c.rm hx hp)),
    ← probe_float c hk false 1 (Nat.le_refl _) hpos hps, ← probe_float c hk true 1 (Nat.le_refl _) hneg hns]
  rfl

/-- **`unfold_overflow` reproduces a bounded fixed-point format that does not wrap** (`MPBFixedContext`,
`FixedContext`, `SMFixedContext`; signed zero on or off, any NaN / infinity options). -/
theorem unfold_overflow_fixed_id (c : MPBFixParams) (hk : c.k = some 0) (hw : c.ov ≠ .wrap)
    (hpos : BoundOkFix c.nmin c.posMax) (hps : c.posMax.s = false)
    (hneg : BoundOkFix c.nmin c.negMax) (hns : c.negMax.s = true) (x : RF) (hx : x.c ≠ 0) :
    valOf (mpbfixRoundAt c (.fin x) none false 0) = unfoldOverflowFixed c x := by
  rw [mpbfix_unfold_arm c hw (Or.inr hps) (Or.inr hns) x hx,
    valOf_ovfPostR _ _ (Or.inr hps) (Or.inr hns) (mpbfixOverflow c) x.s _
      (unbounded_sign (U := unboundedFixed c) (by rw [← hk]; rfl) rfl hx (round_fixed_sign x c.nmin c.rm hx)),
    ← probe_fixed c hk hw false 1 (Nat.le_refl _) hpos hps, ← probe_fixed c hk hw true 1 (Nat.le_refl _) hneg hns]
  rfl

/-- **The documented recipe end to end** (`unfold_overflow → float_to_fixed → rescale_fixed`; the special operands
are constants by `special_unfold_id`): for every deterministic bounded float context whose bounds are values of
the format, every rounding mode and overflow mode, every shift `k` and every finite non-zero operand, the composed
program — scale the operand by `2^k`, round at digit position `n + k` under
`MPBFixedContext(·, reach · 2^k, rm, ASSERT)`, scale back, compare with the bounds, write the probed overflow
constant — returns the value the source context returns, or raises the same error. -/
theorem chain_id (c : MPBParams) (hk : c.k = some 0) (hp : 1 ≤ c.p)
    (hpos : BoundOk c.p c.nmin c.posMax) (hps : c.posMax.s = false)
    (hneg : BoundOk c.p c.nmin c.negMax) (hns : c.negMax.s = true) (k : Int) (x : RF) (hx : x.c ≠ 0) :
    obsEqV (valOf (mpbRoundAt c (.fin x) none false 0)) (chainFloat c k x) := by
  rw [unfold_overflow_id c hk hp hpos hps hneg hns x hx]
  -- both programs put the same comparison after a rounding; the two roundings are observably equal
  show obsEqV (ovfPost c.posMax c.negMax (valOf (probeFloat c false 1)) (valOf (probeFloat c true 1))
        ((unboundedFloat c).roundAtCore (.fin x) none false 0))
      (ovfPost c.posMax c.negMax (valOf (probeFloat c false 1)) (valOf (probeFloat c true 1))
        (rescaleProg (f2fTargetUnb c.rm (f2fPos c.p (some (c.emin, c.emin - c.p + 1)) none x.e)
          (if x.e < c.emin then c.emin else f2fPos c.p (some (c.emin, c.emin - c.p + 1)) none x.e + 1 + c.p)) k (.fin x)))
  apply ovfPost_congr
  rw [unboundedFloat, hk]
  refine obsEq_trans _ _ _ (float_to_fixed_unbounded_id c.p c.emin c.rm {} hp x hx) ?_
  unfold f2fUnbounded
  apply rescale_id _ rfl
  · intro w hw; cases hw
  · intro w hw; cases hw

/-- the sign-magnitude format `SMFixedContext(-4, 3, RTN, WRAP)` (values `k/16`, `|k| ≤ 3`) -/
def smWrap : MPBFixParams :=
  { nmin := -5, posMax := ⟨false, -4, 3⟩, negMax := ⟨true, -4, 3⟩, rm := .rtn, ov := .wrap, k := some 0, negZero := true,
    o := { enableNan := false, enableInf := false } }

/-- **Why a wrapping format must be refused — and why two probes do not decide it.**  For `smWrap` the probes at
`2 · maxval` and `2^64 · maxval` agree (both wrap to `−1/16`; `2 · neg_maxval` and `2^64 · neg_maxval` both to
`+1/16`), which is all `_Prober._overflow` checks, yet the overflowing operand `−7/4` wraps to `0`: the overflow
outcome of a wrapping format is not a constant of the sign.  (F36: before its repair `unfold_overflow` accepted
this context and the emitted program returned `1/16` for `−7/4`; it now refuses every wrapping format.) -/
theorem unfold_overflow_wrap_counterexample :
    probeFixed smWrap false 1 = probeFixed smWrap false 64 ∧ probeFixed smWrap true 1 = probeFixed smWrap true 64 ∧
    valOf (probeFixed smWrap true 1) = .ok (.fin ⟨false, -4, 1⟩) ∧
    valOf (mpbfixRoundAt smWrap (.fin ⟨true, -2, 7⟩) none false 0) = .ok (.fin ⟨false, 0, 0⟩) ∧
    unfoldOverflowFixed smWrap ⟨true, -2, 7⟩ = .ok (.fin ⟨false, -4, 1⟩) := by
  decide +kernel

/-- **`early_check` is sound where the threshold is a binade boundary** (partial).  An operand whose exponent
exceeds the bound's is certain to overflow: its unbounded rounding is past the bound, in every mode (`hnm`: the
operand's leading digit lies above the least position of the format, so the rounding keeps it).  For a format
whose bound tops its binade (every IEEE format) `2^(e(maxval) + 1)` is exactly `infval`, the threshold the rewrite
emits.  Not covered: a threshold strictly inside the bound's binade (`infval` of a format whose largest code is
taken by NaN, e.g. 480 for a bound of 448) — there soundness needs "rounding never crosses a representable value". -/
theorem early_check_sound_partial (c : MPBParams) (hp : 1 ≤ c.p)
    (hpc : c.posMax.c ≠ 0) (hps : c.posMax.s = false) (hnc : c.negMax.c ≠ 0) (hns : c.negMax.s = true)
    (x : RF) (hx : x.c ≠ 0) (hnm : c.nmin < x.e)
    (hbig : if x.s then c.negMax.e < x.e else c.posMax.e < x.e) :
    ∃ y fl, x.round (some c.p) (some c.nmin) c.rm (some 0) 0 false = .ok (y, fl) ∧
      (if y.s then y.lt c.negMax else y.gt c.posMax) = true := by
  obtain ⟨y, fl, y2, fl2, h1, h2, hys, hys2, heq, _, _, _⟩ := float_fixed_round x c.p (some c.nmin) c.rm hx hp
  have hfp : floatPos x c.p (some c.nmin) + 1 ≤ x.e := by unfold floatPos; simp only; omega
  obtain ⟨_, hg, hl⟩ := round_fixed_past x _ c.rm hx hfp c.posMax c.negMax hpc hps hnc hns hbig y2 fl2 h2
  refine ⟨y, fl, h1, ?_⟩
  rw [RF.gt_congr_left y y2 c.posMax heq, RF.lt_congr_left y y2 c.negMax heq, hg, hl, hys]
  cases x.s <;> rfl

/-! ## `float_to_fixed` on a bounded context -/

/-- **`float_to_fixed` reproduces a bounded float context.**  For every deterministic `MPBFloatContext` `c` with
`p ≥ 1` digits whose positive bound is a value of the format and whose negative bound is its mirror image (what
the rewrite requires), `emax` no smaller than the bound's exponent and than `emin`, every rounding mode, every overflow policy the
rewrite's probe accepts (`policyOf c = some pol`: INFINITE, SATURATING or NAN_ON_OVERFLOW — a context it cannot
reproduce has `policyOf c = none` and is refused), and every finite non-zero operand — normal, subnormal, at, just
past or far past the overflow threshold — rounding under the emitted
`MPBFixedContext(n, maxval, rm, overflow=…, …)` at the emitted position gives the same value (sign included), the
same `inexact` and the same `overflow` flag as rounding under `c`.  (The `true`: the emitted context keeps `-0`, the
case `src.neg_zero` of `_ctx_call`, as an `MPBFloatContext` does.) -/
theorem float_to_fixed_ctx_id (c : MPBParams) (pol : Policy) (emax : Int) (hk : c.k = some 0) (hp : 1 ≤ c.p)
    (hpos : BoundOk c.p c.nmin c.posMax) (hps : c.posMax.s = false) (hm : c.negMax = c.posMax.neg)
    (hemax : c.posMax.e ≤ emax) (hee : c.emin ≤ emax)
    (hpol : policyOf c = some pol) (x : RF) (hx : x.c ≠ 0) :
    obsEq (mpbRoundAt c (.fin x) none false 0) (f2fBounded c pol true emax x) := by
  obtain ⟨hneg, hns⟩ := negMax_mirror c hpos hps hm
  have hw : ∀ n, (f2fTarget c pol true n).ov ≠ .wrap := fun _ => by cases pol <;> (intro h; cases h)
  simp only [f2fBounded]
  by_cases hcl : x.e ≤ emax
  · -- the clamp is idle: the emitted position is the source's own (`float_ctx_as_fixed`), the two contexts have the
    -- same range, and their overflow arms agree (`float_to_fixed_policy`)
    rw [float_to_fixed_position _ _ _ _ (by intro M hM; injection hM with hM; omega)]
    refine float_ctx_as_fixed (C := .mpb c) (F := .mpbfix (f2fTarget c pol true _)) (by rw [← hk]; rfl) rfl hx hp
      fun y fl y' fl' h hs he hi ho => ?_
    have hin : (Ctx.mpbfix (f2fTarget c pol true (floatPos x c.p (some c.nmin)))).inRange y' = (Ctx.mpb c).inRange y := by
      rw [inRange_congr hs he]
      show (!(if y'.s then y'.lt c.posMax.neg else y'.gt c.posMax)) = !(if y'.s then y'.lt c.negMax else y'.gt c.posMax)
      rw [hm]
    have hs' := round_fixed_sign x _ c.rm hx y' fl' h
    refine post_obsEq hs hin.symm rfl rfl (fun _ => ⟨he, hi, ho⟩) fun _ => ?_
    rw [overflowed_mpb, overflowed_mpbfix _ (hw _), hs, hs']
    exact float_to_fixed_policy c pol true _ hk hpos hps hm hpol x.s
  · -- the clamp is active: the operand lies in a binade above the bound's, so both contexts overflow (the early check),
    -- to the constant of the operand's sign, and the two constants agree (`float_to_fixed_policy`)
    rw [float_to_fixed_position_clamped c.p c.emin (emax - c.p + 1) x.e (by omega) (by omega)]
    obtain ⟨y, fl, hr, hout⟩ := early_check_sound_partial c hp hpos.1 hps hneg.1 hns x hx (by show c.emin - c.p < x.e; omega)
      (by rw [hm, neg_e, ite_self]; omega)
    obtain ⟨y', fl', hr'⟩ : ∃ y' fl', x.round none (some (emax - c.p + 1 - 1)) c.rm = .ok (y', fl') :=
      ⟨_, _, round_fixed_spec x _ c.rm⟩
    obtain ⟨hs', hg, hl⟩ := round_fixed_past x _ c.rm hx (by omega) c.posMax c.posMax.neg hpos.1 hps hpos.1 (hm ▸ hns)
      (by rw [neg_e, ite_self]; omega) y' fl' hr'
    rw [overflow_is_constant_float c hk hp x y fl hx hr hout,
      overflow_is_constant_fixed (f2fTarget c pol true _) rfl (hw _) x y' fl' hx hr'
        (by show (if y'.s then y'.lt c.posMax.neg else y'.gt c.posMax) = true; rw [hs', hg, hl]; cases x.s <;> rfl)]
    exact float_to_fixed_policy c pol true _ hk hpos hps hm hpol x.s

/-! ## `unfold_special` -/

/-- **What a context makes of NaN, of an infinity and of a zero is a constant** of the special (and its sign):
it does not depend on the rounding position, on `exact`, on the random draw, nor (for a zero) on the exponent the
zero is written with — so one probe per special, as the rewrite makes, determines the branch value. -/
theorem special_unfold_id (C : Ctx) (hC : C ≠ .real) (s : Bool) (e : Int) (n : Option Int) (ex : Bool) (r : Nat) :
    C.roundAtCore (.nan s) n ex r = C.roundAtCore (.nan s) none false 0 ∧
    C.roundAtCore (.inf s) n ex r = C.roundAtCore (.inf s) none false 0 ∧
    C.roundAtCore (.fin ⟨s, e, 0⟩) n ex r = C.roundAtCore (.fin ⟨s, 0, 0⟩) none false 0 := by
  refine ⟨?_, ?_, ?_⟩
  · cases C <;> first | exact absurd rfl hC | rfl
  · cases C <;> first | exact absurd rfl hC | rfl
  · cases C <;> simp [Ctx.roundAtCore, mpbRoundAt, mpbfixRoundAt, expRoundAt, floatSpecial, fixedSpecial] at hC ⊢

/-- **Shedding a special-value rule from the format is invisible to every finite operand**: the NaN rule always,
the infinity rule exactly under `_shedable`'s condition (no overflow can reach it) — at every position, with or
without `exact`, stochastic or not.  (Non-wrapping `MPBFixedContext`; a wrapping one never reaches the rule.) -/
theorem special_shed_id (C : Ctx) (nan inf : Bool) (hinf : inf = true → reachesInf C = false)
    (hw : ∀ c, C = .mpbfix c → c.ov ≠ .wrap) (x : RF) (n : Option Int) (ex : Bool) (r : Nat) :
    (shedCtx C nan inf).roundAtCore (.fin x) n ex r = C.roundAtCore (.fin x) n ex r := by
  cases C with
  | mpb c =>
    exact Ctx.roundAtCore_fin_congr (C := .mpb c) (C' := shedCtx (.mpb c) nan inf) rfl rfl rfl rfl
      (fun _ _ => ovfResult_shed _ _ _ _ _ hinf ..) x n ex r
  | mpbfix c =>
    exact Ctx.roundAtCore_fin_congr (C := .mpbfix c) (C' := shedCtx (.mpbfix c) nan inf) rfl rfl rfl rfl
      (fun _ _ => ovfResult_shed _ _ _ _ _ hinf ..) x n ex r
  | _ => rfl

/-- shedding the infinity rule where an overflow reaches it *does* change a finite operand's result — the
condition is needed: `MPBFixedContext(-1, 3, RNE, OVERFLOW, enable_inf=True)` sends `8` to `+inf`, without the
rule it raises -/
theorem special_shed_counterexample :
    let c : MPBFixParams := { nmin := -1, posMax := ⟨false, 0, 3⟩, negMax := ⟨true, 0, 3⟩, rm := .rne, ov := .overflow,
                              k := some 0, negZero := true, o := { enableNan := false, enableInf := true } }
    reachesInf (.mpbfix c) = true ∧
    valOf ((Ctx.mpbfix c).roundAtCore (.fin ⟨false, 0, 8⟩) none false 0) = .ok (.inf false) ∧
    valOf ((shedCtx (.mpbfix c) false true).roundAtCore (.fin ⟨false, 0, 8⟩) none false 0) = .error .valueError := by
  decide +kernel

/-! ## `unfold_neg_zero` -/

/-- **`unfold_neg_zero` reproduces a bounded fixed-point format with a signed zero** under the conditions
`_sign_survives` checks: no wrapping; no consulted substitute is a zero; and (`NegEndOk`, the third route, added by
the F37 repair) the negative bound is not a zero that a negative overflow can land on — it is non-zero, or the
format raises on overflow, or a negative overflow goes to the infinity rule.  For *every* operand, rounding without
the signed zero and then giving a zero result the operand's sign (`fixZero` = `if t == 0: copysign(t, x) else t`)
is the original rounding — same value, flags and errors. -/
theorem neg_zero_unfold_id (c : MPBFixParams) (hk : c.k = some 0) (hnz : c.negZero = true) (hw : c.ov ≠ .wrap)
    (hsub : subsNotZero c.o = true) (hns : c.negMax.c = 0 ∨ c.negMax.s = true) (hend : NegEndOk c)
    (hps : c.posMax.s = false) (v : FV) :
    mpbfixRoundAt c v none false 0 =
      (match mpbfixRoundAt { c with negZero := false } v none false 0 with
       | .error e => .error e
       | .ok r => .ok (fixZero v r)) := by
  have hsub' := hsub
  unfold subsNotZero at hsub'
  cases v with
  | nan s =>
    unfold mpbfixRoundAt fixedSpecial
    simp only
    by_cases hen : c.o.enableNan = true
    · simp [hen, fixZero, FV.isZero]
    · cases hn : c.o.nanValue with
      | none => simp [hen]
      | some w =>
        have : w.isZero = false := by simp [hen, hn] at hsub'; exact hsub'.1
        simp [hen, fixZero, this]
  | inf s =>
    unfold mpbfixRoundAt fixedSpecial
    simp only
    by_cases hen : c.o.enableInf = true
    · simp [hen, fixZero, FV.isZero]
    · cases hn : c.o.infValue with
      | none => simp [hen]
      | some w =>
        have : w.isZero = false := by simp [hen, hn] at hsub'; exact hsub'.2
        simp [hen, fixZero, this]
  | fin x =>
    by_cases hc : x.c = 0
    · rw [mpbfix_zero c hc, mpbfix_zero _ hc]
      simp [hnz, fixZero, FV.isZero, copysignFV, FV.withSign, FV.sign]
    · rw [mpbfix_round c hc, mpbfix_round _ hc]
      dsimp only
      cases hr : x.round none (some c.nmin) c.rm c.k 0 false with
      | error e => rfl
      | ok yf =>
        obtain ⟨y, fl⟩ := yf
        have hys : y.s = x.s := round_fixed_sign x c.nmin c.rm hc y fl (hk ▸ hr)
        have hin : (Ctx.mpbfix { c with negZero := false }).inRange y = (Ctx.mpbfix c).inRange y := rfl
        simp only [Ctx.post, hin]
        cases (Ctx.mpbfix c).inRange y
        · -- past a bound: the arm does not look at `negZero`, and the restoration leaves it alone
          simp only [Bool.false_eq_true, if_false]
          rw [overflowed_mpbfix c hw, overflowed_mpbfix { c with negZero := false } hw, hys]
          show mpbfixOverflow c x.s x.s = match mpbfixOverflow c x.s x.s with | .error e => .error e | .ok r => .ok (fixZero (.fin x) r)
          cases ho : mpbfixOverflow c x.s x.s with
          | error e => rfl
          | ok r => exact congrArg Except.ok (fixZero_overflow c hsub hns hend hps x r ho).symm
        · -- in range: a zero made positive gets back the operand's sign, which the rounding had kept
          obtain ⟨ys, ye, yc⟩ := y
          subst hys
          by_cases hz : yc = 0 <;> cases hxs : x.s <;>
            simp [Ctx.dropsNegZero, RF.dropNegZero, hnz, hz, hxs, fixZero, FV.isZero, copysignFV, FV.withSign, FV.sign]

/-- **The third route (F37).**  `MPBFixedContext(-1, 100, RNE, SATURATE, neg_maxval=-0, enable_neg_zero=True)`: a
negative overflow saturates to the end of the range, which for a zero negative bound is `+0`; the emitted program
restores the operand's sign and returns `−0`.  Before the repair `_sign_survives` did not refuse this context
(`q(-5.0) = +0.0`, `unfold_neg_zero(q)(-5.0) = -0.0`); `NegEndOk` is false for it. -/
theorem neg_zero_unfold_counterexample :
    let c : MPBFixParams := { nmin := -1, posMax := ⟨false, 0, 100⟩, negMax := ⟨true, 0, 0⟩, rm := .rne, ov := .saturate,
                              k := some 0, negZero := true, o := { enableNan := false, enableInf := false } }
    subsNotZero c.o = true ∧ c.ov ≠ .wrap ∧ ¬ NegEndOk c ∧
    valOf (mpbfixRoundAt c (.fin ⟨true, 0, 5⟩) none false 0) = .ok (.fin ⟨false, 0, 0⟩) ∧
    valOf (match mpbfixRoundAt { c with negZero := false } (.fin ⟨true, 0, 5⟩) none false 0 with
           | .error e => .error e
           | .ok r => .ok (fixZero (.fin ⟨true, 0, 5⟩) r)) = .ok (.fin ⟨true, 0, 0⟩) := by
  refine ⟨by decide, by decide, ?_, by decide +kernel, by decide +kernel⟩
  intro h
  rcases h with h | h | h
  · exact h rfl
  · cases h
  · cases h.1

/-! ## `elim_round` / `insert_round` -/

/-- **A rounding whose operand the format represents is the identity** (the fact `round_is_identity` must
establish before `elim_round` deletes a rounding or `insert_round` adds one): a non-zero value with at most `p`
digits, all above `nmin`, is returned unchanged and unflagged by the float rounding core, in every mode.  (That the
*inference* `AbstractFormat.__le__` delivers this premise is C14's `le_sound` / `round_identity_sound_partial`.) -/
theorem round_identity_sound (x : RF) (p : Nat) (nmin : Int) (rm : RM) (hc : x.c ≠ 0) (hp : 1 ≤ p)
    (hd : bitLength x.c ≤ p) (hn : nmin < x.exp) :
    ∃ fl, x.round (some p) (some nmin) rm = .ok (x, fl) ∧ fl.inexact = false :=
  round_float_representable x p nmin rm hc hp hd hn

/-- … and a value on the grid of a fixed-point format is returned unchanged by the fixed-point core. -/
theorem round_identity_sound_fixed (x : RF) (n : Int) (rm : RM) (h : x.exp > n) :
    ∃ fl, x.round none (some n) rm = .ok (x, fl) ∧ fl.inexact = false :=
  round_fixed_representable x n rm h

/-- the F10 shape at the level of the rounding: an FP32 value is *not* returned unchanged by an 11-digit rounding
with no least exponent — deleting `round` under `MPFloatContext(11)` changes `1 + 2^-23` into itself instead of `1` -/
theorem round_identity_needs_precision :
    ((⟨false, -23, 8388609⟩ : RF).round (some 11) none .rne).toOption = some (⟨false, -10, 1024⟩, { inexact := true }) := by
  decide +kernel

/-! ## Non-vacuity: concrete contexts meeting the hypotheses, evaluated by the kernel -/

/-- IEEE half as an `MPBFloatContext`: `p = 11`, `emin = −14`, bound `65504 = 2047 · 2^5` -/
def half : MPBParams :=
  { p := 11, emin := -14, posMax := ⟨false, 5, 2047⟩, negMax := ⟨true, 5, 2047⟩, rm := .rne, ov := .overflow, k := some 0, o := {} }

example : half.k = some 0 ∧ 1 ≤ half.p ∧ BoundOk half.p half.nmin half.posMax ∧ half.posMax.s = false ∧
    half.negMax = half.posMax.neg ∧ half.posMax.e ≤ 15 ∧ half.emin ≤ 15 ∧ policyOf half = some .infinite := by
  refine ⟨rfl, by decide, ⟨by decide, by decide, by decide⟩, rfl, rfl, by decide, by decide, by decide +kernel⟩

/-- 65519.99… rounds to 65504, the tie 65520 overflows, a subnormal tie rounds to even: source and lowered agree -/
example : valOf (mpbRoundAt half (.fin ⟨false, 0, 65520⟩) none false 0) = .ok (.inf false) ∧
    valOf (f2fBounded half .infinite true 15 ⟨false, 0, 65520⟩) = .ok (.inf false) ∧
    valOf (f2fBounded half .infinite true 15 ⟨false, -4, 1048319⟩) = .ok (.fin ⟨false, 5, 2047⟩) ∧
    valOf (f2fBounded half .infinite true 15 ⟨false, -25, 3⟩) = .ok (.fin ⟨false, -24, 2⟩) ∧
    valOf (mpbRoundAt half (.fin ⟨false, -25, 3⟩) none false 0) = .ok (.fin ⟨false, -24, 2⟩) ∧
    valOf (f2fBounded half .infinite true 15 ⟨true, 200, 1⟩) = .ok (.inf true) := by
  decide +kernel

/-- the whole recipe on FP16 (shift `k = 11`): the tie 65520 overflows, 65519.9… rounds to 65504, a subnormal tie
rounds to even -/
example : chainFloat half 11 ⟨false, 0, 65520⟩ = .ok (.inf false) ∧
    obsEqV (chainFloat half 7 ⟨false, -4, 1048319⟩) (.ok (.fin ⟨false, 5, 2047⟩)) ∧
    obsEqV (chainFloat half 25 ⟨false, -25, 3⟩) (.ok (.fin ⟨false, -24, 2⟩)) := by
  decide +kernel

/-- the emitted positions for FP16: `logb = 0 ↦ −11` (`exp − 1` with `exp = −10`), subnormal `↦ −25`, clamped `↦ 4` -/
example : f2fPos 11 (some (-14, -24)) (some 5) 0 = -11 ∧ f2fPos 11 (some (-14, -24)) (some 5) (-20) = -25 ∧
    f2fPos 11 (some (-14, -24)) (some 5) 40 = 4 := by decide

/-- `FixedContext(True, -4, 8, RTZ, SATURATE)` -/
def q44 : MPBFixParams :=
  { nmin := -5, posMax := ⟨false, -4, 127⟩, negMax := ⟨true, -4, 128⟩, rm := .rtz, ov := .saturate, k := some 0, negZero := false,
    o := { enableNan := false, enableInf := false } }

example : q44.k = some 0 ∧ q44.ov ≠ .wrap ∧ BoundOkFix q44.nmin q44.posMax ∧ BoundOkFix q44.nmin q44.negMax ∧
    (∀ w, q44.o.nanValue = some w → w.isNar = true) := by
  refine ⟨rfl, by decide, ⟨by decide, by decide⟩, ⟨by decide, by decide⟩, ?_⟩
  intro w h; cases h

example : valOf (mpbfixRoundAt q44 (.fin ⟨true, 0, 1000⟩) none false 0) = .ok (.fin ⟨true, -4, 128⟩) ∧
    unfoldOverflowFixed q44 ⟨true, 0, 1000⟩ = .ok (.fin ⟨true, -4, 128⟩) ∧
    valOf (rescaleProg q44 4 (.fin ⟨false, -6, 13⟩)) = .ok (.fin ⟨false, -4, 3⟩) ∧
    valOf (mpbfixRoundAt q44 (.fin ⟨false, -6, 13⟩) none false 0) = .ok (.fin ⟨false, -4, 3⟩) := by
  decide +kernel

end Fpy.Props.C10
