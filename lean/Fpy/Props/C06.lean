/-
C06 — A numeric literal denotes exactly the number written.
Spec: `Fpy/Spec/Literal.lean` (the positional value of a spelling); model of the code: `Fpy/Model/Literal.lean`.

Vocabulary: a spelling `s : Sci` has a sign, integer digits, optional fraction digits and an
optional exponent; `s.render pre E` is its text, `s.value base b` the number it denotes
(`Σ dᵢ·baseⁱ`, scaled by `b^exponent`).  A float token of Python source `t : PyFloat` has digit
groups that may carry `_` separators; `t.render E` is its text, `t.value` the number it denotes.
Limits of the implementation (hypotheses, not part of the property): `withinB base s` (`Proof/Literal`) /
`FloatWithin t` (`Proof/LiteralFront`) — no digit group longer than CPython's `int(str)` limit of 4300 digits, and at most
6 significant digits in the exponent of a float token (repaired front end only).

State of the code: findings F24 (negation of an already negative zero), F25 (`-0` as an integer
argument) and F26 (`0x.8`) are repaired and the theorems below are about the repaired code.
F5 is NOT repaired: a decimal float token still reaches the parser as a Python `float`;
`literal_counterexample` / `literal_exact_partial` describe the current code, and
`literal_exact_repaired` proves that the proposed repair (`parseFloatRepaired`) has the property.
-/
import Fpy.Proof.LiteralFront
namespace Fpy.Props.C06
open Fpy Fpy.Lit Fpy.Spec.Lit

/-- **decimal**: every well-formed decimal spelling is accepted with exactly its positional value
(or refused with `ValueError` when a digit group exceeds the `int(str)` limit) -/
theorem decnum_spec (s : Sci) (h : s.WF 10) :
    decnumCore (s.render [] 'e') = if withinB 10 s then .ok (s.value 10 10) else .error .value := by
  rw [decnumCore_render s h, sciEval_eq 10 10 (by decide) s h]

/-- … and nothing else is accepted: a string with a value is the rendering of a well-formed
spelling, and the value is that spelling's -/
theorem decnum_accepts_only (cs : List Char) (v : Rat) (h : decnumCore cs = .ok v) :
    ∃ s : Sci, s.WF 10 ∧ withinB 10 s = true ∧ cs = s.render [] 'e' ∧ v = s.value 10 10 := by
  cases hm : matchDec cs with
  | none => simp [decnumCore, hm] at h
  | some g =>
    obtain ⟨s, hwf, rfl⟩ := matchDec_only cs hm
    obtain ⟨hw, hv⟩ := ok_of_ite h (decnum_spec s hwf)
    exact ⟨s, hwf, hw, rfl, hv⟩

/-- by definition `decnum` strips surrounding blanks first; that they change nothing for a spelling is
`decnum_render` (through `strip_render`) -/
theorem decnum_strip (cs : List Char) : decnum cs = decnumCore (strip cs) := rfl

theorem decnum_render (s : Sci) (h : s.WF 10) :
    decnum (s.render [] 'e') = if withinB 10 s then .ok (s.value 10 10) else .error .value := by
  rw [decnum_strip, strip_render 10 [] nofun 'e' s h, decnum_spec s h]

/-- **hexadecimal float**: every well-formed spelling — the form without an integer part, `0x.8`,
included — is accepted with its positional value (digits in base 16, exponent a power of two) -/
theorem hexnum_spec (s : Sci) (h : s.WF 16) :
    hexnumCore (s.render ['0', 'x'] 'p') = if withinB 16 s then .ok (s.value 16 2) else .error .value := by
  rw [hexnumCore_render s h, sciEval_eq 16 2 (by decide) s h]

theorem hexnum_accepts_only (cs : List Char) (v : Rat) (h : hexnumCore cs = .ok v) :
    ∃ s : Sci, s.WF 16 ∧ withinB 16 s = true ∧ cs = s.render ['0', 'x'] 'p' ∧ v = s.value 16 2 := by
  cases hm : matchHex cs with
  | none => simp [hexnumCore, hm] at h
  | some g =>
    obtain ⟨s, hwf, rfl⟩ := matchHex_only cs hm
    obtain ⟨hw, hv⟩ := ok_of_ite h (hexnum_spec s hwf)
    exact ⟨s, hwf, hw, rfl, hv⟩

theorem hexnum_render (s : Sci) (h : s.WF 16) :
    hexnum (s.render ['0', 'x'] 'p') = if withinB 16 s then .ok (s.value 16 2) else .error .value := by
  rw [hexnum, strip_render 16 ['0', 'x'] (by decide) 'p' s h, hexnum_spec s h]

/-- **digits(m, e, b)** is `m · b^e`; the only refusal is `0` to a negative power -/
theorem digits_spec (m e b : Int) :
    digitsToFraction m e b = if b = 0 ∧ e < 0 then .error .zeroDiv else .ok (digitsValue m e b) := by
  simp only [digitsToFraction, fracPow, digitsValue, Bool.and_eq_true, beq_iff_eq, decide_eq_true_eq]
  split <;> rfl

/-- **rational(p, q)** is `p / q`; the only refusal is `q = 0` -/
theorem rational_spec (p q : Int) :
    rationalToFraction p q = if q = 0 then .error .zeroDiv else .ok (rationalValue p q) := by
  unfold rationalToFraction rationalValue
  by_cases h : q = 0 <;> simp [h]

/-- an **integer token** (decimal digits with optional `_` separators, as Python accepts them) is
that integer, up to the 4300-digit limit of `int(str)` (`hlim`) -/
theorem integer_spec (g : Group) (hne : g ≠ []) (hg : g.WF)
    (hlz : ¬ (g.digits.head? = some '0' ∧ ∃ c ∈ g.digits, c ≠ '0')) (hlim : g.digits.length ≤ maxStrDigits) :
    frontValue (.num g.render) = .ok (.rat (intVal 10 g.digits)) := by
  unfold frontValue parseExpr
  simp only [pyNumber_decint g hne hg hlz hlim, bind, Except.bind, parseConstant]
  rfl

/-! ### Decimal float tokens: the trip through Python's `float` (finding F5, not repaired)

`Parser._parse_constant` receives the `ast.Constant` Python built, i.e. a binary64 number, and
turns it into `Integer(int(x))` when `x` is integral and into `Decnum(str(x))` otherwise.
So the value of a decimal float token is that of the double nearest to the spelling (when integral)
or of the shortest decimal that reads back as that double — not the spelling's. -/

theorem float_token_path (cs ip fp : List Char) (ex : Option (List Char))
    (h : pyNumber cs = .ok (.float ip fp ex)) :
    parseExpr (.num cs) = .ok (parseFloatLegacy (floatValue ip fp ex)) := by
  unfold parseExpr
  simp only [h, bind, Except.bind, parseConstant]

/-- **Counterexamples** (current code): spellings whose front-end value differs from the number
written (each line: the value obtained; it is not the value of the spelling). -/
theorem literal_counterexample :
    -- 0.1234567890123456789  ↦  0.12345678901234568
    ((frontValue (.num "0.1234567890123456789".toList)).toOption
        = some (.rat (1543209862654321 / 12500000000000000)) ∧
      (⟨.none, ['0'], some "1234567890123456789".toList, none⟩ : Sci).value 10 10
        ≠ 1543209862654321 / 12500000000000000) ∧
    -- 1e23  ↦  99999999999999991611392
    ((frontValue (.num "1e23".toList)).toOption = some (.rat 99999999999999991611392) ∧
      (⟨.none, ['1'], none, some (.none, ['2', '3'])⟩ : Sci).value 10 10 ≠ 99999999999999991611392) ∧
    -- 9007199254740993.0  ↦  9007199254740992
    ((frontValue (.num "9007199254740993.0".toList)).toOption = some (.rat 9007199254740992) ∧
      (⟨.none, "9007199254740993".toList, some ['0'], none⟩ : Sci).value 10 10 ≠ 9007199254740992) ∧
    -- a spelling that *is* a binary64 number is still changed: 0.1000000000000000055511151231257827021181583404541015625 ↦ 0.1
    ((frontValue (.num "0.1000000000000000055511151231257827021181583404541015625".toList)).toOption = some (.rat (1 / 10)) ∧
      (⟨.none, ['0'], some "1000000000000000055511151231257827021181583404541015625".toList, none⟩ : Sci).value 10 10 ≠ 1 / 10) ∧
    -- beyond the binary64 range: 1e999 is an error, 1e-400 is zero, -1e-400 is the negative zero
    ((frontValue (.num "1e999".toList)).toOption = none ∧
      (frontValue (.num "1e-400".toList)).toOption = some (.rat 0) ∧
      (frontValue (.neg (.num "1e-400".toList))).toOption = some .negZero) := by
  -- `String.toList` of a literal, when evaluated, decodes the literal's UTF-8 bytes at a cost quadratic in its
  -- length; `String.toList_ofList` reads the characters off the literal instead (here and in the examples below)
  repeat rw [String.toList_ofList]
  decide +kernel

/-- **Partial result** (current code): a float token evaluates exactly in two situations, which
together are all there is —
* the nearest double is integral and equals the spelling's value `r`, or
* the nearest double is not integral and the shortest decimal that reads back as it has value `r`.
What is *not* proved is a syntactic sufficient condition (e.g. "at most 15 significant digits
and inside the normal range"): that needs the error analysis of binary64 rounding and of the
shortest-digits search, which is not formalised here.  The hypotheses are decidable on any
concrete spelling (see the examples below). -/
theorem literal_exact_partial (cs ip fp : List Char) (ex : Option (List Char)) (x : RF) (r : Rat)
    (h : pyNumber cs = .ok (.float ip fp ex)) (hv : floatValue ip fp ex = .fin x)
    (hx : (∃ i : Int, x.toInt? = some i ∧ (i : Rat) = r) ∨
          (x.toInt? = none ∧ (Node.decnum (reprFloat (.fin x))).asReal = .ok (.rat r))) :
    frontValue (.num cs) = .ok (.rat r) := by
  unfold frontValue
  rw [float_token_path cs ip fp ex h, hv]
  cases hx with
  | inl hi =>
    obtain ⟨i, hi, hr⟩ := hi
    simp only [parseFloatLegacy, hi, bind, Except.bind, Node.evalReal, Node.asReal, Node.asRational, Except.map, hr]
  | inr hn =>
    simp only [parseFloatLegacy, hn.1, bind, Except.bind, Node.evalReal, hn.2]

/-- **`literal_exact_repaired`** (the proposed repair of F5, `parseFloatRepaired`: re-read the
token's text): a **decimal float token** — any digit count, with or without a point, an exponent
(`e` or `E`, signed or not), `_` separators, leading and trailing zeros, values far outside the
binary64 range — evaluates under the real context to exactly the positional value of its
spelling.  Nothing depends on how Python's own float parser would have rounded it. -/
theorem literal_exact_repaired (E : Char) (hE : E = 'e' ∨ E = 'E') (t : PyFloat) (h : t.WF) (hl : FloatWithin t) :
    frontValueRepaired (t.render E) = .ok (.rat t.value) := by
  have hpn := pyNumber_of_decimal (pyDecimal_float E hE t h)
  have hdec : decnum (floatText t.ip.digits t.fp.digits (exText t.ex)) = .ok t.value := by
    rw [floatText_eq, decnum_render _ (floatSci_wf t h), floatSci_within t hl, floatSci_value]; rfl
  unfold frontValueRepaired
  simp only [hpn, bind, Except.bind, parseFloatRepaired, expDigits_exText t h hl, ↓reduceIte, hdec]
  by_cases hden : t.value.den = 1
  · simp only [hden, beq_self_eq_true, ↓reduceIte, Node.evalReal, Node.asReal, Node.asRational, Except.map,
      rat_of_den_one _ hden]
  · -- not an integer, so not zero: the `Decnum` of the text keeps its value
    have hnz : (t.value == 0) = false := beq_eq_false_iff_ne.2 fun e => hden (by rw [e]; rfl)
    simp only [beq_eq_false_iff_ne.2 hden, Bool.false_eq_true, ↓reduceIte, Node.evalReal, Node.asReal, Node.asRational, hdec,
      bind, Except.bind, hnz, Bool.false_and, pure, Except.pure]

/-- `as_real()` of a decimal literal node: a negative zero exactly when the spelling has a `-`
sign and the value is zero; otherwise the positional value -/
theorem decnum_as_real (s : Sci) (h : s.WF 10) (hw : withinB 10 s = true) :
    (Node.decnum (s.render [] 'e')).asReal =
      .ok (if s.isNegZero 10 10 then .negZero else .rat (s.value 10 10)) := by
  unfold Node.asReal Node.asRational
  simp only [decnum_render s h, hw, ↓reduceIte, bind, Except.bind, pure, Except.pure,
    lstrip_render_head 10 [] nofun 'e' s h, Sci.isNegZero, Bool.and_comm]

theorem hexnum_as_real (s : Sci) (h : s.WF 16) (hw : withinB 16 s = true) :
    (Node.hexnum (s.render ['0', 'x'] 'p')).asReal =
      .ok (if s.isNegZero 16 2 then .negZero else .rat (s.value 16 2)) := by
  unfold Node.asReal Node.asRational
  simp only [hexnum_render s h, hw, ↓reduceIte, bind, Except.bind, pure, Except.pure,
    lstrip_render_head 16 ['0', 'x'] (by decide) 'p' s h, Sci.isNegZero, Bool.and_comm]

def flipZero : LitVal → LitVal
  | .negZero => .rat 0
  | .rat _ => .negZero

/-- **negated-zero fold**: `-x` for a literal `x` whose value is zero (whatever its form and
whatever its sign) evaluates to the zero of the opposite sign: `-0.0`, `-0` are the negative zero,
`-(-0.0)` is the positive zero again -/
theorem neg_zero_fold (n : Node) (hr : n.isRationalVal = true) (h0 : n.asRational = .ok 0)
    (v : LitVal) (hv : n.asReal = .ok v) :
    ∃ m, negFold n = .ok m ∧ m.evalReal = .ok (flipZero v) := by
  cases v with
  | negZero => exact ⟨.integer 0, by simp [negFold, hr, h0, hv, bind, Except.bind, pure, Except.pure], rfl⟩
  | rat r =>
    exact ⟨.decnum negZeroText, by simp [negFold, hr, h0, hv, bind, Except.bind, pure, Except.pure],
      (eq_ok_of_toOption (by decide +kernel) : (Node.decnum negZeroText).evalReal = .ok .negZero)⟩

/-- negating a non-zero literal negates its value exactly (an `Integer` is folded, anything else
becomes a `Neg` operation, which is exact under the real context) -/
theorem neg_fold_value (n : Node) (hr : n.isRationalVal = true) (r : Rat) (h : n.asRational = .ok r)
    (hv : n.asReal = .ok (.rat r)) (hr0 : r ≠ 0) :
    ∃ m, negFold n = .ok m ∧ m.evalReal = .ok (.rat (-r)) := by
  have hb : (r == 0) = false := beq_eq_false_iff_ne.2 hr0
  cases hn : n with
  | integer v =>
    subst hn
    refine ⟨.integer (-v), ?_, ?_⟩
    · simp [negFold, Node.isRationalVal, h, hb, bind, Except.bind, pure, Except.pure]
    · simp only [Node.asRational, Except.ok.injEq] at h
      simp [Node.evalReal, Node.asReal, Node.asRational, Except.map, ← h, Rat.intCast_neg]
  | neg a => subst hn; cases hr
  | _ =>
    refine ⟨.neg n, ?_, ?_⟩ <;> subst hn
    · simp [negFold, Node.isRationalVal, h, hb, bind, Except.bind, pure, Except.pure]
    · simp [Node.evalReal, hv, bind, Except.bind, pure, Except.pure, hb]

/-- a zero of either sign is still the integer `0` where an integer argument is wanted
(`rational(-0, 3)`, `digits(5, -0, 2)`) -/
theorem integer_argument_zero :
    asInteger (.integer 0) = .ok 0 ∧ asInteger (.decnum negZeroText) = .ok 0 :=
  ⟨rfl, eq_ok_of_toOption (by decide +kernel)⟩

/-- `round(<literal>)` under a context is the context's rounding of the literal's exact value:
nothing is rounded before (the literal is lowered to an exact `Fraction`, or to the exact
negative zero).  The content is in the definition `roundLit`, which mirrors the byte-code interpreter
(`fpy2/interpret/byte.py`): `_rational_to_ast` lowers every literal node to `__fpy_fraction(num, den)` of
`e.as_real()`, or to `__fpy_negzero()`, and `Round` is compiled to `ops.round(<that>, ctx=ctx)`. -/
theorem literal_once (C : Ctx) (n : Node) (v : LitVal) (h : n.asReal = .ok v) :
    roundLit C n = .res (C.round v.operand) := by
  unfold roundLit; simp [h]

theorem literal_once_decimal (C : Ctx) (s : Sci) (h : s.WF 10) (hw : withinB 10 s = true)
    (hz : s.isNegZero 10 10 = false) :
    roundLit C (.decnum (s.render [] 'e')) = .res (C.round (.frac (s.value 10 10).num (s.value 10 10).den)) := by
  rw [literal_once C _ _ (decnum_as_real s h hw)]; simp [hz, LitVal.operand]

/-! ## Non-vacuity: concrete spellings, evaluated by the kernel -/

example : (⟨.minus, ['1', '2'], some ['5', '0'], some (.minus, ['0', '3'])⟩ : Sci).render [] 'e' = "-12.50e-03".toList ∧
    (⟨.minus, ['1', '2'], some ['5', '0'], some (.minus, ['0', '3'])⟩ : Sci).value 10 10 = -1 / 80 := by
  repeat rw [String.toList_ofList]
  decide +kernel
example : (decnum " -12.50e-03\n".toList).toOption = some (-1 / 80) := by
  repeat rw [String.toList_ofList]
  decide +kernel
example : (hexnum "0x1.8p3".toList).toOption = some 12 ∧ (hexnum "-0xa.8p-1".toList).toOption = some (-21 / 4) := by
  repeat rw [String.toList_ofList]
  decide +kernel
example : (hexnum "0x.8".toList).toOption = some (1 / 2) ∧ (decnum ".5".toList).toOption = some (1 / 2) := by
  repeat rw [String.toList_ofList]
  decide +kernel
example : (digitsToFraction 3 (-2) 10).toOption = some (3 / 100) ∧ (digitsToFraction 1 (-1) 0).toOption = none ∧
    (rationalToFraction 1 (-3)).toOption = some (-1 / 3) := by decide +kernel
-- a float token with separators: `1_0.0_1E0_1`
example : (⟨[(false, '1'), (true, '0')], true, [(false, '0'), (true, '1')], some (.none, [(false, '0'), (true, '1')])⟩ : PyFloat).render 'E'
      = "1_0.0_1E0_1".toList ∧
    (⟨[(false, '1'), (true, '0')], true, [(false, '0'), (true, '1')], some (.none, [(false, '0'), (true, '1')])⟩ : PyFloat).value = 1001 / 10 := by
  repeat rw [String.toList_ofList]
  decide +kernel
-- the repaired function on the spellings that Python's float changes
example : (frontValueRepaired "0.1234567890123456789".toList).toOption = some (.rat (1234567890123456789 / 10000000000000000000)) ∧
    (frontValueRepaired "1e23".toList).toOption = some (.rat 100000000000000000000000) ∧
    (frontValueRepaired "9007199254740993.0".toList).toOption = some (.rat 9007199254740993) ∧
    (frontValueRepaired "1e-400".toList).toOption = some (.rat (1 / (10 : Rat) ^ 400)) ∧
    (frontValueRepaired "1_0.0_1E0_1".toList).toOption = some (.rat (1001 / 10)) ∧
    (frontValueRepaired "1.".toList).toOption = some (.rat 1) ∧ (frontValueRepaired ".5".toList).toOption = some (.rat (1 / 2)) := by
  repeat rw [String.toList_ofList]
  decide +kernel
-- the hypotheses of `literal_exact_partial` hold for everyday literals (current code)
example : (frontValue (.num "0.1".toList)).toOption = some (.rat (1 / 10)) ∧
    (frontValue (.num "3.14".toList)).toOption = some (.rat (157 / 50)) ∧
    (frontValue (.num "1e-6".toList)).toOption = some (.rat (1 / 1000000)) ∧
    (frontValue (.num "2.5e-3".toList)).toOption = some (.rat (1 / 400)) ∧
    (frontValue (.num "1e22".toList)).toOption = some (.rat 10000000000000000000000) ∧
    (frontValue (.num "1_0.0_1E0_1".toList)).toOption = some (.rat (1001 / 10)) := by
  repeat rw [String.toList_ofList]
  decide +kernel
example : (frontValue (.num "123456789012345678901234567890".toList)).toOption =
    some (.rat 123456789012345678901234567890) := by
  repeat rw [String.toList_ofList]
  decide +kernel
example : ((Node.decnum "-0.0".toList).asReal).toOption = some .negZero ∧
    ((Node.hexnum "-0x0p0".toList).asReal).toOption = some .negZero ∧
    (frontValue (.neg (.num ['0']))).toOption = some .negZero ∧
    (frontValue (.neg (.num "0.0".toList))).toOption = some .negZero ∧
    (frontValue (.pos (.num "0.0".toList))).toOption = some (.rat 0) ∧
    (frontValue (.neg (.neg (.num "0.0".toList)))).toOption = some (.rat 0) ∧
    (frontValue (.neg (.hexfloat "-0x0".toList))).toOption = some (.rat 0) ∧
    (frontValue (.neg (.neg (.neg (.num ['0']))))).toOption = some .negZero := by
  repeat rw [String.toList_ofList]
  decide +kernel
example : (frontValue (.rational (.neg (.num ['0'])) (.num ['3']))).toOption = some (.rat 0) ∧
    (frontValue (.digits (.num ['5']) (.neg (.num ['0'])) (.num ['2']))).toOption = some (.rat 5) := by decide +kernel
example : (match roundLit (.mp 3 .rne (some 0) {}) (.decnum "0.1".toList) with
    | .res (.ok r) => some r.v | _ => none) = some (.fin ⟨false, -6, 6⟩) := by
  repeat rw [String.toList_ofList]
  decide +kernel

end Fpy.Props.C06
