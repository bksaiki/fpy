/-
C03 — Elementary functions and constants are correctly rounded.
The model of the wrapper: `Fpy/Model/Elem.lean`; helper lemmas: `Fpy/Proof/{Elem,RoundQuot}.lean`; the re-rounding lemma
is C02's (`Fpy/Proof/RoundOdd.lean`).

What is proved and what is validated.  MPFR is external and transcendental values are not computable, so MPFR enters
as an ORACLE `t : Nat → RF × Bool` ("at precision `q`, toward zero: this result, ternary value non-zero?").  PROVED
here: IF the oracle honours MPFR's contract for a value `v`, THEN `ops.<fn>(x, ctx=C)` — precision selection of
`mpfr_call`, `_round_odd`, the context's rounding — is the correct rounding of `v` under `C`, for every deterministic
context family but `ExpContext` and all eight modes (`elemEval C t`; `Ctx.det`, `Res.agree` as in C02: same value, same
`inexact`, same `overflow`).  VALIDATED per case by the harness (enclosure oracle): that MPFR honours the contract.

The contract is stated without real numbers (core Lean has none): `Coherent t` — the answers are non-zero, have at
most `q` digits (exactly `q` when flagged) and every coarser answer is the truncation of every finer one, flags OR-ed.
That is precisely "`t q` is the toward-zero truncation of ONE real `v` to `q` digits and the flag says `v ≠ t q`": a
coherent family is a binary expansion.  "The correct rounding of `v`" is the context's rounding of `refDyadic t W`
(the `W`-digit truncation plus half a unit in the last place when flagged), a dyadic number that lies strictly between
the same two consecutive `W`-digit numbers as `v`, for ANY `W` from the working precision upward; the theorem holds
for all such `W` at once, so the choice is immaterial (`correct_rounding_well_defined`).
-/
import Fpy.Proof.Elem
namespace Fpy.C03
open Fpy Fpy.Spec

/-- **Main theorem.**  If `t` honours the contract for some real value, `ops.<fn>` / `ops.const_*` under `C` returns what
`C` makes of the dyadic stand-in of the value at any level `W` at or above the working precision the wrapper chose
(`hW` reads the value's normalized exponent off `(t 1).1.e`: every level of a coherent family shows the same one, level
1 is the first).

`_partial`: the statement is complete inside Lean; what is NOT formal is the passage to real numbers (none in core
Lean): (i) every real `v ≠ 0` yields a coherent family and vice versa, (ii) `refDyadic t W` rounds like `v` because it
compares with every `W`-digit number as `v` does.  Both are formal for dyadic `v` (`wrapper_correct_dyadic`: the stand-in
is `v` itself) and, at the level of the arithmetic specification, for every rational `v`
(`wrapper_correct_rat` + `rat_standin_is_code` + `rational_code_rounds`). -/
theorem wrapper_correct_partial (C : Ctx) (hC : C.det) (t : Oracle) (ht : Coherent t) (W : Nat)
    (hW : workPrec C.roundParams.1 C.roundParams.2 (t 1).1.e ≤ W) :
    Res.agree (elemEval C t) (C.roundAtCore (.fin (refDyadic t W)) none false 0) := by
  have hW1 : 1 ≤ W := by have := two_le_workPrec C.roundParams.1 C.roundParams.2 (t 1).1.e; omega
  obtain ⟨hc, he, _, hall⟩ := coherent_witness t ht W hW1
  apply wrapper_dyadic C hC t (refDyadic t W) hc W _ hall
  have hE : (t 1).1.e = (t W).1.e := by
    rw [ht.step 1 W (Nat.le_refl 1) hW1]
    exact (truncRF_props (t W).1 1 (Nat.le_refl 1) (ht.nz W hW1)).2.1
  rw [he, ← hE]
  exact hW

/-- the reference "correct rounding of `v`" does not depend on the level chosen -/
theorem correct_rounding_well_defined (C : Ctx) (hC : C.det) (t : Oracle) (ht : Coherent t) (W W' : Nat)
    (hW : workPrec C.roundParams.1 C.roundParams.2 (t 1).1.e ≤ W)
    (hW' : workPrec C.roundParams.1 C.roundParams.2 (t 1).1.e ≤ W') :
    Res.agree (C.roundAtCore (.fin (refDyadic t W)) none false 0) (C.roundAtCore (.fin (refDyadic t W')) none false 0) :=
  Res.agree_trans (Res.agree_symm (wrapper_correct_partial C hC t ht W hW)) (wrapper_correct_partial C hC t ht W' hW')

/-- **Dyadic values, full strength** (no stand-in): the result is `C`'s rounding of `x` itself. -/
theorem wrapper_correct_dyadic (C : Ctx) (hC : C.det) (t : Oracle) (x : RF) (hx : x.c ≠ 0) (W : Nat)
    (hW : workPrec C.roundParams.1 C.roundParams.2 x.e ≤ W) (h : ∀ q, 1 ≤ q → q ≤ W → t q = truncRF x q) :
    Res.agree (elemEval C t) (C.roundAtCore (.fin x) none false 0) :=
  wrapper_dyadic C hC t x hx W hW h

/-- the contract oracle of a dyadic value IS coherent (the contract is satisfiable, and `truncRF` is the
truncation the contract speaks of) -/
theorem dyadic_oracle_coherent (x : RF) (hx : x.c ≠ 0) : Coherent (truncRF x) := truncRF_coherent x hx

/-- **Rational values** `v = ±(N/D)·2^E`, `1/2 ≤ N/D < 1` (every non-zero rational has this form): the oracle
"`⌊N·2^q/D⌋`, remainder ≠ 0" is coherent, hence the wrapper returns `C`'s rounding of the stand-in
`(2·⌊N·2^W/D⌋ + [remainder ≠ 0]) · 2^(E−W−1)` (`rat_standin_is_code`), whose rounding on every grid of `2^K ≥ 2` units
is the rounding of the rational itself (`rational_code_rounds`). -/
theorem wrapper_correct_rat (C : Ctx) (hC : C.det) (neg : Bool) (N D : Nat) (E : Int) (h1 : D ≤ 2 * N) (h2 : N < D)
    (W : Nat) (hW : workPrec C.roundParams.1 C.roundParams.2 (normOracle neg N D E 1).1.e ≤ W) :
    Coherent (normOracle neg N D E) ∧
    Res.agree (elemEval C (normOracle neg N D E)) (C.roundAtCore (.fin (refDyadic (normOracle neg N D E) W)) none false 0) :=
  ⟨normOracle_coherent neg N D E h1 h2, wrapper_correct_partial C hC _ (normOracle_coherent neg N D E h1 h2) W hW⟩

theorem rat_standin_is_code (neg : Bool) (N D : Nat) (E : Int) (W : Nat) (h : N * 2 ^ W % D ≠ 0) :
    refDyadic (normOracle neg N D E) W = ⟨neg, E - (W : Int) - 1, ratCode (N * 2 ^ W) D⟩ := by
  unfold refDyadic normOracle ratCode
  simp [h]

/-- **The one step from the stand-in to the value, for every rational.**  `ratCode N D` (C02's
`realCode (N / D) (N % D != 0)`) is the stand-in's significand in units of half the last place; the right sides round
the rational `N/D` on a grid of `2^K ≥ 2` units (`Spec.roundQuotG`: `N` against the multiples and midpoints of `D·2^K`).
Composed with C01 (`round_fixed_correct`, `round_float_correct`: the contexts compute `roundQuot` of the significand),
this closes the rational case at the level of the arithmetic specification. -/
theorem rational_code_rounds (rm : RM) (s : Bool) (N D K : Nat) (hD : 0 < D) (hK : 1 ≤ K) :
    roundQuot rm s (ratCode N D) (K + 1) = roundQuotG rm s N (D * 2 ^ K) ∧
    (ratCode N D % 2 ^ (K + 1) = 0 ↔ N % (D * 2 ^ K) = 0) :=
  ratCode_rounds rm s N D K hD hK

/-- the wrapper on MPFR's conversion of a non-dyadic `Fraction` is, literally, `Context.round(Fraction)` of the C01
model (`_round_prepare` → `mpfr_value` → `_round_at`); the harness uses this to run the wrapper model through the
existing driver line `round <ctx> Q<n>/<d>` on a rational inside the final enclosure of the true value -/
theorem elemEval_rat_eq_round (C : Ctx) (num : Int) (den : Nat) (hd1 : den ≠ 1) (hd2 : isPow2 den = false)
    (hnz : (truncRat num.natAbs den 2).1 ≠ 0) :
    elemEval C (ratOracle (num < 0) num.natAbs den) = C.round (.frac num den) := by
  unfold elemEval Ctx.round
  rw [prepare_frac _ num den hd1 hd2, mpfrCall_ratOracle _ _ _ _ _ hnz]
  cases mpfrValue (decide (num < 0)) num.natAbs den C.roundParams.1 C.roundParams.2 <;> rfl

/-- Two values with the same truncation (digits AND inexact bit) at every precision up to the working precision are
rounded alike by `C`.  This is the sense in which the result "only depends on comparisons of `v` with dyadic
breakpoints": it transfers verbatim from a rational to an irrational with the same leading digits. -/
theorem rto_determined (C : Ctx) (hC : C.det) (x w : RF) (hx : x.c ≠ 0) (hw : w.c ≠ 0) (W : Nat)
    (hW : workPrec C.roundParams.1 C.roundParams.2 x.e ≤ W)
    (h : ∀ q, 1 ≤ q → q ≤ W → truncRF x q = truncRF w q) :
    Res.agree (C.roundAtCore (.fin x) none false 0) (C.roundAtCore (.fin w) none false 0) := by
  have hW1 : 1 ≤ W := by have := two_le_workPrec C.roundParams.1 C.roundParams.2 x.e; omega
  have hxe : x.e = w.e := by
    have a := (truncRF_props x 1 (by omega) hx).2.1
    have b := (truncRF_props w 1 (by omega) hw).2.1
    rw [h 1 (by omega) hW1] at a
    rw [← a, b]
  -- the wrapper on the oracle of `x` returns the rounding of `x`, and that of `w`, which answers alike
  have A := wrapper_dyadic C hC (truncRF x) x hx W hW (fun _ _ _ => rfl)
  have B := wrapper_dyadic C hC (truncRF x) w hw W (by rw [← hxe]; exact hW) h
  exact Res.agree_trans (Res.agree_symm A) B

/-- the same on integers, against the arithmetic specification `Spec.roundQuot` -/
theorem rto_determined_nat (rm : RM) (s : Bool) (c c' j k : Nat) (h : j + 2 ≤ k)
    (hq : c / 2 ^ j = c' / 2 ^ j) (hf : c % 2 ^ j = 0 ↔ c' % 2 ^ j = 0) :
    roundQuot rm s c k = roundQuot rm s c' k ∧ (c % 2 ^ k = 0 ↔ c' % 2 ^ k = 0) := by
  obtain ⟨a1, a2⟩ := rto_reround rm s c j k h
  obtain ⟨b1, b2⟩ := rto_reround rm s c' j k h
  have e : rtoNat c j = rtoNat c' j := by
    unfold rtoNat
    rw [hq]
    congr 1
    rw [Bool.eq_iff_iff]
    simp only [bne_iff_ne, ne_eq, hf]
  rw [e] at a1 a2
  exact ⟨a1.symm.trans b1, a2.symm.trans b2⟩

/-- `mpfr_call` with `prec is None` (fixed-point contexts).  Two digits first; if the leading digit lies at or below
`n` they suffice, else `e − n + 2` digits are asked for: the precision `rto_round_fixed` requires.  When digits are
dropped the last one kept sits at position `n − 1` (one guard digit, one sticky digit). -/
theorem two_pass_precision (t : Oracle) (x : RF) (hx : x.c ≠ 0) (n : Int) (rm : RM) (W : Nat)
    (hW : workPrec none (some n) x.e ≤ W) (h : ∀ q, 1 ≤ q → q ≤ W → t q = truncRF x q) :
    ∃ y r fl fl', mpfrCallModel t none (some n) = .ok y ∧
      y = (if x.e ≤ n then rtoRF x 2 else rtoRF x ((x.e - n).toNat + 2)) ∧
      (x.e ≤ n ∨ y = x ∨ y.exp = n - 1) ∧
      x.roundAtCore none n none rm false = .ok (r, fl) ∧ y.roundAtCore none n none rm false = .ok (r, fl') ∧
      fl'.inexact = fl.inexact ∧ fl'.overflow = fl.overflow := by
  obtain ⟨r, fl, fl', a1, a2, a3, a4⟩ := rto_round_fixed x n rm hx
  refine ⟨_, r, fl, fl', ?_, rfl, ?_, a1, a2, a3, a4⟩
  · rw [mpfrCall_of_agree t x hx none (some n) rfl W hW h, mpfrRtoRF_workPrec x hx none (some n) rfl]
    exact congrArg Except.ok (apply_ite (rtoRF x) _ _ _)
  · by_cases hen : x.e ≤ n
    · exact Or.inl hen
    · right
      simp only [hen, if_false]
      by_cases hk : x.p ≤ (x.e - n).toNat + 2
      · left; exact rtoRF_keep x _ hk
      · right; rw [rtoRF_drop x _ hk]; simp only; unfold RF.e at *; omega

/-- float contexts ask for `p + 2` digits; together with C02's `rto_round_float` that is enough for every mode
(and ONE guard digit is not: C02 `rto_reround_one_guard_digit_counterexample`) -/
theorem float_precision (t : Oracle) (p : Nat) (n : Option Int) :
    mpfrCallModel t (some p) n = .ok (roundOdd (t (p + 2)).1 (t (p + 2)).2) := rfl

/-- exp 0, log 1, pow(2, 10), …: if the true result `x` fits in the working precision, MPFR's ternary value is zero,
no sticky bit is set and the wrapper hands the context `x` itself … -/
theorem exact_cases (C : Ctx) (hC : C.det) (t : Oracle) (x : RF) (hx : x.c ≠ 0) (W : Nat)
    (hW : workPrec C.roundParams.1 C.roundParams.2 x.e ≤ W) (h : ∀ q, 1 ≤ q → q ≤ W → t q = truncRF x q)
    (hfit : x.p ≤ workPrec C.roundParams.1 C.roundParams.2 x.e) :
    elemEval C t = C.roundAtCore (.fin x) none false 0 := by
  unfold elemEval
  rw [wrapper_exact t x hx _ _ (det_params C hC) W hW h hfit]

/-- … in particular under `MPFloatContext(p)` a result with at most `p` digits is returned exactly and NOT flagged
inexact (nor overflow) -/
theorem exact_cases_mp (p : Nat) (rm : RM) (o : Opts) (hp : 1 ≤ p) (t : Oracle) (x : RF) (hx : x.c ≠ 0) (hxp : x.p ≤ p)
    (W : Nat) (hW : p + 2 ≤ W) (h : ∀ q, 1 ≤ q → q ≤ W → t q = truncRF x q) :
    ∃ fl, elemEval (.mp p rm (some 0) o) t = .ok ⟨.fin x, fl⟩ ∧ fl.inexact = false ∧ fl.overflow = false := by
  -- `x` has its digits above the position `e − p`: the fixed shape returns it, `carry` and the post-step leave it
  have hn : x.exp > roundPos x.e p none := by simp only [roundPos]; unfold RF.e; omega
  obtain ⟨y, fl, h1, -, -, fl', h2, hi, ho⟩ :=
    roundAtCore_some x p _ (Option.map ((p : Int) + ·) none) rm hx (roundPos_ge x.e p none)
  rw [roundAtCore_none x _ rm, if_pos hn] at h1
  cases h1
  -- `p + 0`: what `widenP p (some 0)` in `Ctx.roundParams` unfolds to
  rw [exact_cases (.mp p rm (some 0) o) ⟨rfl, hp⟩ t x hx W hW h (by show x.p ≤ p + 0 + 2; omega),
    Ctx.roundAtCore_fin (C := .mp p rm (some 0) o) rfl hx, RF.round_float, h2, RF.carry_of_le hxp]
  exact ⟨fl', (Ctx.post_in (C := .mp p rm (some 0) o) (y := x) rfl x.s fl').trans
    (by rw [show (Ctx.mp p rm (some 0) o).dropsNegZero = false from rfl, RF.dropNegZero_false]), hi, ho⟩

/-- The constant table (defect F9).  Of the thirteen entries, five are ONE MPFR primitive on literals — the oracle contract, hence
`wrapper_correct_partial`, applies to them as to any function; `SQRT1_2` composes `sqrt` with the division `1/2`, which
is exact at every precision; the remaining seven feed an already TRUNCATED inner result to an outer operation whose
ternary value is all `_round_odd` gets to see. -/
theorem constant_shape :
    constTable.map (fun kv => (kv.1, kv.2.kind)) =
      [("E", .single), ("LOG2E", .composed), ("LOG10E", .composed), ("LN2", .single), ("LN10", .single), ("PI", .single),
       ("PI_2", .composed), ("PI_4", .composed), ("M_1_PI", .composed), ("M_2_PI", .composed), ("M_2_SQRTPI", .composed),
       ("SQRT2", .single), ("SQRT1_2", .composedExactInner)] := by decide

/-- **The mechanism of F9 in the model.**  `lambda: gmp.const_pi() / 2` under
`MPFloatContext(2, RTP)`: the working precision is 4 digits, the inner primitive returns `3.0` (inexact), the division
by two is exact, so `rc = 0`, no sticky bit: the wrapper hands `1.5` to the context, which returns `1.5`, NOT flagged.
The value `201/128 = 1.57…` rounds up to `2.0`, flagged — which is what the same wrapper returns when the inner
ternary value is kept (`scaleOracle`), and what `Context.round` makes of the fraction itself. -/
theorem composed_constant_unsound :
    (elemEval (.mp 2 .rtp (some 0) {}) (composedScale piLike 1)).toOption = some ⟨.fin ⟨false, -1, 3⟩, {}⟩ ∧
    (elemEval (.mp 2 .rtp (some 0) {}) (scaleOracle piLike 1)).toOption = some ⟨.fin ⟨false, 0, 2⟩, { inexact := true, carry := true }⟩ ∧
    ((Ctx.mp 2 .rtp (some 0) {}).round (.frac 201 128)).toOption = some ⟨.fin ⟨false, 0, 2⟩, { inexact := true, carry := true }⟩ := by
  decide

/-- the composed entry is not even monotone in quality: at a precision where the discarded digits happen to be
zeros it is right (3 digits, RNE) — the defect shows up at some (precision, mode) pairs only, as the harness finds -/
theorem composed_constant_sometimes_right :
    (elemEval (.mp 3 .rne (some 0) {}) (composedScale piLike 1)).toOption =
      (elemEval (.mp 3 .rne (some 0) {}) (scaleOracle piLike 1)).toOption := by
  decide

/-- **The repair of `PI_2` / `PI_4` is sound.**  Scaling the exponent of the SINGLE primitive's answer and keeping its
ternary value gives a coherent family again — the contract oracle of `v / 2^k` — whose stand-in at every level is
the stand-in of `v` scaled; so `wrapper_correct_partial` applies to the repaired entries. -/
theorem scale_fix_sound (t : Oracle) (ht : Coherent t) (k : Nat) :
    Coherent (scaleOracle t k) ∧ ∀ W, refDyadic (scaleOracle t k) W = shiftRF (refDyadic t W) k := by
  constructor
  · refine ⟨ht.nz, ht.short, ht.full, fun q W hq hqW => ?_⟩
    show (shiftRF (t q).1 k, (t q).2) = truncStep (shiftRF (t W).1 k, (t W).2) q
    unfold truncStep
    simp only [truncRF_shift]
    rw [ht.step q W hq hqW]
    rfl
  · intro W
    unfold refDyadic scaleOracle shiftRF
    simp only
    split
    · show (⟨(t W).1.s, (t W).1.exp - (k : Int) - 1, 2 * (t W).1.c + 1⟩ : RF) = ⟨(t W).1.s, (t W).1.exp - 1 - (k : Int), 2 * (t W).1.c + 1⟩
      congr 1; omega
    · rfl

/-! Non-vacuity -/

-- a deterministic float context and a fixed-point one; their working precisions for a value with exponent 1 (π)
example : (Ctx.mp 24 .rne (some 0) {}).det := ⟨rfl, by decide⟩
example : workPrec (Ctx.mp 24 .rne (some 0) {}).roundParams.1 (Ctx.mp 24 .rne (some 0) {}).roundParams.2 1 = 26 := by decide
example : workPrec (Ctx.mpfix (-8) .rne (some 0) true {}).roundParams.1 (Ctx.mpfix (-8) .rne (some 0) true {}).roundParams.2 1 = 11 := by decide
-- a coherent family of a non-dyadic value: 1/3 = (2/3)·2^-1, digits 10, 101, 1010, … all flagged
example : Coherent (normOracle false 2 3 (-1)) := normOracle_coherent false 2 3 (-1) (by decide) (by decide)
example : normOracle false 2 3 (-1) 4 = (⟨false, -5, 10⟩, true) := by decide
example : refDyadic (normOracle false 2 3 (-1)) 4 = ⟨false, -6, 21⟩ := by decide
-- 7/3 to the nearest multiple of 2: its code is 5 = 2·2 + 1; on the doubled grid 5/4 rounds to 1, as 7/6 does; an exact tie (3 = 9/3) stays a tie
example : ratCode 7 3 = 5 ∧ roundQuot .rne false (ratCode 7 3) 2 = 1 ∧ roundQuotG .rne false 7 (3 * 2 ^ 1) = 1 := by decide
example : ratCode 9 3 = 6 ∧ roundQuot .rne false (ratCode 9 3) 2 = 2 ∧ roundQuotG .rne false 9 (3 * 2 ^ 1) = 2 ∧ roundQuotG .rtz false 9 (3 * 2 ^ 1) = 1 := by decide
-- exp 0 = 1 under a 5-digit context: exact, unflagged
example : (elemEval (.mp 5 .rtp (some 0) {}) (truncRF ⟨false, 0, 1⟩)).toOption = some ⟨.fin ⟨false, 0, 1⟩, {}⟩ := by decide
-- pow(2, 10) = 1024 under a 3-digit context: exact, unflagged; under fixed point with 2 fractional digits likewise
example : (elemEval (.mp 3 .rne (some 0) {}) (truncRF ⟨false, 10, 1⟩)).toOption = some ⟨.fin ⟨false, 10, 1⟩, {}⟩ := by decide
example : (elemEval (.mpfix (-3) .rne (some 0) true {}) (truncRF ⟨false, 10, 1⟩)).toOption.map (·.fl.inexact) = some false := by decide
-- the sticky bit matters: 1 + 2^-20 (exp(2^-20) to 21 digits) under 3 digits RTP is 1.25, and 1 under RTZ; both flagged
example : (elemEval (.mp 3 .rtp (some 0) {}) (truncRF ⟨false, -20, 2 ^ 20 + 1⟩)).toOption = some ⟨.fin ⟨false, -2, 5⟩, { inexact := true }⟩ := by decide
example : (elemEval (.mp 3 .rtz (some 0) {}) (truncRF ⟨false, -20, 2 ^ 20 + 1⟩)).toOption = some ⟨.fin ⟨false, -2, 4⟩, { inexact := true }⟩ := by decide
-- two-pass branch: 22026.46… ≈ exp 10 as 22026 + 15/32 under fixed point with 3 fractional digits: 15 + 3 + 2 digits asked for
example : workPrec none (some (-4)) (⟨false, -5, 22026 * 32 + 15⟩ : RF).e = 20 := by decide
example : (mpfrCallModel (truncRF ⟨false, -5, 22026 * 32 + 15⟩) none (some (-4))).toOption = some ⟨false, -5, 22026 * 32 + 15⟩ := by decide
-- … and a tiny value entirely below the last place: 2 digits suffice, RTP rounds up to one unit 2^-3
example : (elemEval (.mpfix (-4) .rtp (some 0) true {}) (truncRF ⟨false, -40, 5⟩)).toOption.map (·.v) = some (.fin ⟨false, -3, 1⟩) := by decide
-- `elemEval_rat_eq_round` is for non-dyadic fractions: at the F9 stand-in (`piLike` = 201/64, halved: 201/128) `hd1` holds but
-- `hd2` fails (`isPow2 128`), which is why `composed_constant_unsound` evaluates `Context.round` there; at 2/3 `hd2` and `hnz` hold
example : (64 : Nat) ≠ 1 ∧ isPow2 128 = true ∧ isPow2 3 = false ∧ (truncRat 2 3 2).1 ≠ 0 := by decide

end Fpy.C03
