/-
C18 — Evaluation is pure, isolated from the caller and reentrant.

Model: `Fpy/Model/Boundary.lean` (the Python boundary over the core-language evaluator `Fpy.Lang`).
`Policy.current` is the code of /repo as it is (captured lists copied at every activation, `from_value`
rebuilds every container: commits 20fad08 and 1c6f5b2, which repaired the findings F7 and F8);
`Policy.legacy` is the code before.  The property theorems are about `Policy.current`, at full strength:

* HEAP LEVEL (`args_untouched`, `result_fresh`): a call from Python on the one CPython heap (`callBoundary` =
  `to_value` on every argument, `callEntry`, `from_value`), for ANY caller values (aliased, nested, shared
  between arguments), ANY function table and either policy.  Both rest on the frame property of the
  evaluator, proved for every function table (`evalFrame`, `Fpy/Proof/Frame.lean`).
* PROCESS LEVEL (`history_independent*`, `transformed_copy_same_result`, `schedule_*`): the state machine
  `call | transform | mutateResult` over the compiled-function cache, for EVERY module (whatever it captures);
  threads interleave at the atomic steps `lookup|compile|insert|run`.
* LEGACY (`Policy.legacy`): `legacy_*_counterexample` are the regression witnesses of F7 and F8,
  `legacy_history_independent_partial` is what did hold before the repair.
The hypotheses `NoCapturedLists`, `TCacheOK`, `ThreadOK` are defined in `Proof/BoundaryProc`, `Reach` (of
`result_fresh`) in `Proof/Boundary`.

NOT modelled (that is why the level is `partial`): preemption inside C extensions, gmpy2's thread-local
MPFR context, partial writes before an exception, free variables of callees, a Python caller that rebinds
or mutates a module-level value (capture time = first call).
-/
import Fpy.Proof.BoundaryProc
namespace Fpy.C18
open Fpy Fpy.Lang

/-- ARGUMENTS UNTOUCHED.  A call from Python never writes a cell that existed before the call: the caller's
lists (whatever their nesting and aliasing, and even when the function assigns into its list parameters)
hold after the call exactly what they held before it. -/
theorem args_untouched (π : Policy) (Φ : Funs) (fuel : Nat) (f : String) (args : List Val) (μ : Heap) (ctx : Option Ctx)
    (v : Val) (μ' : Heap) (h : callBoundary π Φ fuel f args μ ctx = .ok (v, μ')) :
    ∀ r, r < μ.length → μ'[r]? = μ[r]? := by
  intro r hr
  have ht := congrArg (·[r]?) (callBoundary_frame π Φ fuel f args (hok_self μ) ctx v μ' h).1.2
  rwa [List.getElem?_take_of_lt hr, List.getElem?_take_of_lt hr] at ht

/-- RESULT FRESH.  Every cell reachable from the returned value was allocated by this call: the result
shares no list with any argument, nor with anything else the caller (or an earlier call) holds. -/
theorem result_fresh (π : Policy) (Φ : Funs) (fuel : Nat) (f : String) (args : List Val) (μ : Heap) (ctx : Option Ctx)
    (v : Val) (μ' : Heap) (h : callBoundary π Φ fuel f args μ ctx = .ok (v, μ')) :
    ∀ s, Reach μ' v s → μ.length ≤ s := by
  intro s hs
  obtain ⟨he, hv⟩ := callBoundary_frame π Φ fuel f args (hok_self μ) ctx v μ' h
  exact reach_ge he.1 hs hv

/-- HISTORY INDEPENDENCE, for every module.  Whatever operations `h` came before -- calls of any function
with any arguments under any context, calls that fail, transformations, the caller mutating values it was
handed back -- the call `f(args, ctx=ctx)` observes `pureCall`, which mentions neither the history nor the
state.  A captured list may be assigned into and returned: the writes and the returned cells are the
activation's own (the proof uses the frame property: what a call returns lives in cells it allocated). -/
theorem history_independent (P : Prog) (fuel : Nat) (hπ : P.policy = Policy.current) (h : List Op)
    (fid : Nat) (d : FuncDef) (hd : P.defs[fid]? = some d) (args : List Tree) (ctx : Option Ctx) :
    (step P fuel (run P fuel State.init h) (.call fid args ctx)).2 = some (pureCall P fuel d args ctx) :=
  history_independent_from fuel (.inr (current_copies hπ)) (stateOK_init P fuel) h (defAt_of_defs _ hd) args ctx

theorem history_independent_two_histories (P : Prog) (fuel : Nat) (hπ : P.policy = Policy.current) (h₁ h₂ : List Op)
    (fid : Nat) (d : FuncDef) (hd : P.defs[fid]? = some d) (args : List Tree) (ctx : Option Ctx) :
    (step P fuel (run P fuel State.init h₁) (.call fid args ctx)).2 =
    (step P fuel (run P fuel State.init h₂) (.call fid args ctx)).2 := by
  rw [history_independent P fuel hπ h₁ fid d hd, history_independent P fuel hπ h₂ fid d hd]

/-- a transformed copy (a new `FuncDef` identity: its own cache entry, its own compilation) of a definition
evaluates like the definition it was made from, wherever in the history it is made and called -/
theorem transformed_copy_same_result (P : Prog) (fuel : Nat) (hπ : P.policy = Policy.current) (h₁ h₂ : List Op)
    (fid : Nat) (d : FuncDef) (hd : P.defs[fid]? = some d) (args : List Tree) (ctx : Option Ctx) :
    (step P fuel (run P fuel (run P fuel State.init h₁) (.transform fid :: h₂))
        (.call (P.defs ++ (run P fuel State.init h₁).extra).length args ctx)).2 = some (pureCall P fuel d args ctx) := by
  have hP : NoSharedCells P := .inr (current_copies hπ)
  exact history_independent_from fuel hP (step_preserves hP (run_preserves hP h₁ (stateOK_init P fuel)).1 (.transform fid)).1 h₂
    (transform_new_identity P fuel _ fid d (defAt_of_defs _ hd)) args ctx

def one : NV := .fv (.fin ⟨false, 0, 1⟩)
def two : NV := .fv (.fin ⟨false, 0, 2⟩)

/-- `D = [1.0]` at module level;  `def f(): D[0] = D[0] + 1; return D[0]`  (the F7 program) -/
def progF7 : Prog :=
  { defs := [{ name := "f", params := [], ctx := none,
               body := [.iassign "D" [.num (.q 0 1)] (.op .add [.index (.var "D") (.num (.q 0 1)), .num (.q 1 1)]),
                        .ret (.index (.var "D") (.num (.q 0 1)))] }],
    globals := [("D", .list 0)], pyHeap := [[.num one]] }

/-- `D = [1.0]` at module level;  `def g(): return D`  (the F8 program) -/
def progF8 : Prog :=
  { defs := [{ name := "g", params := [], ctx := none, body := [.ret (.var "D")] }],
    globals := [("D", .list 0)], pyHeap := [[.num one]] }

def obsNum : Obs → Option NV
  | some (.ok (.num v)) => some v
  | _ => none

def obsList1 : Obs → Option NV
  | some (.ok (.list [.num v])) => some v
  | _ => none

example : progF7.policy = Policy.current := rfl

/-- non-vacuity on the programs of the repaired findings: two calls of `progF7` in a row return 2 and 2 -/
example : (observe progF7 20 State.init [.call 0 [] none, .call 0 [] none]).map obsNum = [some two, some two] := by
  decide +kernel

/-- … and `progF8` returns `[1]` before and after the caller overwrites the element of the first result -/
example : (observe progF8 20 State.init
            [.call 0 [] none, .mutateResult 0 0 (.fv (.fin ⟨false, 0, 99⟩)), .call 0 [] none]).filterMap (fun o => obsList1 o)
    = [one, one] := by
  decide +kernel

/-- what held before the repair: history independence for modules whose capturable values hold no list
(true under either policy) -/
theorem legacy_history_independent_partial (P : Prog) (fuel : Nat) (hP : NoCapturedLists P) (h : List Op)
    (fid : Nat) (d : FuncDef) (hd : P.defs[fid]? = some d) (args : List Tree) (ctx : Option Ctx) :
    (step P fuel (run P fuel State.init h) (.call fid args ctx)).2 = some (pureCall P fuel d args ctx) :=
  history_independent_from fuel (.inl hP) (stateOK_init P fuel) h (defAt_of_defs _ hd) args ctx

/-- F7 (repaired by 20fad08): under the legacy capture-once-share-afterwards treatment the same call, made
twice in a row in a fresh process, returns 2 and then 3. -/
theorem legacy_history_independent_counterexample :
    (observe { progF7 with policy := Policy.legacy } 20 State.init [.call 0 [] none, .call 0 [] none]).map obsNum
      = [some two, some (.fv (.fin ⟨false, 0, 3⟩))] := by
  decide +kernel

/-- F8 (repaired by 1c6f5b2): under the legacy policy a returned captured list is the interpreter's own cell;
after the caller stores 99 into it the next call returns `[99]`. -/
theorem legacy_result_shared_counterexample :
    (observe { progF8 with policy := Policy.legacy } 20 State.init
        [.call 0 [] none, .mutateResult 0 0 (.fv (.fin ⟨false, 0, 99⟩)), .call 0 [] none]).filterMap (fun o => obsList1 o)
      = [one, .fv (.fin ⟨false, 0, 99⟩)] := by
  decide +kernel

/-- rebuilding results alone (the F8 repair without the F7 repair) would not have repaired F7 -/
example : (observe { progF7 with policy := { copyCaptured := false, rebuildResult := true } } 20 State.init
            [.call 0 [] none, .call 0 [] none]).map obsNum = [some two, some (.fv (.fin ⟨false, 0, 3⟩))] := by
  decide +kernel

/-- SCHEDULE INDEPENDENCE, for every module (atomic steps only: preemption inside C extensions and gmpy2's
thread-local context are not modelled).  N calls run as threads over the shared cache; a schedule is ANY list
of thread indices.  Starting from a cache whose entries are compilations of their definitions (e.g. the
empty cache) and threads whose program counters hold what the sequential call would hold (e.g. all at their
first instruction), every thread that has finished holds the result of its call made alone in a fresh
process.  Cache insertions are idempotent: two threads that both miss both compile, both insert, and the
entries are equal; `run` leaves no cell behind. -/
theorem schedule_independent (P : Prog) (fuel : Nat) (hπ : P.policy = Policy.current) (sched : List Nat)
    (cache : List (Nat × Compiled)) (ts : List Thread) (hc : TCacheOK P fuel cache) (hts : ∀ t ∈ ts, ThreadOK P fuel t) :
    TCacheOK P fuel (runSchedule P fuel cache ts sched).1 ∧
    ∀ t ∈ (runSchedule P fuel cache ts sched).2, ∀ r, t.pc = .done r → r = seqResult P fuel t :=
  schedule_independent_from P fuel (Or.inr (current_copies hπ)) sched cache ts hc hts

def spawn (calls : List (Nat × List Tree × Option Ctx)) : List Thread :=
  calls.map (fun c => { fid := c.1, args := c.2.1, ctx := c.2.2, pc := .start })

theorem schedule_independent_fresh (P : Prog) (fuel : Nat) (hπ : P.policy = Policy.current)
    (calls : List (Nat × List Tree × Option Ctx)) (sched : List Nat) :
    ∀ t ∈ (runSchedule P fuel [] (spawn calls) sched).2, ∀ r, t.pc = .done r → r = seqResult P fuel t := by
  apply (schedule_independent P fuel hπ sched [] (spawn calls) ?_ ?_).2
  · exact cacheFor_nil P fuel _
  · intro t ht
    obtain ⟨c, _, rfl⟩ := List.mem_map.mp ht
    trivial

/-- PROGRESS: a thread that gets the lock four times (`lookup, compile, insert, run`) has finished, whatever
the other threads do in between -- so with `schedule_independent_fresh` every fair schedule ends with
every call holding its sequential result. -/
theorem schedule_complete (P : Prog) (fuel : Nat) (calls : List (Nat × List Tree × Option Ctx)) (sched : List Nat)
    (i : Nat) (hi : i < calls.length) (hfair : 4 ≤ sched.count i) :
    ∃ t r, (runSchedule P fuel [] (spawn calls) sched).2[i]? = some t ∧ t.pc = .done r := by
  have hget : (spawn calls)[i]? = some { fid := calls[i].1, args := calls[i].2.1, ctx := calls[i].2.2, pc := .start } := by
    simp [spawn, List.getElem?_map, List.getElem?_eq_getElem hi]
  obtain ⟨t, h1, h2⟩ := runSchedule_rank P fuel sched [] (spawn calls) i _ hget
  obtain ⟨r, hr⟩ := PC.eq_done_of_rank_eq_zero (Nat.eq_zero_of_le_zero (Nat.le_trans h2 (Nat.le_of_eq (Nat.sub_eq_zero_of_le hfair))))
  exact ⟨t, r, h1, hr⟩

example : NoCapturedLists { defs := [], globals := [("K", .num one), ("T", .tuple [.num one, .bool true])], pyHeap := [] } := by
  simp [NoCapturedLists, RefFreeL, RefFree]

/-- `def h(xs): xs[0] = 2.0; return xs` called on the caller's list `[1.0]` (cell 0): it returns `[2.0]` in a
NEW cell (cell 2; cell 1 is the interpreter's copy of the argument) and cell 0 still holds `[1.0]` -/
def demoH : FuncDef :=
  { name := "h", params := ["xs"], ctx := none,
    body := [.iassign "xs" [.num (.q 0 1)] (.num two), .ret (.var "xs")] }

def demoLook : M (Val × Heap) → Option (Nat × List (Option NV))
  | .ok (.list r, μ) => some (r, (μ.map (fun l => match l with | [.num v] => some v | _ => none)))
  | _ => none

example : demoLook (callBoundary Policy.current ⟨[demoH]⟩ 20 "h" [.list 0] [[.num one]] none) = some (2, [some one, some two, some two]) := by
  decide +kernel

/-- two threads calling the same uncompiled function, interleaved so that both miss, both compile and
both insert: both finish with the sequential result -/
def demoK : Prog :=
  { defs := [{ name := "k", params := ["x"], ctx := none, body := [.ret (.op .add [.var "x", .var "K"])] }],
    globals := [("K", .num one)], pyHeap := [] }

def pcNum : PC → Option NV
  | .done (.ok (.num v)) => some v
  | _ => none

example : ((runSchedule demoK 20 [] (spawn [(0, [.num one], some .real), (0, [.num two], some .real)])
            [0, 1, 0, 1, 0, 1, 0, 1]).2.map (fun t => pcNum t.pc)) = [some two, some (.fv (.fin ⟨false, 0, 3⟩))] := by
  decide +kernel

end Fpy.C18
