/-
C04 — Programs evaluate by the documented context-scoped semantics.

The evaluator `Fpy.Lang.evalE/evalS/evalB` IS the independent evaluator the property asks
for (written from `docs/source/dev/semantics.rst` and `derived-semantics.rst`); the claim
"the implementation agrees with it" is the correspondence check (harness/c04.py).
The theorems below pin the documented rules as equations of the evaluator, so that an edit
of the model that silently changes a rule (context scoping, callee context, unrounded
literals and arguments, short-circuiting, sharing) breaks a proof obligation.
-/
import Fpy.Model.Lang.Core
namespace Fpy.Props.C04
open Fpy Fpy.Lang

/-- E-Val: a numeric literal evaluates to itself under ANY context: it is not rounded. -/
theorem literal_unrounded (Φ : Funs) (fuel : Nat) (σ : Env) (μ : Heap) (C : Ctx) (v : NV) :
    evalE Φ (fuel + 1) σ μ C (.num v) = .ok (.num v, μ) := rfl

/-- E-Var: a variable evaluates to its binding; an unbound name is the `unbound` error. -/
theorem var_lookup (Φ : Funs) (fuel : Nat) (σ : Env) (μ : Heap) (C : Ctx) (x : String) :
    evalE Φ (fuel + 1) σ μ C (.var x) =
      match σ.get? x with | some v => .ok (v, μ) | none => .error .unbound := rfl

/-- E-Add (every rounded operator): the operands are evaluated by `evalEs` under the active
context and the exact result is rounded ONCE by `opEval` under that same context. -/
theorem rounded_op_uses_active_context (Φ : Funs) (fuel : Nat) (σ : Env) (μ : Heap) (C : Ctx) (o : Op) (args : List Expr) :
    evalE Φ (fuel + 1) σ μ C (.op o args) =
      (do let (vs, μ') ← evalEs Φ fuel σ μ C args
          let ns ← vs.mapM asNum
          let r ← opEval C o (ns.map cvtReal)
          pure (.num r, μ')) := rfl

/-- E-Seq-Return / E-Seq-Normal for every statement. -/
theorem seq_rule (Φ : Funs) (fuel : Nat) (σ : Env) (μ : Heap) (C : Ctx) (s : Stmt) (rest : List Stmt) :
    evalB Φ (fuel + 1) σ μ C (s :: rest) =
      (match evalS Φ fuel σ μ C s with
       | .error e => .error e
       | .ok (.ret v, μ') => .ok (.ret v, μ')
       | .ok (.normal σ', μ') => evalB Φ fuel σ' μ' C rest) := by
  show (evalS Φ fuel σ μ C s >>= _) = _
  cases evalS Φ fuel σ μ C s with
  | error e => rfl
  | ok r => obtain ⟨o, μ'⟩ := r; cases o <;> rfl

/-- E-Context: the constructor expression is evaluated under the REAL context; the body runs
under the new context (bound to the `as` name if there is one). -/
theorem with_rule (Φ : Funs) (fuel : Nat) (σ : Env) (μ : Heap) (C : Ctx) (ce : Expr) (nm : Option String) (body : List Stmt) :
    evalS Φ (fuel + 1) σ μ C (.with ce nm body) =
      (do let (cv, μ') ← evalE Φ fuel σ μ .real ce
          match cv with
          | .ctx C' =>
            evalB Φ fuel (match nm with | some x => σ.set x (.ctx C') | none => σ) μ' C' body
          | _ => .error .typeError) := rfl

/-- … and the previous context is back in force afterwards, whatever the body did: the
statements after a `with` run under the context that was active before it, a `return`
inside the block leaves the function, an error propagates — there is no way for the
inner context to leak. -/
theorem with_scoped (Φ : Funs) (fuel : Nat) (σ : Env) (μ : Heap) (C : Ctx) (ce : Expr) (nm : Option String)
    (body rest : List Stmt) :
    evalB Φ (fuel + 1) σ μ C (.with ce nm body :: rest) =
      (match evalS Φ fuel σ μ C (.with ce nm body) with
       | .error e => .error e
       | .ok (.ret v, μ') => .ok (.ret v, μ')
       | .ok (.normal σ', μ') => evalB Φ fuel σ' μ' C rest) :=
  seq_rule Φ fuel σ μ C (.with ce nm body) rest

/-- E-App: arguments are evaluated by the caller and bound UNROUNDED; the callee runs under its own
declared context if it has one and otherwise under the caller's active context; the store is
shared (the callee's writes to a list it was handed are the caller's). -/
theorem call_rule (Φ : Funs) (fuel : Nat) (σ : Env) (μ : Heap) (C : Ctx) (f : String) (args : List Expr) :
    evalE Φ (fuel + 1) σ μ C (.call f args) =
      (do let (vs, μ') ← evalEs Φ fuel σ μ C args
          match Φ.find? f with
          | none => (ctxCtor f vs).map (fun c => (Val.ctx c, μ'))   -- a context constructor with computed arguments, else unbound
          | some fd =>
            if fd.params.length != vs.length then .error .typeError
            else
              match evalB Φ fuel ((fd.params.zip vs).foldl (fun s (x, v) => s.set x v) []) μ'
                      (match fd.ctx with | some c => c | none => C) fd.body with
              | .error e => .error e
              | .ok (.ret v, μ'') => .ok (v, μ'')
              | .ok (.normal _, _) => .error .assertion) := by
  show (evalEs Φ fuel σ μ C args >>= _) = _
  cases evalEs Φ fuel σ μ C args with
  | error e => rfl
  | ok r =>
    obtain ⟨vs, μ'⟩ := r
    show (match Φ.find? f with | none => _ | some fd => _) = (match Φ.find? f with | none => _ | some fd => _)
    cases Φ.find? f with
    | none => rfl
    | some fd =>
      show (if _ then _ else _) = (if _ then _ else _)
      split
      · rfl
      · show (evalB Φ fuel _ μ' _ fd.body >>= _) = _
        cases evalB Φ fuel _ μ' _ fd.body with
        | error e => rfl
        | ok r => obtain ⟨o, μ''⟩ := r; cases o <;> rfl

/-- a call from Python with no `ctx=` runs under IEEE binary64 unless the function declares a context -/
theorem entry_context (Φ : Funs) (fuel : Nat) (f : String) (fd : FuncDef) (args : List Val) (μ : Heap) (ctx : Option Ctx)
    (hf : Φ.find? f = some fd) (hlen : fd.params.length = args.length) :
    callEntry Φ fuel f args μ ctx =
      (match evalB Φ fuel ((fd.params.zip args).foldl (fun s (x, v) => s.set x v) []) μ
              (match fd.ctx with | some c => c | none => (match ctx with | some c => c | none => fp64)) fd.body with
       | .error e => .error e
       | .ok (.ret v, μ') => .ok (v, μ')
       | .ok (.normal _, _) => .error .assertion) := by
  unfold callEntry
  simp only [hf, hlen, bne_self_eq_false, Bool.false_eq_true, if_false]
  cases evalB Φ fuel _ μ _ fd.body with
  | error e => rfl
  | ok r => obtain ⟨o, μ'⟩ := r; cases o <;> rfl

/-- while: the condition is tested before each iteration, a `return` in the body leaves the loop -/
theorem while_rule (Φ : Funs) (fuel : Nat) (σ : Env) (μ : Heap) (C : Ctx) (c : Expr) (body : List Stmt) :
    evalS Φ (fuel + 1) σ μ C (.while c body) =
      (do let (v, μ') ← evalE Φ fuel σ μ C c
          if ← asBool v then
            (do let (o, μ'') ← evalB Φ fuel σ μ' C body
                match o with
                | .ret r => pure (.ret r, μ'')
                | .normal σ' => evalS Φ fuel σ' μ'' C (.while c body))
          else pure (.normal σ, μ')) := rfl

/-- `and` short-circuits left to right -/
theorem and_short_circuit (Φ : Funs) (fuel : Nat) (σ : Env) (μ : Heap) (C : Ctx) (e e' : Expr) (es : List Expr) :
    evalAnd Φ (fuel + 1) σ μ C (e :: e' :: es) =
      (do let (v, μ1) ← evalE Φ fuel σ μ C e
          if ← asBool v then evalAnd Φ fuel σ μ1 C (e' :: es) else pure (.bool false, μ1)) := rfl

/-- assignment copies nothing: binding a list value binds the same heap reference -/
theorem assign_shares (Φ : Funs) (fuel : Nat) (σ : Env) (μ : Heap) (C : Ctx) (x y : String) (r : Nat)
    (h : σ.get? y = some (.list r)) :
    evalS Φ (fuel + 2) σ μ C (.assign (.var x) (.var y)) = .ok (.normal (σ.set x (.list r)), μ) := by
  show (evalE Φ (fuel + 1) σ μ C (.var y) >>= _) = _
  rw [var_lookup, h]; rfl

/-! non-vacuity: a concrete program whose `with` block rounds to 3 bits of precision while the statement
after it rounds to binary64 — `x + 0.25` twice with different results: at `x = 9`, `10` inside the block and
`9.25 = 37·2⁻²` after it. -/
def demo : FuncDef :=
  { name := "f", params := ["x"], ctx := none,
    body := [ .with (.ctxLit (.mp 3 .rne (some 0) {})) none [.assign (.var "y") (.op .add [.var "x", .num (.fv (.fin ⟨false, -2, 1⟩))])],
              .assign (.var "z") (.op .add [.var "x", .num (.fv (.fin ⟨false, -2, 1⟩))]),
              .ret (.tuple [.var "y", .var "z"]) ] }

def twoNums : Except Err (Val × Heap) → Option (NV × NV)
  | .ok (.tuple [.num a, .num b], _) => some (a, b)
  | _ => none

example : twoNums (callEntry ⟨[demo]⟩ 50 "f" [.num (.fv (.fin ⟨false, 0, 9⟩))] [] none)
    = some (.fv (.fin ⟨false, 1, 5⟩), .fv (.fin ⟨false, -2, 37⟩)) := by
  decide

end Fpy.Props.C04
