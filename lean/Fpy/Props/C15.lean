/-
C15 — An accepted program never reads an unbound name or falls off its end.

Model: `Fpy/Model/Skel/Skel.lean` (skeleton language, oracle-driven run-time semantics `call`),
`Fpy/Model/Skel/Check.lean` (`frontend Mode.real` = `SyntaxCheck.check` + `Reachability.analyze` as the
`@fpy` decorator runs them, statement rule by statement rule as the code is today; `prepass` = the
definition/use analysis the byte-code interpreter runs when an accepted function is first called;
`run` = `prepass` then `call`).

The property, at full strength, for the code as it is (after the repairs of F6 and F21):
  * `accepted_safe` — `frontend Mode.real p = ok → ∀ fuel oracle, run false fuel p oracle ∉
    {unbound _, fellOff}`; `accepted_prepass_ok`, `accepted_safe_exec` are its two halves;
  * `rejects_leak_*` — names introduced only inside a one-armed `if`, one branch, a `while` or `for` body, a
    comprehension, and loop targets are not marked defined afterwards; `use_rejected`: a `return x` of a name not
    marked defined is rejected; `rejects_leaks`, `rejects_leaks_for_target`: the two together for the one-armed `if`
    and the loop target, as the language guide states.
`Mode.legacy`, `prepassLegacy`, `runLegacy` are the code before the repairs: the `legacy_*counterexample*`
theorems witness F6 and F21; `legacy_accepted_safe_partial`, `noZero_only_removes_runs` and
`legacy_run_safe_iff_strict` say what did hold, and the exact extent of the two defects.
-/
import Fpy.Proof.CheckPrepass
namespace Fpy.Props.C15
open Fpy.Skel

/-- the interpreter's definition/use pre-pass never fails on an accepted program -/
theorem accepted_prepass_ok (p : Func) (h : frontend Mode.real p = .ok ()) : prepass p = .ok () := by
  obtain ⟨env', h1⟩ := (frontend_eq_ok.1 h).1
  exact prepassWith_eq_ok.2 ((((check_du Mode.real).2 h1).2 rfl _ (InvR_init p.args)).imp fun _ h => h.1)

/-- no execution of an accepted program reads an unbound name or falls off the end: every oracle
(branch outcomes, trip counts — zero included), every fuel -/
theorem accepted_safe_exec (p : Func) (h : frontend Mode.real p = .ok ()) (fuel : Nat) (ch : List Nat) :
    (call false fuel p ch).bad = false :=
  safe_of_frontend Mode.real false (Or.inl rfl) p h fuel ch

/-- **accepted_safe** (full strength, whole pipeline): calling an accepted function — pre-pass, then
execution under any oracle — neither fails on an unbound variable nor falls off the end. -/
theorem accepted_safe (p : Func) (h : frontend Mode.real p = .ok ()) (fuel : Nat) (ch : List Nat) :
    (run false fuel p ch).bad = false := by
  rw [run, runWith_ok (accepted_prepass_ok p h)]
  exact accepted_safe_exec p h fuel ch

theorem use_rejected (m : Mode) (env : Env) (x : Name) (rest : Block) (h : env.get x ≠ some true) :
    ∀ env', checkB m env (.cons (.ret (.var x)) rest) ≠ .ok env' := by
  intro env' hc
  obtain ⟨env1, h1, _⟩ := checkB_cons.1 hc
  exact h (checkE_var.1 (checkS_ret.1 h1).1)

/-- names introduced only inside a one-armed `if` are not defined after it -/
theorem rejects_leak_if1 (m : Mode) (env env' : Env) (c : Expr) (t : Block) (x : Name)
    (hl : env.term = false) (hx : env.get x ≠ some true)
    (h : checkS m env (.if1 c t) = .ok env') : env'.get x ≠ some true := by
  obtain ⟨_, ift, _, rfl⟩ := checkS_if1.1 h
  exact fun h' => hx (Env.merge_left hl h')

/-- names introduced only inside a `while` body are not defined after the loop -/
theorem rejects_leak_while (m : Mode) (env env' : Env) (c : Expr) (b : Block) (x : Name)
    (hl : env.term = false) (hx : env.get x ≠ some true)
    (h : checkS m env (.while c b) = .ok env') : env'.get x ≠ some true := by
  obtain ⟨body, _, _, rfl⟩ := checkS_while.1 h
  exact fun h' => hx (Env.merge_left hl h')

/-- names introduced by a `for` loop — in its body OR as its target — are not defined after it -/
theorem rejects_leak_for (env env' : Env) (ts : List Name) (it : Expr) (b : Block) (x : Name)
    (hl : env.term = false) (hx : env.get x ≠ some true)
    (h : checkS Mode.real env (.for ts it b) = .ok env') : env'.get x ≠ some true := by
  obtain ⟨_, body, _, rfl⟩ := checkS_for.1 h
  exact fun h' => hx (Env.merge_left hl h')

theorem rejects_leak_for_target (env env' : Env) (x : Name) (it : Expr) (b : Block)
    (hl : env.term = false) (hx : env.get x ≠ some true)
    (h : checkS Mode.real env (.for [x] it b) = .ok env') : env'.get x ≠ some true :=
  rejects_leak_for env env' [x] it b x hl hx h

/-- a name introduced in only one branch of an `if`/`else` whose other branch continues is not
defined afterwards -/
theorem rejects_leak_one_branch (m : Mode) (env env' ift iff : Env) (c : Expr) (t e : Block) (x : Name)
    (ht : checkB m env t = .ok ift) (he : checkB m env e = .ok iff)
    (h : checkS m env (.ite c t e) = .ok env')
    (hx : (ift.term = false ∧ ift.get x ≠ some true) ∨ (iff.term = false ∧ iff.get x ≠ some true)) :
    env'.get x ≠ some true := by
  obtain ⟨_, ift', h2, iff', h3, rfl⟩ := checkS_ite.1 h
  rw [ht] at h2; rw [he] at h3
  cases h2; cases h3
  rcases hx with ⟨hl, hx⟩ | ⟨hl, hx⟩
  · exact fun h' => hx (Env.merge_left hl h')
  · exact fun h' => hx (Env.merge_right hl h')

/-- comprehension targets are local: an assignment whose source is a comprehension defines only its
own targets.  The comprehension is irrelevant to the proof: by `checkS_assign` an assignment with ANY right-hand
side leaves `env.extendAll ts`, so `cts`, `it` and `body` play no part. -/
theorem rejects_leak_comprehension (m : Mode) (env env' : Env) (ts cts : List Name) (it body : Expr) (x : Name)
    (hx : env.get x ≠ some true) (hts : x ∉ ts)
    (h : checkS m env (.assign ts (.comp cts it body)) = .ok env') : env'.get x ≠ some true := by
  obtain ⟨_, rfl⟩ := checkS_assign.1 h
  rw [Env.extendAll_get_none _ _ _ hts]
  exact hx

/-- the headline corollaries: `if c: x = …` / `for x in …: …` followed by a use of `x` is rejected -/
theorem rejects_leaks (m : Mode) (env : Env) (c : Expr) (t rest : Block) (x : Name)
    (hl : env.term = false) (hx : env.get x ≠ some true) :
    ∀ env', checkB m env (.cons (.if1 c t) (.cons (.ret (.var x)) rest)) ≠ .ok env' := by
  intro env' hc
  obtain ⟨env1, h1, h2⟩ := checkB_cons.1 hc
  exact use_rejected m env1 x rest (rejects_leak_if1 m env env1 c t x hl hx h1) env' h2

theorem rejects_leaks_for_target (env : Env) (it : Expr) (b rest : Block) (x : Name)
    (hl : env.term = false) (hx : env.get x ≠ some true) :
    ∀ env', checkB Mode.real env (.cons (.for [x] it b) (.cons (.ret (.var x)) rest)) ≠ .ok env' := by
  intro env' hc
  obtain ⟨env1, h1, h2⟩ := checkB_cons.1 hc
  exact use_rejected Mode.real env1 x rest (rejects_leak_for_target env env1 x it b hl hx h1) env' h2

/-- `def f(xs): for x in xs: pass; return x`   (`xs = 0`, `x = 1`) -/
def pLoopTarget : Func :=
  ⟨[0], .cons (.for [1] (.var 0) (.cons .pass .nil)) (.cons (.ret (.var 1)) .nil)⟩

/-- `def f(a): if a: return a else: y = 1; return y`   (`a = 0`, `y = 1`) -/
def pReturnBranch : Func :=
  ⟨[0], .cons (.ite (.var 0) (.cons (.ret (.var 0)) .nil) (.cons (.assign [1] .lit) .nil))
          (.cons (.ret (.var 1)) .nil)⟩

theorem pLoopTarget_legacy_accepted : frontend Mode.legacy pLoopTarget = .ok () := by rfl
theorem pLoopTarget_zero_trip : call false 5 pLoopTarget [0] = .unbound 1 := by decide
theorem pLoopTarget_one_trip : call false 9 pLoopTarget [1] = .returned := by decide
theorem pLoopTarget_legacy_prepass : prepassLegacy pLoopTarget = .error 1 := by rfl
theorem pLoopTarget_rejected : frontend Mode.real pLoopTarget = .error (.notAllPaths 1) := by rfl

theorem pReturnBranch_legacy_accepted : frontend Mode.legacy pReturnBranch = .ok () := by rfl
theorem pReturnBranch_legacy_prepass : prepassLegacy pReturnBranch = .error 1 := by rfl
theorem pReturnBranch_strict_rejects : frontend Mode.strict pReturnBranch = .error (.notAllPaths 1) := by rfl
theorem pReturnBranch_accepted : frontend Mode.real pReturnBranch = .ok () := by rfl
theorem pReturnBranch_prepass : prepass pReturnBranch = .ok () := by rfl
theorem pReturnBranch_runs : run false 9 pReturnBranch [1] = .returned ∧ run false 9 pReturnBranch [0] = .returned := by
  decide

/-- **F6**: the full-strength statement was false before the repair (run-time semantics alone): the
accepted `pLoopTarget` reads its loop target unbound when the loop runs zero times. -/
theorem legacy_accepted_safe_counterexample :
    ¬ ∀ (p : Func), frontend Mode.legacy p = .ok () → ∀ fuel ch, (call false fuel p ch).bad = false := by
  intro h
  have := h pLoopTarget pLoopTarget_legacy_accepted 5 [0]
  rw [pLoopTarget_zero_trip] at this
  cases this

/-- … and through the interpreter it failed on EVERY input: the pre-pass raised `KeyError: x`. -/
theorem legacy_counterexample_every_input (z : Bool) (fuel : Nat) (ch : List Nat) :
    runLegacy z fuel pLoopTarget ch = .unbound 1 :=
  runWith_error pLoopTarget_legacy_prepass

/-- **F21**: `pReturnBranch` was accepted, each of its executions is fine, yet calling it failed on
every input in the interpreter's definition/use pre-pass. -/
theorem legacy_counterexample_return_branch :
    frontend Mode.legacy pReturnBranch = .ok () ∧
    (∀ z fuel ch, runLegacy z fuel pReturnBranch ch = .unbound 1) ∧
    (∀ fuel ch, (call false fuel pReturnBranch ch).bad = false) :=
  ⟨pReturnBranch_legacy_accepted, fun _ _ _ => runWith_error pReturnBranch_legacy_prepass,
    accepted_safe_exec _ pReturnBranch_accepted⟩

/-- as the code was, a loop target WAS defined after the loop (contrary to the language guide) -/
theorem legacy_for_target_leaks (env : Env) (x : Name) (it : Expr) (hl : env.term = false)
    (hit : checkE env it = .ok ()) :
    ∃ env', checkS Mode.legacy env (.for [x] it (.cons .pass .nil)) = .ok env' ∧ env'.get x = some true := by
  refine ⟨(env.extendAll [x]).merge (env.extendAll [x]), ?_, ?_⟩
  · exact checkS_for.2 ⟨hit, _, checkB_cons.2 ⟨_, checkS_pass.2 rfl, checkB_nil.2 rfl⟩, rfl⟩
  · have hx : (env.extendAll [x]).get x = some true := (Env.extendAll_get env [x] x).2 (Or.inl (List.mem_singleton.2 rfl))
    exact Env.merge_both (by rw [Env.extendAll_term, hl]) hx hx

/-- what the old front end did guarantee: on every run on which no `for` loop with a named target
runs zero times (`z = true`: such runs end in `.excluded`), no unbound read and no fall-through -/
theorem legacy_accepted_safe_partial (p : Func) (h : frontend Mode.legacy p = .ok ()) (fuel : Nat) (ch : List Nat) :
    (call true fuel p ch).bad = false :=
  safe_of_frontend Mode.legacy true (Or.inr rfl) p h fuel ch

/-- the restriction only removes runs: a restricted run that is not `.excluded` is the unrestricted run -/
theorem noZero_only_removes_runs (p : Func) (fuel : Nat) (ch : List Nat)
    (h : call true fuel p ch ≠ .excluded) : call false fuel p ch = call true fuel p ch := by
  unfold call at h ⊢
  rw [(noZero_agrees fuel).2.1 p.args p.body ch fun he => h (by rw [he])]

/-- exact extent of the two defects: a program accepted by the old front end ran (old pre-pass +
execution) without the forbidden failures on every input iff the strict discipline accepts it
(when it does not, `prepassLegacy` is an error, and then every call ends in `.unbound` by `runWith_error`) -/
theorem legacy_run_safe_iff_strict (p : Func) (h : frontend Mode.legacy p = .ok ()) :
    (∀ fuel ch, (runLegacy false fuel p ch).bad = false) ↔ frontend Mode.strict p = .ok () := by
  constructor
  · intro hsafe
    rw [frontend_strict_iff]
    refine ⟨?_, (frontend_eq_ok.1 h).2⟩
    cases hp : prepassLegacy p with
    | ok u => rfl
    | error x =>
      have := hsafe 0 []
      rw [runLegacy, runWith_error hp] at this
      cases this
  · intro hs fuel ch
    rw [runLegacy, runWith_ok ((frontend_strict_iff p).1 hs).1]
    exact safe_of_frontend Mode.strict false (Or.inl rfl) p hs fuel ch

/-- `def f(a, xs): s = a; for x in xs: (if a: s = x); while s: s = a; return s` -/
def pOk : Func :=
  ⟨[0, 1],
    .cons (.assign [2] (.var 0))
    (.cons (.for [3] (.var 1) (.cons (.if1 (.var 0) (.cons (.assign [2] (.var 3)) .nil)) .nil))
    (.cons (.while (.var 2) (.cons (.assign [2] (.var 0)) .nil))
    (.cons (.ret (.var 2)) .nil)))⟩

example : frontend Mode.real pOk = .ok () := by rfl
example : prepass pOk = .ok () := by rfl
example : run false 30 pOk [2, 1, 0, 1, 0] = .returned := by decide
example : run false 30 pOk [0, 0] = .returned := by decide
/-- an accepted program with a returning branch that lends a name to what follows -/
example : frontend Mode.real pReturnBranch = .ok () ∧ run false 9 pReturnBranch [0] = .returned := by
  constructor
  · rfl
  · decide
/-- the leak hypotheses are satisfiable: `if a: y = 1` then `return y` in the initial environment -/
example : ∀ env', checkB Mode.real (Env.init [0]) (.cons (.if1 (.var 0) (.cons (.assign [1] .lit) .nil))
    (.cons (.ret (.var 1)) .nil)) ≠ .ok env' :=
  rejects_leaks Mode.real (Env.init [0]) _ _ _ 1 rfl (by decide)
/-- … and the loop-target one: `for x in xs: pass` then `return x` -/
example : ∀ env', checkB Mode.real (Env.init [0]) (.cons (.for [1] (.var 0) (.cons .pass .nil))
    (.cons (.ret (.var 1)) .nil)) ≠ .ok env' :=
  rejects_leaks_for_target (Env.init [0]) _ _ _ 1 rfl (by decide)

end Fpy.Props.C15
