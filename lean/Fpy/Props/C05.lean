/-
C05 — Number values behave as the real numbers they denote.
The Spec is `Fpy/Spec/ExtReal.lean` (extended reals with the IEEE rules) and `Fpy/Spec/Denote.lean`.

Vocabulary.  `x : RF` is a `RealFloat` `(s, exp, c)`; `x.val : Rat` is its denotation
(`as_rational`), `RF.sgn s = (-1)^s`.  `FV` is a `Float` (`fin x | inf s | nan s`),
`FV.den : FV → ExtVal` its denotation in the extended reals `nan | pinf | ninf | fin q`.
`Num` is a Python operand of one of the five types (`F` Float, `R` RealFloat, `I` int,
`D` float, `Q` Fraction), `Num.den` its denotation.  All theorems are unconditional over
`s, exp, c` (any encoding, zeros with any exponent, negative zero), hypotheses only name the
outcome of the operation (`= .ok r`).  The four defects the checks found — `+x` dropping the
sign, `RealFloat * float(±inf)` sign and `0 * inf`, `RealFloat + Float` raising — are repaired
in /repo, and the model follows the repaired code.
-/
import Fpy.Proof.ExactMixed
namespace Fpy.Props.C05
open Fpy Fpy.Spec

theorem val_eq (x : RF) : x.val = RF.sgn x.s * (x.c : Rat) * (2 : Rat) ^ x.exp := RF.val_eq x

theorem val_add (x y : RF) : (x.add y).val = x.val + y.val := RF.val_add x y

theorem val_sub (x y : RF) : (x.sub y).val = x.val - y.val := RF.val_sub x y

theorem val_mul (x y : RF) : (x.mul y).val = x.val * y.val := RF.val_mul x y

theorem val_pow (x : RF) (k : Nat) : (x.pow k).val = x.val ^ k := RF.val_pow x k

theorem val_neg (x : RF) : x.neg.val = -x.val := RF.val_neg x

theorem val_abs (x : RF) : x.abs.val = x.val.abs := RF.val_abs x

theorem val_pos (x : RF) : x.pos.val = x.val := RF.val_pos x

/-- redundant encodings denote the same number: `c·2^k` at `exp` is `c` at `exp + k` -/
theorem val_encoding (s : Bool) (e : Int) (c k : Nat) :
    (⟨s, e, c * 2 ^ k⟩ : RF).val = (⟨s, e + k, c⟩ : RF).val := RF.val_shift s e c k

/-- a zero denotes 0 whatever its exponent and sign -/
theorem val_zero (s : Bool) (e : Int) : (⟨s, e, 0⟩ : RF).val = 0 := RF.val_mk_zero s e

/-! ### signed zeros (IEEE 754 §6.3) -/

/-- a sum of two zeros is `-0` only when both are: `(+0) + (−0) = +0` -/
theorem add_zero_sign (s t : Bool) (e1 e2 : Int) :
    (RF.add ⟨s, e1, 0⟩ ⟨t, e2, 0⟩).s = (s && t) ∧ (RF.add ⟨s, e1, 0⟩ ⟨t, e2, 0⟩).c = 0 := by
  simp [RF.add]

/-- exact cancellation of non-zero operands gives `+0` -/
theorem add_cancel_sign (x y : RF) (hx : x.c ≠ 0) (hy : y.c ≠ 0) (h : x.val + y.val = 0) :
    (x.add y).s = false ∧ (x.add y).c = 0 := by
  have hc : (x.add y).c = 0 := (RF.val_eq_zero_iff _).mp (by rw [RF.val_add, h])
  exact ⟨Bool.eq_false_iff.2 fun hs => hx (RF.add_neg_zero x y hc hs).1, hc⟩

/-- the sign of a product is the XOR of the signs, zeros included -/
theorem mul_sign (x y : RF) : (x.mul y).s = (x.s != y.s) := by
  unfold RF.mul; split <;> rfl

theorem pow_sign (x : RF) (k : Nat) (hk : k ≠ 0) : (x.pow k).s = (x.s && (k % 2 == 1)) := by
  unfold RF.pow; simp [hk]

/-- `compare` is the three-way comparison of the denoted values, for any encodings -/
theorem compare_spec (x y : RF) : x.compare y = cmpRat x.val y.val := RF.compare_cmpRat x y

theorem compare_lt_iff (x y : RF) : x.compare y = .lt ↔ x.val < y.val := by
  rw [RF.compare_cmpRat]; exact RF.cmpRat_lt_iff _ _

theorem compare_eq_iff (x y : RF) : x.compare y = .eq ↔ x.val = y.val := by
  rw [RF.compare_cmpRat]; exact RF.cmpRat_eq_iff _ _

theorem compare_gt_iff (x y : RF) : x.compare y = .gt ↔ y.val < x.val := by
  rw [RF.compare_cmpRat]; exact RF.cmpRat_gt_iff _ _

/-- `==` on two `RealFloat`s is equality of the denoted values (`-0 == +0`, `c=4,exp=0 == c=1,exp=2`) -/
theorem eq_iff_val (x y : RF) : x.beqVal y = true ↔ x.val = y.val := by
  unfold RF.beqVal; rw [← compare_eq_iff]; simp

theorem split_sum (x : RF) (n : Int) : (x.split n).1.val + (x.split n).2.val = x.val := RF.split_sum x n

/-- the high part has no digit at or below `n`, the low part none above `n`; both keep the sign -/
theorem split_ranges (x : RF) (n : Int) :
    (x.split n).1.exp ≥ n + 1 ∧ ((x.split n).2.c = 0 ∨ (x.split n).2.e ≤ n) ∧
    (x.split n).1.s = x.s ∧ (x.split n).2.s = x.s := RF.split_ranges x n

/-- `normalize(p, n)` returns the same number at the target exponent, with the same sign -/
theorem normalize_val (x y : RF) (p : Option Nat) (n : Option Int) (h : x.normalize p n = some y) :
    y.val = x.val ∧ y.exp = x.normTarget p n ∧ y.s = x.s := RF.normalize_val x y p n h

/-- `normalize` raises exactly when digits would be lost: when the value is not an integer
multiple of `2^target` -/
theorem normalize_none_iff (x : RF) (p : Option Nat) (n : Option Int) :
    x.normalize p n = none ↔ ¬ ∃ k : Int, x.val = (k : Rat) * (2 : Rat) ^ (x.normTarget p n) := by
  rw [RF.normalize_eq_go, ← RF.low_digits_zero_iff]
  generalize x.normTarget p n = t
  rcases RF.normGo_cases x t with ⟨ht, e⟩ | ⟨-, e⟩ <;> rw [e]
  · have : (t - x.exp).toNat = 0 := by omega
    simp [this, Nat.mod_one]
  · by_cases h2 : x.c % 2 ^ (t - x.exp).toNat = 0 <;> simp [h2]

/-- `is_more_significant(n)` ⇔ the value is an integer multiple of `2^(n+1)` -/
theorem isMoreSignificant_iff (x : RF) (n : Int) :
    x.isMoreSignificant n = true ↔ ∃ k : Int, x.val = (k : Rat) * (2 : Rat) ^ (n + 1) :=
  RF.isMoreSignificant_iff x n

/-- … and it is the docstring's "low part of `split(n)` is zero" -/
theorem isMoreSignificant_iff_split (x : RF) (n : Int) :
    x.isMoreSignificant n = ((x.split n).2.c == 0) := by
  rw [RF.isMoreSignificant_eq]
  rcases RF.split_cases x n with ⟨h0, hs⟩ | ⟨_, hlt, hs⟩ | ⟨_, _, hs⟩ <;> rw [hs]
  · simp [h0]
  · have : (n + 1 - x.exp).toNat = 0 := by omega
    simp [this, Nat.mod_one]

/-- `bit(n)` is the parity of `⌊|x| / 2^n⌋` -/
theorem bit_spec (x : RF) (n : Int) :
    ∃ k : Nat, (k : Rat) * (2 : Rat) ^ n ≤ x.val.abs ∧ x.val.abs < ((k + 1 : Nat) : Rat) * (2 : Rat) ^ n ∧
      x.bit n = (k % 2 == 1) := RF.bit_spec x n

/-- `int(x)` returns exactly the value … -/
theorem toInt_val (x : RF) (i : Int) (h : x.toInt? = some i) : (i : Rat) = x.val := RF.toInt_some x i h

/-- … and raises exactly when the value is not an integer -/
theorem toInt_none_iff (x : RF) : x.toInt? = none ↔ ¬ ∃ k : Int, x.val = (k : Rat) := RF.toInt_none_iff x

/-- `is_identical_to` is equality of encodings -/
theorem isIdenticalTo_iff (x y : RF) : x.isIdenticalTo y = true ↔ x = y := by
  cases x; cases y; simp [RF.isIdenticalTo, and_assoc]

/-! ## `Float`: the special-value arms equal the extended-real tables -/

theorem fv_add (a b : FV) : (a.add b).den = a.den.add b.den := FV.add_den a b
theorem fv_sub (a b : FV) : (a.sub b).den = a.den.sub b.den := by
  unfold FV.sub ExtVal.sub; rw [FV.add_den, FV.neg_den]
theorem fv_mul (a b : FV) : (a.mul b).den = a.den.mul b.den := FV.mul_den a b
theorem fv_neg (a : FV) : a.neg.den = a.den.neg := FV.neg_den a
theorem fv_abs (a : FV) : a.abs.den = a.den.abs := by
  cases a with
  | fin x => simp only [FV.abs, FV.withSign, FV.den, ExtVal.abs]; congr 1; exact RF.val_abs x
  | inf s => cases s <;> rfl
  | nan s => rfl
/-- unary plus keeps the value (candidate F1, repaired: the sign is no longer dropped) -/
theorem pos_val (a : FV) : a.pos.den = a.den := rfl
theorem fv_compare (a b : FV) : a.compare b = a.den.cmp b.den := FV.compare_den a b
/-- `x ** k`: refused for `k < 0`; `x ** 0 = 1` for every `x`; `(−∞)^k` has the parity sign -/
theorem fv_pow (a : FV) (k : Int) (r : FV) (h : a.powInt k = .ok r) : 0 ≤ k ∧ r.den = a.den.pow k.toNat := by
  have := FV.powInt_eq a k
  rw [h] at this; split at this
  · cases this
  · exact ⟨by omega, Except.ok.inj this⟩

/-- operand conversion (`from_int`, `from_float`, `from_rational`, `from_real`) keeps the value;
`from_rational` refuses exactly the non-dyadic fractions (`ofRational?` tests `isPow2 den`) -/
theorem convert_den (b : Num) (v : FV) (h : FV.ofNum b = .ok v) : v.den = b.den := (okIf_inv (FV.ofNum_eq b)).1 v h

/-- `a + b`, `a - b`, `a * b` on any mix of the five types (Python dispatch included: reflected
operators for a native left operand, `RealFloat` deferring to `Float`): whenever the operator
returns, the result denotes the Spec operation on the denoted values. -/
theorem binop_den (op : Num.BinOp) (a b r : Num) (h : Num.binop op a b = .ok r) :
    r.den = op.spec a.den b.den := by
  have := Num.binop_eq op a b
  split at this
  · exact (okIf_inv this).1 r h
  · rw [h] at this; cases this

/-- **no spurious refusal**: with at least one library operand and no non-dyadic `Fraction`, `+ - *`
always return — in particular `RealFloat <op> Float` in either order (candidate F19, repaired);
a non-dyadic `Fraction` has no exact `Float`, the only reason to raise -/
theorem binop_total (op : Num.BinOp) (a b : Num) (hfpy : a.isFpy = true ∨ b.isFpy = true)
    (ha : a.dyadic = true) (hb : b.dyadic = true) : ∃ r, Num.binop op a b = .ok r := by
  have := Num.binop_eq op a b
  rw [if_pos (by simpa using hfpy)] at this
  exact (okIf_inv this).2 (by rw [ha, hb]; rfl)

/-- `a ** k` -/
theorem pow_den (a : Num) (k : Int) (r : Num) (h : Num.pow a k = .ok r) : 0 ≤ k ∧ r.den = a.den.pow k.toNat := by
  have := Num.pow_eq a k
  rw [h] at this; split at this
  · split at this
    · cases this
    · exact ⟨by omega, Except.ok.inj this⟩
  · cases this

theorem pow_neg_exponent (a : Num) (k : Int) (hk : k < 0) : ∃ e, Num.pow a k = .error e := by
  have := Num.pow_eq a k
  rw [if_pos hk] at this
  cases h : Num.pow a k with
  | error e => exact ⟨e, rfl⟩
  | ok r => rw [h] at this; split at this <;> cases this

/-- `==`, `<`, `<=`, `>`, `>=` on any mix of the five types, either operand order: the operator
applied to the ordering of the denoted values; NaN is unordered. -/
theorem cmpOp_spec (op : Num.CmpOp) (a b : Num) (r : Bool) (h : Num.cmpOp op a b = .ok r) :
    r = op.test (a.den.cmp b.den) := by
  rw [Num.cmpOp_eq] at h; split at h <;> cases h; rfl

/-- the rich comparisons never raise when at least one operand is a library type -/
theorem cmpOp_total (op : Num.CmpOp) (a b : Num) (hfpy : a.isFpy = true ∨ b.isFpy = true) :
    ∃ r, Num.cmpOp op a b = .ok r :=
  ⟨_, by rw [Num.cmpOp_eq, if_pos (by simpa using hfpy)]⟩

/-- `Float.compare(other)` for `other` of any of the five types -/
theorem float_compare_spec (a : FV) (b : Num) : a.compareNum b = a.den.cmp b.den := FV.compareNum_den a b

/-- `RealFloat.compare(other)` -/
theorem real_compare_spec (x : RF) (b : Num) (o : Option Ordering) (h : x.compareNum b = .ok o) :
    o = (ExtVal.fin x.val).cmp b.den := by
  rw [RF.compareNum_eq x b (by intro w hw; subst hw; cases h)] at h; cases h; rfl

/-- equal values hash equally: the class key `__hash__` hashes through (the integer, else the
reduced fraction, else the NaN / ±∞ constants) depends only on the denoted value -/
theorem hash_class (a b : Num) (ka kb : RF.HashKey) (ha : Num.hashKey a = .ok ka)
    (hb : Num.hashKey b = .ok kb) (h : a.den = b.den) : ka = kb := Num.hash_class a b ka kb ha hb h

/-- `int(a)` returns exactly the value … -/
theorem int_conv (a : Num) (i : Int) (h : Num.toInt a = .ok i) : a.den = .fin (i : Rat) := by
  cases a with
  | F v =>
    cases v with
    | fin x => exact RF.toInt_ok_den x i h
    | _ => cases h
  | R x => exact RF.toInt_ok_den x i h
  | _ => cases h

/-- … and raises exactly when the value is not an integer (infinities, NaN included) -/
theorem int_conv_error_iff (a : Num) (hfpy : (∃ v, a = .F v) ∨ (∃ x, a = .R x)) :
    (∃ e, Num.toInt a = .error e) ↔ ¬ ∃ k : Int, a.den = .fin (k : Rat) := by
  rcases hfpy with ⟨v, rfl⟩ | ⟨x, rfl⟩
  · cases v with
    | fin x => exact RF.toInt_error_iff x
    | inf s => cases s <;> simp [Num.toInt, FV.toInt?, Num.den, FV.den, ExtVal.ofInf]
    | nan s => simp [Num.toInt, FV.toInt?, Num.den, FV.den]
  · exact RF.toInt_error_iff x

/-- `float(a)` (binary64 rounding + `inexact ⇒ ValueError`) returns a float denoting exactly `a`,
or raises -/
theorem float_conv (a : Num) (w : FV) (h : Num.toFloat a = .ok w) : w.den = a.den := by
  unfold Num.toFloat at h
  cases a with
  | F v => exact toFloatCore_flt_den v w h
  -- `prepare` sends `.real x` and `.flt (.fin x)` to the same `.ok (.fin x)`, so the two `toFloatCore`s are one term
  | R x => exact toFloatCore_flt_den (.fin x) w h
  | I i => simp at h
  | D v => simp at h
  | Q n d => simp at h

/-- `a.as_rational()` returns exactly the value, or raises -/
theorem rational_conv (a : Num) (q : Rat) (h : Num.asRational a = .ok q) : a.den = .fin q := by
  unfold Num.asRational at h
  cases a with
  | F v =>
    cases v with
    | fin x => simp [FV.asRational, RF.asRational] at h; simp [Num.den, FV.den, h]
    | inf s => simp [FV.asRational] at h
    | nan s => simp [FV.asRational] at h
  | R x => simp [RF.asRational] at h; simp [Num.den, h]
  | I i => simp at h
  | D v => simp at h
  | Q n d => simp at h

/-! ## Non-vacuity: concrete values meeting the hypotheses, evaluated by the kernel -/

example : (⟨false, 0, 4⟩ : RF).compare ⟨false, 2, 1⟩ = .eq ∧ (⟨true, -7, 0⟩ : RF).compare ⟨false, 3, 0⟩ = .eq := by decide
example : (RF.add ⟨false, 0, 0⟩ ⟨true, 5, 0⟩).s = false ∧ (RF.add ⟨true, 0, 0⟩ ⟨true, 5, 0⟩).s = true ∧
    (RF.add ⟨true, 0, 3⟩ ⟨false, -2, 12⟩) = ⟨false, -2, 0⟩ := by decide
example : (⟨true, -2, 12⟩ : RF).normalize (some 2) none = some ⟨true, 0, 3⟩ ∧
    (⟨true, -2, 13⟩ : RF).normalize (some 2) none = none ∧
    (⟨true, -2, 13⟩ : RF).split (-1) = (⟨true, 0, 3⟩, ⟨true, -2, 1⟩) := by decide
example : (⟨true, -1, 12⟩ : RF).toInt? = some (-6) ∧ (⟨false, -1, 3⟩ : RF).toInt? = none := by decide
-- unary plus keeps a negative value; (−∞)^3 = −∞, (−∞)^2 = +∞, nan^0 = 1
example : FV.pos (.fin ⟨true, 0, 3⟩) = .fin ⟨true, 0, 3⟩ ∧
    (match FV.powInt (.inf true) 3 with | .ok v => v == .inf true | _ => false) = true ∧
    (match FV.powInt (.inf true) 2 with | .ok v => v == .inf false | _ => false) = true ∧
    (match FV.powInt (.nan false) 0 with | .ok v => v == .fin ⟨false, 0, 1⟩ | _ => false) = true := by decide
-- RealFloat * float(−inf) has the product sign, 0 * inf is NaN, RealFloat + Float is a Float
example : (match Num.binop .mul (.R ⟨false, 0, 3⟩) (.D (.inf true)) with | .ok (.D v) => v == .inf true | _ => false) = true ∧
    (match Num.binop .mul (.R ⟨false, 0, 0⟩) (.D (.inf false)) with | .ok (.D v) => v == .nan false | _ => false) = true := by
  decide
example : (match Num.binop .add (.R ⟨false, 0, 3⟩) (.F (.fin ⟨true, 1, 1⟩)) with
    | .ok (.F (.fin x)) => x == ⟨false, 0, 1⟩ | _ => false) = true := by decide
example : (match Num.binop .add (.R ⟨false, 0, 3⟩) (.Q 1 3) with | .error .valueError => true | _ => false) = true := by
  decide
-- float(): 2^53 + 1 is refused, the least subnormal converts
example : (match Num.toFloat (.R ⟨false, 0, 2 ^ 53 + 1⟩) with | .error .valueError => true | _ => false) = true ∧
    (match Num.toFloat (.R ⟨true, -1074, 1⟩) with | .ok (.fin x) => x == ⟨true, -1074, 1⟩ | _ => false) = true := by
  decide +kernel

end Fpy.Props.C05
