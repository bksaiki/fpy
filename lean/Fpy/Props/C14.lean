/-
C14 — Format inference bounds every run-time value: the abstract arithmetic part.

Model: `Fpy/Model/AbsFmt.lean` (`AbstractFormat` and its operators as written today).
Spec:  `Fpy/Spec/AbsFmt.lean`: `γ a : FV → Prop`, the set of `Float` values an abstract format
denotes (docstring reading: a non-zero finite value is a member iff it can be written
`±m·2^e` with `m < 2^prec`, `e ≥ exp`, within `[neg_bound, pos_bound]`; `+0` always, `-0`, `±inf`,
`NaN` per flag), `WF a`: the convention the code states (`pos_bound ≥ 0 ≥ neg_bound`, unbounded
sides `+inf`/`-inf`, `prec > 0`).  Exact operations on values are `FV.add/mul/neg/abs`
(`Float.__add__` …, IEEE rules for zeros, infinities, NaN).

Each operator: the full-strength statement if it holds for the faithful model; otherwise a
`…_counterexample` (concrete formats and members, proved) and the `…_partial` theorem with the
excluded region as a hypothesis.

State of the code modelled: after the repairs of F10 (`<=` tests the precision also when
`other.exp = -inf`), F28 (`abs`: `pos_bound = max(pos_bound, -neg_bound)`) and F31 (a zero bound
times an unbounded one is zero): `le_sound`, `abs_sound` hold at full strength and `mul_sound_partial`
needs no hypothesis on the bounds.  Still open — finding F29: `__neg__` copies `has_neg_zero` and
`__mul__` takes the disjunction, although exactly `-(+0) = -0` and `(-2)·(+0) = -0`; hence
`neg_sound_partial` / `mul_sound_partial` and their counterexamples.  The `legacy_…` theorems
record what was wrong with the operators before the repairs (definitions `leLegacy`, `absLegacy`
in the Spec file).
-/
import Fpy.Proof.AbsFmtSound
namespace Fpy.Props.C14
open Fpy AbsFmt

/-- the driver operation `member` decides exactly γ; the concrete members and non-members below are read off it -/
theorem member_iff_gamma (a : AbsFmt) (v : FV) : a.member v = true ↔ γ a v := by
  cases v with
  | nan s => exact Iff.rfl
  | inf s => cases s <;> exact Iff.rfl
  | fin x =>
    simp only [member, γ, finMem]
    by_cases hc : x.c = 0
    · simp only [hc, if_true]
      cases x.s <;> simp
    · simp only [hc, if_false, Bool.and_eq_true, decide_eq_true_eq]
      rw [writableB_iff a x hc]
      constructor
      · rintro ⟨⟨h1, h2⟩, h3⟩; exact ⟨h1, h2, h3⟩
      · rintro ⟨h1, h2, h3⟩; exact ⟨⟨h1, h2⟩, h3⟩

/-- `x ∈ γ a → y ∈ γ b → x + y ∈ γ (a + b)`, including signed zeros, infinities and NaN. -/
theorem add_sound (a b c : AbsFmt) (ha : a.WF) (hb : b.WF) (h : a.add b = .ok c) (x y : FV)
    (hx : γ a x) (hy : γ b y) : γ c (x.add y) := by
  obtain ⟨prec, hprec, hc⟩ := bind_ok h
  cases hc
  cases x with
  | fin p =>
    cases y with
    | fin q =>
      obtain ⟨g, hgp, hgq, hga, hgb⟩ := exists_scale p.exp q.exp a.lvl b.lvl
      have hs := RF.add_sc p q g (Or.inr hgp) (Or.inr hgq)
      refine MemAt.finMem (g := g) ?_ hs.1 fun hc hsg => ?_
      · rw [hs.2]
        exact (memAt_of_finMem ha hx (Or.inr hgp) hga).sum (memAt_of_finMem hb hy (Or.inr hgq) hgb)
          (fun s _ => by cases s <;> rfl) rfl hprec
      · obtain ⟨hp0, hps, hq0, hqs⟩ := RF.add_neg_zero p q hc hsg
        show (a.negZero && b.negZero) = true
        rw [(finMem_zero a p hp0).1 hx hps, (finMem_zero b q hq0).1 hy hqs]; rfl
    | _ => exact add_special rfl rfl rfl (fun _ => hx) (fun _ => hy) (Or.inr rfl)
  | _ => exact add_special rfl rfl rfl (fun _ => hx) (fun _ => hy) (Or.inl rfl)

/-- `x ∈ γ a → y ∈ γ b → x - y ∈ γ (a - b)` -/
theorem sub_sound (a b c : AbsFmt) (ha : a.WF) (hb : b.WF) (h : a.sub b = .ok c) (x y : FV)
    (hx : γ a x) (hy : γ b y) : γ c (x.sub y) := by
  obtain ⟨prec, hprec, hc⟩ := bind_ok h
  cases hc
  cases x with
  | fin p =>
    cases y with
    | fin q =>
      -- the sum of `p ∈ a` and `-q ∈ -b`
      obtain ⟨g, hgp, hgq, hga, hgb⟩ := exists_scale p.exp q.exp a.lvl b.lvl
      have hs := RF.add_sc p q.neg g (Or.inr hgp) (Or.inr hgq)
      refine MemAt.finMem (g := g) ?_ hs.1 fun hc hsg => ?_
      · rw [hs.2, RF.neg_sc]
        -- `a.pos.sub b.neg` is `a.pos.add b.neg.neg` and `b.neg'.pos` is `b.neg.neg`, both by definition, so the
        -- bounds `sub` computes are those `MemAt.sum` wants of `a` and `b.neg'`: the `else` branches (`if_neg`)
        exact (memAt_of_finMem ha hx (Or.inr hgp) hga).sum (memAt_of_finMem hb hy (Or.inr hgq) hgb).neg
          (fun s h => by cases s <;> exact if_neg h) rfl hprec
      · obtain ⟨hp0, hps, _, _⟩ := RF.add_neg_zero p q.neg hc hsg
        exact (finMem_zero a p hp0).1 hx hps
    -- an infinite or NaN operand: the sum of `x ∈ a` and `-y ∈ -b`, whose flags are those `__sub__` computes
    | _ => exact add_special (b := b.neg') rfl rfl rfl (fun _ => hx) (neg_special hy) (Or.inr rfl)
  | _ => exact add_special (b := b.neg') rfl rfl rfl (fun _ => hx) (neg_special hy) (Or.inl rfl)

/-- `γ a ∪ γ b ⊆ γ (a | b)`.  Only `a` need be well-formed: Python's `max(a, b)` is `b if b > a else a`, so a `nan`
bound of `b` is dropped, while one of `a` would be kept. -/
theorem union_sound (a b : AbsFmt) (ha : a.WF) (x : FV) (hx : γ a x ∨ γ b x) : γ (a.union b) x := by
  cases x with
  | nan s => simp only [γ, AbsFmt.union] at hx ⊢; rcases hx with h | h <;> simp [h]
  | inf s => cases s <;> simp only [γ, AbsFmt.union] at hx ⊢ <;> rcases hx with h | h <;> simp [h]
  | fin p =>
    by_cases hc : p.c = 0
    · refine (finMem_zero _ p hc).2 fun hs => ?_
      show (a.negZero || b.negZero) = true
      rcases hx with h | h <;> rw [(finMem_zero _ p hc).1 h hs]
      · rfl
      · exact Bool.or_true _
    · obtain ⟨g, hg, _, hga, hgb⟩ := exists_scale p.exp p.exp a.lvl b.lvl
      exact (MemAt.union (hx.imp (memAt_of_finMem_ne · hc hg hga) (memAt_of_finMem_ne · hc hg hgb)) hga hgb
        (wf_ne_nan ha)).finMem (Or.inr hg) fun h => absurd h hc

/-! ### negation — false at the sign of zero (F29) -/

/-- negation is sound except that `-(+0) = -0` needs `has_neg_zero`, which `__neg__` merely copies -/
theorem neg_sound_partial (a : AbsFmt) (x : FV) (hx : γ a x)
    (hz : ∀ r, x = .fin r → r.c = 0 → r.s = false → a.negZero = true) : γ a.neg' x.neg := by
  cases x with
  | nan s => exact hx
  | inf s => cases s <;> exact hx
  | fin p =>
    by_cases hc : p.c = 0
    · exact (finMem_zero _ p.neg hc).2 fun hs => hz p rfl hc (by simpa [RF.neg] using hs)
    · have hm := (memAt_of_finMem_ne hx hc (Int.min_le_left p.exp a.lvl) (Int.min_le_right ..)).neg
      rw [← RF.neg_sc] at hm
      exact hm.finMem (Or.inr (Int.min_le_left ..)) fun h => absurd h hc

/-- the abstract format of `SINT8` (`A(inf, 0, +127, -128)`, no special values) -/
def sint8 : AbsFmt := { prec := none, exp := some 0, pos := .fin ⟨false, 0, 127⟩, neg := .fin ⟨true, 0, 128⟩ }

theorem sint8_wf : sint8.WF := by
  refine ⟨Or.inr ⟨_, rfl, Or.inr rfl⟩, Or.inr ⟨_, rfl, Or.inr rfl⟩, by decide⟩

/-- `+0 ∈ γ SINT8` but `-(+0) = -0 ∉ γ (-SINT8)` -/
theorem neg_sound_counterexample :
    γ sint8 (.fin ⟨false, 0, 0⟩) ∧ ¬ γ sint8.neg' (FV.neg (.fin ⟨false, 0, 0⟩)) := by
  exact ⟨(member_iff_gamma _ _).1 (by decide), mt (member_iff_gamma _ _).2 (by decide)⟩

/-! ### absolute value — full strength (since the repair of F28) -/

/-- `x ∈ γ a → |x| ∈ γ (abs a)` -/
theorem abs_sound (a : AbsFmt) (x : FV) (hx : γ a x) : γ a.abs' x.abs := by
  cases x with
  | nan s => exact hx
  | inf s =>
    cases s <;> simp only [FV.abs, FV.withSign, γ, AbsFmt.abs'] at hx ⊢ <;> simp [hx]
  | fin p =>
    by_cases hc : p.c = 0
    · exact (finMem_zero _ p.abs hc).2 nofun
    · have hZ : ∀ g, (p.abs.sc g = p.sc g ∨ p.abs.sc g = -p.sc g) ∧ 0 ≤ p.abs.sc g := fun g => by
        rw [RF.abs_sc]; omega
      exact ((memAt_of_finMem_ne hx hc (Int.min_le_left p.exp a.lvl) (Int.min_le_right ..)).abs (hZ _).1
        (hZ _).2).finMem (Or.inr (Int.min_le_left ..)) fun h => absurd h hc

/-- before F28: `-128 ∈ γ SINT8` but `|-128| = 128 ∉ γ (absLegacy SINT8)` (`= A(inf, 0, +127, 0)`) -/
theorem legacy_abs_counterexample :
    γ sint8 (.fin ⟨true, 0, 128⟩) ∧ ¬ γ sint8.absLegacy (FV.abs (.fin ⟨true, 0, 128⟩)) ∧
      γ sint8.abs' (FV.abs (.fin ⟨true, 0, 128⟩)) := by
  have hmem : γ sint8 (.fin ⟨true, 0, 128⟩) := (member_iff_gamma _ _).1 (by decide)
  exact ⟨hmem, mt (member_iff_gamma _ _).2 (by decide), abs_sound _ _ hmem⟩

/-! ### product — false at the sign of zero only (F29) -/

/-- the product is sound provided a `-0` product is covered by `has_neg_zero` of an operand
(`__mul__` sets `a.has_neg_zero or b.has_neg_zero`).  No hypothesis on the bounds: a zero bound times an
unbounded one is zero (F31). -/
theorem mul_sound_partial (a b c : AbsFmt) (ha : a.WF) (hb : b.WF) (h : a.mul b = .ok c)
    (x y : FV) (hx : γ a x) (hy : γ b y)
    (hz : ∀ p q, x = .fin p → y = .fin q → (p.mul q).c = 0 → (p.mul q).s = true → (a.negZero || b.negZero) = true) :
    γ c (x.mul y) := by
  obtain ⟨ps, _, h'⟩ := bind_ok h
  obtain ⟨po, _, hc⟩ := bind_ok h'
  have hc : c = _ := (Except.ok.inj hc).symm
  have hpi : c.posInf = ((a.posInf || a.negInf) || (b.posInf || b.negInf)) := by rw [hc]
  have hni : c.negInf = ((a.posInf || a.negInf) || (b.posInf || b.negInf)) := by rw [hc]
  have hnan : c.nan = (a.nan || b.nan || ((a.posInf || a.negInf) || (b.posInf || b.negInf))) := by rw [hc]
  -- a non-finite result is covered as soon as an operand has an infinity
  have hnar : ∀ v : FV, v.isNar = true → ((a.posInf || a.negInf) || (b.posInf || b.negInf)) = true → γ c v := by
    intro v hv hio
    cases v with
    | fin r => cases hv
    | inf s => cases s <;> simp only [γ] <;> simp [hpi, hni, hio]
    | nan s => simp only [γ]; simp [hnan, hio]
  cases x with
  | nan s =>
    have : (FV.nan s).mul y = .nan false := by cases y <;> rfl
    rw [this]; simp only [γ] at hx ⊢; simp [hnan, hx]
  | inf s =>
    have hio : ((a.posInf || a.negInf) || (b.posInf || b.negInf)) = true := by
      cases s <;> simp only [γ] at hx <;> simp [hx]
    apply hnar _ _ hio
    cases y with
    | nan t => rfl
    | fin q => simp only [FV.mul]; split <;> rfl
    | inf t => simp only [FV.mul]; split <;> rfl
  | fin p =>
    cases y with
    | nan t => simp only [FV.mul, γ] at hy ⊢; simp [hnan, hy]
    | inf t =>
      have hio : ((a.posInf || a.negInf) || (b.posInf || b.negInf)) = true := by
        cases t <;> simp only [γ] at hy <;> simp [hy]
      apply hnar _ _ hio
      simp only [FV.mul]; split <;> rfl
    | fin q => exact mul_fin a b c ha hb h p q hx hy (hz p q rfl rfl)

/-- … in particular at full strength as soon as one operand's number system has a negative zero -/
theorem mul_sound_of_neg_zero (a b c : AbsFmt) (ha : a.WF) (hb : b.WF) (h : a.mul b = .ok c)
    (hnz : (a.negZero || b.negZero) = true) (x y : FV) (hx : γ a x) (hy : γ b y) : γ c (x.mul y) :=
  mul_sound_partial a b c ha hb h x y hx hy (fun _ _ _ _ _ _ => hnz)

/-- `SINT8 * SINT8` is `A(16, 0, +16384, -16256)` without a negative zero, yet `(-2) · (+0) = -0` -/
theorem mul_sound_counterexample_neg_zero :
    ∃ c, sint8.mul sint8 = .ok c ∧ γ sint8 (.fin ⟨true, 0, 2⟩) ∧ γ sint8 (.fin ⟨false, 0, 0⟩) ∧
      ¬ γ c (FV.mul (.fin ⟨true, 0, 2⟩) (.fin ⟨false, 0, 0⟩)) := by
  refine ⟨⟨some 16, some 0, .fin ⟨false, 0, 16384⟩, .fin ⟨true, 0, 16256⟩, false, false, false, false⟩,
    by rfl, (member_iff_gamma _ _).1 (by decide), (member_iff_gamma _ _).1 (by decide),
    mt (member_iff_gamma _ _).2 (by decide)⟩

/-- F31: non-positive integers `≥ -2` times all integers has both bounds infinite (the zero bound
times the unbounded one contributes zero, not `nan`, to the `max`/`min` of the four products) -/
theorem mul_zero_bound_times_unbounded :
    ∃ c, (⟨none, some 0, .fin ⟨false, 0, 0⟩, .fin ⟨true, 0, 2⟩, false, false, false, false⟩ : AbsFmt).mul
        ⟨none, some 0, .inf false, .inf true, false, false, false, false⟩ = .ok c ∧
      c.pos = .inf false ∧ c.neg = .inf true := by
  exact ⟨⟨none, some 0, .inf false, .inf true, false, false, false, false⟩, by rfl, by rfl, by rfl⟩

/-! ### inclusion test — full strength (since the repair of F10) -/

/-- `a <= b = True → γ a ⊆ γ b` -/
theorem le_sound (a b : AbsFmt) (hb : b.WF) (h : a.le b = true) (x : FV) (hx : γ a x) : γ b x := by
  obtain ⟨hpi, hni, hnan, hnz⟩ := specials_sound (le_unfold h).1
  cases x with
  | fin p =>
    by_cases hc : p.c = 0
    · exact (finMem_zero b p hc).2 fun hs => hnz ((finMem_zero a p hc).1 hx hs)
    · obtain ⟨g, hg, _, hga, hgb⟩ := exists_scale p.exp p.exp a.lvl b.lvl
      exact ((memAt_of_finMem_ne hx hc hg hga).le hb h hgb).finMem
        (Or.inr hg) fun h => absurd h hc
  | nan s => exact hnan hx
  | inf s => cases s; exact hpi hx; exact hni hx

/-- F10 before the repair, minimal: `A(2, 0, ±3) <= A(1, -inf, ±inf)` was `True` (that is
`<= MPFloat(1)`'s format), `3 ∈ γ A(2,0,±3)`, but `3` has two significant digits.  Today's
`<=` answers `False`. -/
theorem legacy_le_counterexample :
    let a : AbsFmt := ⟨some 2, some 0, .fin ⟨false, 0, 3⟩, .fin ⟨true, 0, 3⟩, false, false, false, false⟩
    let b : AbsFmt := ⟨some 1, none, .inf false, .inf true, false, false, false, false⟩
    a.leLegacy b = true ∧ a.WF ∧ b.WF ∧ γ a (.fin ⟨false, 0, 3⟩) ∧ ¬ γ b (.fin ⟨false, 0, 3⟩) ∧ a.le b = false := by
  intro a b
  refine ⟨by decide, ⟨Or.inr ⟨_, rfl, Or.inr rfl⟩, Or.inr ⟨_, rfl, Or.inr rfl⟩, by decide⟩,
    ⟨Or.inl rfl, Or.inl rfl, by decide⟩, (member_iff_gamma _ _).1 (by decide),
    mt (member_iff_gamma _ _).2 (by decide), by decide⟩

/-- F10 as reported: the abstract format of FP32 was `<=` the one of `MPFloat(11)`; it no longer is -/
theorem legacy_le_fp32_mpfloat11 :
    let fp32 : AbsFmt := ⟨some 24, some (-149), .fin ⟨false, 104, 16777215⟩, .fin ⟨true, 104, 16777215⟩, true, true, true, true⟩
    let mp11 : AbsFmt := ofFormat (.mpFloat 11) true true true true
    fp32.leLegacy mp11 = true ∧ fp32.le mp11 = false := by
  decide

/-- outside the region where it skipped the precision test the legacy `<=` was today's -/
theorem legacy_le_agrees (a b : AbsFmt) (h : a.leLegacy b = true)
    (hF10 : b.exp = none → ∀ pb, b.prec = some pb → precGt a.prec (some pb) = false) : a.le b = true := by
  unfold AbsFmt.leLegacy at h
  unfold AbsFmt.le
  split at h
  · cases h
  split at h
  · cases h
  split at h
  · cases h
  split at h
  · cases h
  rename_i h1 h2 h3 h4
  rw [if_neg h1, if_neg h2, if_neg h3, if_neg h4]
  cases hp : b.prec with
  | none => rfl
  | some pb =>
    cases he : b.exp with
    | some eb => rw [hp, he] at h; exact h
    | none =>
      have := hF10 he pb hp
      simp only [precFits, this]; rfl

/-! ### identity of rounding (`round_is_identity(unrounded, ctx) = unrounded <= from_format(ctx.format())`) -/

theorem mpfloat_wf (p : Nat) (hp : 1 ≤ p) (pi ni nn nz : Bool) : (ofFormat (.mpFloat p) pi ni nn nz).WF := by
  refine ⟨Or.inl rfl, Or.inl rfl, ?_⟩
  simp only [ofFormat, AbsFmt.sym]
  intro h; cases h; omega

/-- **A rounding reported to be an identity changes no value** — for the target family
`MPFloatContext(p)` (`exp = -inf`, where F10 bit), finite non-zero members, any rounding mode:
`RealFloat.round(max_p = p)` — which is what `MPFloatContext(p).round` applies to a finite
non-zero operand — returns the same number with `inexact = False`.
Not covered (partial): other target families (their `round` adds range/subnormal handling — C01),
zeros and special values (returned as they are by construction of `floatSpecial`). -/
theorem round_identity_sound_partial (a : AbsFmt) (p : Nat) (hp : 1 ≤ p) (pi ni nn nz : Bool)
    (hle : a.le (ofFormat (.mpFloat p) pi ni nn nz) = true)
    (x : RF) (hc : x.c ≠ 0) (hx : γ a (.fin x)) (rm : RM) :
    ∃ y fl, x.round (some p) none rm = .ok (y, fl) ∧ y.eqV x ∧ y.s = x.s ∧ fl.inexact = false := by
  have hb := le_sound a _ (mpfloat_wf p hp pi ni nn nz) hle (.fin x) hx
  simp only [γ, finMem, hc, if_false] at hb
  have hz := (writableB_iff _ x hc).2 hb.1
  simp only [writableB, ofFormat, AbsFmt.sym, dropPrec, dropExp, Nat.max_zero, beq_iff_eq] at hz
  exact round_of_dropped_zero x p hc rm hz

/-- F10 through `round_is_identity` before the repair: the FP32 abstract format was `<=` the one
of `MPFloat(11)`, `1 + 2^-23` is an FP32 value, and rounding it to 11 digits gives `1` with
`inexact = True`. -/
theorem legacy_round_identity_counterexample :
    let fp32 : AbsFmt := ⟨some 24, some (-149), .fin ⟨false, 104, 16777215⟩, .fin ⟨true, 104, 16777215⟩, true, true, true, true⟩
    let x : RF := ⟨false, -23, 8388609⟩
    fp32.leLegacy (ofFormat (.mpFloat 11) true true true true) = true ∧ γ fp32 (.fin x) ∧
      (x.round (some 11) none .rne).toOption = some (⟨false, -10, 1024⟩, { inexact := true }) ∧
      ¬ RF.eqV ⟨false, -10, 1024⟩ x := by
  intro fp32 x
  exact ⟨by decide, (member_iff_gamma _ _).1 (by decide), by decide, by decide⟩

/-! ### the `with_*` helpers rebuild the format without `has_neg_zero` (note F11) -/

/-- `with_prec_offset(0)` of a format that has `-0` has lost it.  Nothing inside `fpy2` calls `with_prec_offset`,
`with_exp_offset` or `with_bounds_scale`, so this is a note on the API, not a violation of C14. -/
theorem with_prec_offset_drops_neg_zero :
    let a : AbsFmt := ⟨some 3, some 0, .fin ⟨false, 0, 4⟩, .fin ⟨true, 0, 4⟩, false, false, false, true⟩
    γ a (.fin ⟨true, 0, 0⟩) ∧ ∃ c, a.withPrecOffset 0 = .ok c ∧ ¬ γ c (.fin ⟨true, 0, 0⟩) := by
  intro a
  exact ⟨(member_iff_gamma _ _).1 (by decide), ⟨some 3, some 0, .fin ⟨false, 0, 4⟩, .fin ⟨true, 0, 4⟩, false, false, false, false⟩,
    by rfl, mt (member_iff_gamma _ _).2 (by decide)⟩

/-! non-vacuity of the hypotheses -/
example : sint8.WF ∧ sint8.add sint8 = .ok ⟨some 9, some 0, .fin ⟨false, 0, 254⟩, .fin ⟨true, 0, 256⟩, false, false, false, false⟩ :=
  ⟨sint8_wf, by rfl⟩
example : sint8.mul sint8 = .ok ⟨some 16, some 0, .fin ⟨false, 0, 16384⟩, .fin ⟨true, 0, 16256⟩, false, false, false, false⟩ := by rfl
example : (⟨some 2, some 0, .fin ⟨false, 0, 3⟩, .fin ⟨true, 0, 3⟩, false, false, false, false⟩ : AbsFmt).le
    ⟨some 3, some (-1), .fin ⟨false, 0, 7⟩, .fin ⟨true, 0, 7⟩, false, false, false, false⟩ = true := by decide

example : (ofFormat (.mpFloat 11) true true true true).le (ofFormat (.mpFloat 24) true true true true) = true ∧
    precGt (ofFormat (.mpFloat 11) true true true true).prec (some 24) = false := by decide

end Fpy.Props.C14
