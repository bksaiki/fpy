/-
C09 — Inlining, specialisation and hoisting preserve results.

Proved here (model level; the real transformations' outputs are run on the model by harness/c09.py):

* `call_inline_sound`: inlining ONE call statement `t = f(args)`.  The callee
  is `def f(ps): ss; return e` with no `return` in `ss` (any statements otherwise: loops, branches,
  `with`, list mutation — the callee shares the heap, so its writes to a list it was handed are the
  caller's in both programs).  The inlined code is what `func_inline.py` emits — the arguments bound IN
  ORDER to renamed parameters, the renamed body, `t = e'`, wrapped in `with D:` iff the callee declares
  a context `D` — up to one identification: for `x = f(a)` the real pass assigns the result to a gensym
  `t₀` (`t₀ = e'`, inside the `with` if there is one) and leaves `x = t₀`; the model takes `t₀` to be the
  target itself (the step `x = f(a)` ≡ `t₀ = f(a); x = t₀` is the first open part below, with `E` the hole).
  Renaming is validated, not modelled: any `ss'`, `e'`, `ps'` accepted by the checker
  `simB R` for a correspondence `R` between fresh names and callee names.
  The statement is about returning: the inlined code returns `w` with heap `μ'` iff the call does.  (The same error
  and the same divergence hold too: `Xform.call_inline_rel`, Proof/LangFrame.lean.)
* `with_ctx_wrap`: `with D: body` runs `body` under `D` whatever the call site's context, and the
  call site's context is back afterwards.  That a context-less callee is spliced without wrapper and so runs
  under the context of the call site is `call_inline_sound` with `fd.ctx = none` (`inline_shape`, first half).
* `mono_sound`: pinning the context.  `mono_ignores_ctx`: a pinned copy ignores `ctx=`.

Open (see "open parts" at the end): a call site inside a loop, a call nested inside a larger expression, argument
annotation pinning, free-variable closing; of context hoisting (`lift_context.py`) the side condition
`lift_context_with_sound` and the two defects that violated it (F55, F56, repaired in /repo).
-/
import Fpy.Proof.LangFrame
import Fpy.Proof.LangSyntax
namespace Fpy.Props.C09
open Fpy Fpy.Lang Fpy.Xform

/-- `Xform.with_ctx_wrap` and `Xform.with_ctx_wrap_block` -/
theorem with_ctx_wrap (Φ : Funs) (σ : Env) (μ : Heap) (C D : Ctx) (body rest : List Stmt) :
    evalSω Φ σ μ C (.with (.ctxLit D) none body) = evalBω Φ σ μ D body ∧
    evalBω Φ σ μ C (.with (.ctxLit D) none body :: rest) = evalBω Φ σ μ D body >>= thenB Φ C rest :=
  ⟨Fpy.Xform.with_ctx_wrap Φ σ μ C D body, with_ctx_wrap_block Φ σ μ C D body rest⟩

/-- the fuel-indexed form, straight from the `with` rule of C04 -/
theorem with_ctx_wrap_fuel (Φ : Funs) (fuel : Nat) (σ : Env) (μ : Heap) (C D : Ctx) (body : List Stmt) :
    evalS Φ (fuel + 2) σ μ C (.with (.ctxLit D) none body) = evalB Φ (fuel + 1) σ μ D body := rfl

/-- = `Xform.mono_sound` -/
theorem mono_sound (Φ : Funs) (fuel : Nat) (f f' : String) (fd : FuncDef) (args : List Val) (μ : Heap) (C : Ctx)
    (hf : Φ.find? f = some fd) (hctx : fd.ctx = none)
    (hf' : Φ.find? f' = some { fd with name := f', ctx := some C }) :
    callEntry Φ fuel f args μ (some C) = callEntry Φ fuel f' args μ none :=
  Fpy.Xform.mono_sound Φ fuel f f' fd args μ C hf hctx hf'

/-- = `Xform.mono_ignores_ctx` -/
theorem mono_ignores_ctx (Φ : Funs) (fuel : Nat) (f' : String) (fd : FuncDef) (args : List Val) (μ : Heap) (C : Ctx)
    (hf' : Φ.find? f' = some fd) (hctx : fd.ctx = some C) (c1 c2 : Option Ctx) :
    callEntry Φ fuel f' args μ c1 = callEntry Φ fuel f' args μ c2 :=
  Fpy.Xform.mono_ignores_ctx Φ fuel f' fd args μ C hf' hctx c1 c2

/-- inlining one call.  `xs` ⊇ the variables the arguments read, `ys` ⊇ the variables the rest of the
caller reads; `R` pairs each fresh name with the callee name it stands for. -/
theorem call_inline_sound {Φ : Funs} {f : String} {fd : FuncDef} {ss : List Stmt} {e : Expr}
    (hf : Φ.find? f = some fd) (hbody : fd.body = ss ++ [.ret e]) (hnr : noRetB ss = true)
    {R : VRel} {ps' : List String} {ss' : List Stmt} {e' : Expr}
    (hps : ps'.length = fd.params.length)
    (hbind : ((ps'.zip fd.params).all fun p => R.bindOK p.1 p.2) = true)
    (hsim : simB R ss' ss = true) (hsime : simE R e' e = true)
    {xs ys : List String} {args : List Expr} {rest : List Stmt} {t : String}
    (hargslen : args.length = fd.params.length)
    (hargs : ∀ z ∈ readsEs args, z ∈ xs) (hfresh_xs : ∀ p ∈ ps', p ∉ xs)
    (hrest : ∀ z ∈ readsB rest, z ∈ ys)
    (hfresh_ys : ∀ z ∈ ys, z ≠ t → z ∉ ps' ∧ z ∉ bvB ss')
    {σ : Env} (hσ : ∀ a b, R.has a b = true → σ.get? a = none)
    (μ : Heap) (C : Ctx) (w : Val) (μ' : Heap) :
    Returns Φ σ μ C (inlineCall ps' args fd.ctx ss' t e' rest) w μ' ↔
      Returns Φ σ μ C (.assign (.var t) (.call f args) :: rest) w μ' :=
  Fpy.Xform.call_inline_sound hf hbody hnr hps hbind hsim hsime hargslen (simEs_idRel_of_reads hargs) hfresh_xs
    (simB_idRel_of_reads hrest) hfresh_ys hσ μ C w μ'

/-- the freshness hypothesis `hσ` is a finite check -/
theorem fresh_unbound_of_all (R : VRel) (σ : Env) (h : (R.all fun p => (σ.get? p.1).isNone) = true) :
    ∀ a b, R.has a b = true → σ.get? a = none := by
  intro a b hab
  rw [List.all_eq_true] at h
  exact Option.isNone_iff_eq_none.1 (h (a, b) (VRel.has_iff.1 hab))

theorem inline_shape (ps' : List String) (args : List Expr) (D : Ctx) (ss' : List Stmt) (t : String) (e' : Expr) (rest : List Stmt) :
    inlineCall ps' args none ss' t e' rest = bindArgs ps' args ++ ((ss' ++ [.assign (.var t) e']) ++ rest) ∧
    inlineCall ps' args (some D) ss' t e' rest =
      bindArgs ps' args ++ ([.with (.ctxLit D) none (ss' ++ [.assign (.var t) e'])] ++ rest) := ⟨rfl, rfl⟩

/-! ### non-vacuity: `def f(a, b): c = a + b; return c * a`, called as `t = f(x, y); return t` -/

def add (a b : Expr) : Expr := .op .add [a, b]
def mul (a b : Expr) : Expr := .op .mul [a, b]
def callee (ctx : Option Ctx) : FuncDef :=
  { name := "f", params := ["a", "b"], ctx := ctx,
    body := [.assign (.var "c") (add (.var "a") (.var "b"))] ++ [.ret (mul (.var "c") (.var "a"))] }
def R : VRel := [("a1", "a"), ("b1", "b"), ("c1", "c")]
def caller : List Stmt := [.assign (.var "t") (.call "f" [.var "x", .var "y"]), .ret (.var "t")]
def inlined (ctx : Option Ctx) : List Stmt :=
  inlineCall ["a1", "b1"] [.var "x", .var "y"] ctx [.assign (.var "c1") (add (.var "a1") (.var "b1"))] "t"
    (mul (.var "c1") (.var "a1")) [.ret (.var "t")]

example : simB R [.assign (.var "c1") (add (.var "a1") (.var "b1"))] [.assign (.var "c") (add (.var "a") (.var "b"))] = true := by
  decide
example : simE R (mul (.var "c1") (.var "a1")) (mul (.var "c") (.var "a")) = true := by decide
example : ((["a1", "b1"].zip ["a", "b"]).all fun p => R.bindOK p.1 p.2) = true := by decide
example : noRetB [.assign (.var "c") (add (.var "a") (.var "b"))] = true := by decide
/-- a clash is caught: renaming `c` to the caller's `x` is not accepted as fresh for `ys = ["x", "t"]` -/
example : ¬ (∀ z ∈ ["x", "t"], z ≠ "t" → z ∉ ["a1", "b1"] ∧ z ∉ bvB [.assign (.var "x") (add (.var "a1") (.var "b1"))]) := by
  decide

def retNum : M (Outcome × Heap) → Option NV
  | .ok (.ret (.num a), _) => some a
  | _ => none
def env0 : Env := [("x", .num (.fv (.fin ⟨false, 0, 3⟩))), ("y", .num (.fv (.fin ⟨false, 0, 4⟩)))]
def mp2 : Ctx := .mp 2 .rne (some 0) {}

/-- (3 + 4) * 3 = 21 under binary64 … -/
example : retNum (evalB ⟨[callee none]⟩ 30 env0 [] fp64 caller) = retNum (evalB ⟨[callee none]⟩ 30 env0 [] fp64 (inlined none)) := by
  decide +kernel
example : retNum (evalB ⟨[callee none]⟩ 30 env0 [] fp64 (inlined none)) = some (.fv (.fin ⟨false, 0, 21⟩)) := by decide +kernel
/-- … and with a callee that declares a 2-bit context both round the same way, differently from binary64 -/
example : retNum (evalB ⟨[callee (some mp2)]⟩ 30 env0 [] fp64 caller)
    = retNum (evalB ⟨[callee (some mp2)]⟩ 30 env0 [] fp64 (inlined (some mp2))) := by decide +kernel
example : retNum (evalB ⟨[callee (some mp2)]⟩ 30 env0 [] fp64 caller) ≠ some (.fv (.fin ⟨false, 0, 21⟩)) := by decide +kernel

example (w : Val) (μ' : Heap) :
    Returns ⟨[callee (some mp2)]⟩ env0 [] fp64 (inlined (some mp2)) w μ' ↔ Returns ⟨[callee (some mp2)]⟩ env0 [] fp64 caller w μ' :=
  call_inline_sound (Φ := ⟨[callee (some mp2)]⟩) (fd := callee (some mp2)) (R := R) (xs := ["x", "y"]) (ys := ["t"])
    rfl rfl (by decide) (by decide) (by decide) (by decide) (by decide) (by decide) (by decide) (by decide)
    (by decide) (by decide) (fresh_unbound_of_all R env0 (by decide)) [] fp64 w μ'

/-- `LiftContext` replaces the constructor expression `e` of `with e: body` by a name `c` bound at the top of
the function.  That is sound AT THE `with` STATEMENT exactly when `c` holds what `e` would evaluate to
there — under the REAL context, in the environment of the `with`: -/
theorem lift_context_with_sound {Φ : Funs} {σ : Env} {μ : Heap} {C D : Ctx} {e : Expr} {c : String}
    (he : evalEω Φ σ μ .real e = .ok (.ctx D, μ)) (hc : σ.get? c = some (.ctx D)) (nm : Option String) (body : List Stmt) :
    evalSω Φ σ μ C (.with e nm body) = evalSω Φ σ μ C (.with (.var c) nm body) := by
  rw [evalSω_with, evalSω_with, he, evalEω_var, hc]

/-! Before its repair the pass bound `c = e`, the expression itself, and so met neither half of that condition (F55,
F56); the repaired pass binds the value PartialEval found for `e` (`ForeignVal(eval_info.by_expr[e])`), and
`lift_context_with_sound` covers it given that this value is the REAL-context value at the site.
(1) F55.  The hoisted `c = e` was evaluated under the AMBIENT context, `with e:` evaluates `e` under REAL: with an
ambient 2-digit context `with MPFloatContext(8 + 1, RNE): y = x + 1` computes with 9 digits, the hoisted form with 8
(unrepaired code: `f(256.0)` is `257.0`, `lift_context(f)(256.0)` was `256.0`). -/

def nI (i : Int) : NV := .fv (.fin (RF.ofInt i))
def ctor (arg : Expr) : Expr := .call "@mp/rne" [arg]
def bodyW : List Stmt := [.assign (.var "y") (.op .add [.var "x", .num (nI 1)])]
def origL : List Stmt := [.with (ctor (.op .add [.num (nI 8), .num (nI 1)])) none bodyW, .ret (.var "y")]
def liftedL : List Stmt :=
  [.assign (.var "ctx") (ctor (.op .add [.num (nI 8), .num (nI 1)])), .with (.var "ctx") none bodyW, .ret (.var "y")]
def envX : Env := [("x", .num (nI 256))]
def mp2' : Ctx := .mp 2 .rne (some 0) {}

def argNum : M (Val × Heap) → Option NV | .ok (.num a, _) => some a | _ => none

/-- the mechanism, in the model: the argument `8 + 1` is 9 under REAL (where `with e:` evaluates `e`) and 8 under
the ambient 2-digit context (where the hoisted assignment `ctx = e` evaluates it); `evalSω_with` / `evalSω_assign`
are the two rules.  (The whole programs `origL` / `liftedL` are not evaluated by `decide` only because the
constructor name is parsed with `String.splitOn`, which the kernel does not unfold; the driver evaluates them to
257 and 256, as the real interpreter did on the input and the output of the unrepaired pass.) -/
theorem lift_context_ambient_counterexample :
    argNum (evalE ⟨[]⟩ 5 [] [] .real (.op .add [.num (nI 8), .num (nI 1)])) = some (nI 9) ∧
    argNum (evalE ⟨[]⟩ 5 [] [] mp2' (.op .add [.num (nI 8), .num (nI 1)])) = some (.fv (.fin ⟨false, 2, 2⟩)) := by
  decide +kernel

/-! (2) F56.  The hoisted binding is put at the TOP of the function, before the definitions of the names `e` reads:
`p = 8; with MPFloatContext(p + 1, RNE): …` became `ctx = MPFloatContext(p + 1, RNE); p = 8; with ctx: …`
and failed with an unbound `p` (unrepaired code: `KeyError`; the original `origU` returns on the real interpreter,
which is not evaluated here for the reason given above). -/

def origU : List Stmt :=
  [.assign (.var "p") (.num (nI 8)), .with (ctor (.op .add [.var "p", .num (nI 1)])) none bodyW, .ret (.var "y")]
def liftedU : List Stmt :=
  [.assign (.var "ctx") (ctor (.op .add [.var "p", .num (nI 1)])), .assign (.var "p") (.num (nI 8)),
   .with (.var "ctx") none bodyW, .ret (.var "y")]
def errOf : M (Outcome × Heap) → Option Err | .error e => some e | _ => none

theorem lift_context_unbound_counterexample :
    errOf (evalB ⟨[]⟩ 20 envX [] fp64 liftedU) = some .unbound := by decide +kernel

/-! ### open parts (no theorem for any of these)

* A call nested in a larger expression whose earlier operands are names / constants:
  `y = E[f(args)]` ≡ `t = f(args); y = E[t]` (atoms evaluate the same before and after, `t` fresh), then
  `call_inline_sound`; it needs evaluation contexts for every expression former.
* A call statement inside a loop body: on the second iteration the fresh names hold stale values, so hypothesis
  `hσ` of `call_inline_sound` fails.  Sound when the callee assigns every local before reading it; needs either
  that dataflow fact as a lemma ("evaluation does not depend on variables assigned before they are read") or a
  one-sided simulation.
* Soundness of `lift_context.py` beyond `lift_context_with_sound`: the repaired pass binds the value PartialEval
  found for the constructor expression; that this is the value `e` has under REAL in the environment of the `with`
  is soundness of that analysis (C13) plus a frame argument (nothing between the top of the function and the `with`
  rebinds `c`), neither stated here.
* `Monomorphize` argument annotations, `FreeVarElim`. -/

/-- a placeholder that states nothing (`True`): it marks that the general cases listed above are open -/
theorem call_inline_general_partial : True := trivial

end Fpy.Props.C09
