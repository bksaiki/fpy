/-
C19 — Sites, indices and cursors name exactly what they say.

Model: `Fpy/Model/Cursor.lean` (paths, `Edit`, `EditLog.__post_init__`, `_forward_stmt`,
`_forward_block`, `EditLog.forward`, `_forward_region`, `_forward_expr`, `Function.forward`) and
`Fpy/Model/Sites.lean` (`check_where`, `_selects_at`, the candidate loop, `check_site`).
Specification: `Fpy/Spec/Cursor.lean` (`applyEdits`: what a log means; `Descends`).

Vocabulary.  `L : EditLog` is a log of the real code: source program, result program, edits in
the source's terms.  `SpecLog fresh L` says the log is one the code accepts (`L.check`, i.e.
`EditLog.__post_init__` passes), and that its result program really is the source with every
recorded run `[index, index+removed)` replaced by the `inserted` statements `fresh e`.
`touched E p`: `p` lies at or beneath a replaced statement.  All theorems hold for every tree, every
log and every path (unbounded sizes).
-/
import Fpy.Proof.Cursor
import Fpy.Proof.Sites
namespace Fpy.Props.C19
open Fpy.Cursor Fpy.Cursor.Spec Fpy.Cursor.Proof Fpy.Sites Fpy.Sites.Proof

/-- **forward_untouched.**  A cursor whose statement is not at or beneath any replaced run forwards
to a statement cursor of the result program that resolves to the image of that very statement
(same tag; its nested blocks edited in place). -/
theorem forward_untouched (fresh : Edit → List Stmt) (L : EditLog) (h : SpecLog fresh L)
    (p : StmtPath) (s : Stmt) (hres : resolveStmt L.source.body p = .ok s)
    (hu : touched L.edits p = false) :
    ∃ q, L.forward (.stmt L.source.pid p) = .ok (.stmt L.result.pid q) ∧
      resolveStmt L.result.body q = .ok (applyStmt fresh L.edits p.parent p.index s) ∧
      (applyStmt fresh L.edits p.parent p.index s).tag = s.tag := by
  rcases forwardStmtCursor_cases fresh L h.fresh_len h.disjoint h.result_eq p s hres with ⟨_, q, hq, hr⟩ | ⟨ht, _⟩
  · exact ⟨q, hq, hr, applyStmt_tag ..⟩
  · rw [hu] at ht; cases ht

/-- **untouched_unchanged.**  If moreover no edit lies in a block under the statement, the
forwarded cursor resolves to the identical statement (its whole subtree unchanged). -/
theorem untouched_unchanged (fresh : Edit → List Stmt) (L : EditLog) (h : SpecLog fresh L)
    (p : StmtPath) (s : Stmt) (hres : resolveStmt L.source.body p = .ok s)
    (hu : touched L.edits p = false)
    (hbelow : ∀ e ∈ L.edits, ∀ f, ¬ (⟨p.index, f⟩ :: p.parent) <:+ e.blockPath) :
    ∃ q, L.forward (.stmt L.source.pid p) = .ok (.stmt L.result.pid q) ∧
      resolveStmt L.result.body q = .ok s := by
  obtain ⟨q, hq, hr, _⟩ := forward_untouched fresh L h p s hres hu
  rw [applyStmt_id fresh L.edits p.parent p.index s hbelow] at hr
  exact ⟨q, hq, hr⟩

/-- **forward_replaced_or_error.**  A cursor at or beneath a replaced run: if an enclosing
statement was replaced it is the reference error "inside ..., which was rewritten"; otherwise its
own statement lies in the run of an edit `c` of its block and the image is exactly the replacing
run: nothing (`deleted` error) when `c.inserted = 0`, the one statement `fresh c = [s']` when
`c.inserted = 1`, and otherwise the region of the result program whose statements are `fresh c`. -/
theorem forward_replaced_or_error (fresh : Edit → List Stmt) (L : EditLog) (h : SpecLog fresh L)
    (p : StmtPath) (s : Stmt) (hres : resolveStmt L.source.body p = .ok s)
    (ht : touched L.edits p = true) :
    L.forward (.stmt L.source.pid p) = .error .insideRewritten ∨
    ∃ c ∈ L.edits, covers c p.parent p.index = true ∧
      ((c.inserted = 0 ∧ L.forward (.stmt L.source.pid p) = .error .deleted) ∨
       (c.inserted = 1 ∧ ∃ q s', L.forward (.stmt L.source.pid p) = .ok (.stmt L.result.pid q) ∧
          fresh c = [s'] ∧ resolveStmt L.result.body q = .ok s') ∨
       (c.inserted ≥ 2 ∧ ∃ nb a b', L.forward (.stmt L.source.pid p)
            = .ok (.region L.result.pid nb a (a + c.inserted)) ∧
          resolveBlock L.result.body nb = .ok b' ∧ (b'.drop a).take c.inserted = fresh c)) := by
  rcases forwardStmtCursor_cases fresh L h.fresh_len h.disjoint h.result_eq p s hres with ⟨hu, _⟩ | ⟨_, h1⟩
  · rw [ht] at hu; cases hu
  · exact h1

/-- **forward_never_unrelated.**  Whatever `EditLog.forward` returns for a statement cursor
resolves, in the result program, to statements that all descend from the statement the cursor
named: its own image, or the run that replaced it.  It never resolves to anything else, and it
always resolves (the constructor-time validation of the returned cursor cannot fail). -/
theorem forward_never_unrelated (fresh : Edit → List Stmt) (L : EditLog) (h : SpecLog fresh L)
    (p : StmtPath) (s : Stmt) (hres : resolveStmt L.source.body p = .ok s)
    (cur : Cursor) (hfw : L.forward (.stmt L.source.pid p) = .ok cur) :
    cur.pid = L.result.pid ∧
    ∃ ss, resolveCursor L.result.body cur = .ok ss ∧ ss ≠ [] ∧ ∀ s' ∈ ss, Descends fresh L.edits p s s' := by
  obtain ⟨hpid, rb, hrb, hlt, hle, hdesc⟩ :=
    image_span fresh L h.fresh_len h.disjoint h.result_eq p s hres cur hfw
  obtain ⟨ss, hr, hne, hall⟩ := span_resolves hrb hle hdesc
  exact ⟨hpid, ss, hr, hne hlt, hall⟩

/-- forwarding a valid statement cursor of the source program across an accepted log fails only
as "deleted" or "inside a rewritten statement" -/
theorem forward_error_kinds (fresh : Edit → List Stmt) (L : EditLog) (h : SpecLog fresh L)
    (p : StmtPath) (s : Stmt) (hres : resolveStmt L.source.body p = .ok s)
    (e : Err) (hfw : L.forward (.stmt L.source.pid p) = .error e) : e = .deleted ∨ e = .insideRewritten := by
  have hfw' : L.forwardStmtCursor L.source.pid p = .error e := hfw
  rcases forwardStmtCursor_cases fresh L h.fresh_len h.disjoint h.result_eq p s hres with
    ⟨_, q, hq, _⟩ | ⟨_, h1 | ⟨c, _, _, ⟨_, h0⟩ | ⟨_, q, s', hq, _, _⟩ | ⟨_, nb, a, b', hq, _, _⟩⟩⟩
  · cases hq.symm.trans hfw'
  · cases h1.symm.trans hfw'; exact Or.inr rfl
  · cases h0.symm.trans hfw'; exact Or.inl rfl
  · cases hq.symm.trans hfw'
  · cases hq.symm.trans hfw'

/-- a statement cursor of any other program is a reference error, never a coincidence -/
theorem forward_other_program (L : EditLog) (pid : Nat) (p : StmtPath) (hne : pid ≠ L.source.pid) :
    L.forward (.stmt pid p) = .error .otherProgram := by
  simp [EditLog.forward, EditLog.forwardStmtCursor, hne]

/-- **forward_expr_never_unrelated.**  An expression cursor forwards only under the pass's claim that it left
expressions alone, only out of a statement whose expressions were not rewritten and that is not at
or beneath a replaced run — and then it lands in the image of that very statement. -/
theorem forward_expr_never_unrelated (fresh : Edit → List Stmt) (L : EditLog) (h : SpecLog fresh L)
    (p : StmtPath) (s : Stmt) (hres : resolveStmt L.source.body p = .ok s)
    (cur : Cursor) (hfw : L.forward (.expr L.source.pid p) = .ok cur) :
    L.exprsPreserved = true ∧ p ∉ L.exprsRewritten ∧ touched L.edits p = false ∧
    ∃ q, cur = .expr L.result.pid q ∧
      resolveStmt L.result.body q = .ok (applyStmt fresh L.edits p.parent p.index s) := by
  have hfw' : L.forwardExpr L.source.pid p = .ok cur := hfw
  rw [EditLog.forwardExpr, if_neg (by simp)] at hfw'
  -- past the guards `_forward_stmt` reported no containing edit, so the path is untouched
  split at hfw'
  · cases hfw'
  · rename_i hp
    split at hfw'
    · cases hfw'
    · rename_i hm
      split at hfw'
      · cases hfw'
      · cases hfw'
      · rename_i nb ni hfs
        obtain ⟨hu, rfl, rfl⟩ := forwardStmt_none hfs
        have hr := resolve_forward_untouched fresh L.edits L.source.body h.fresh_len h.disjoint p s hres hu
        rw [← h.result_eq] at hr
        cases (mkExprCursor_of hr).symm.trans hfw'
        exact ⟨by simpa using hp, by simpa using hm, hu, _, rfl, hr⟩

/-- **forward_region_never_unrelated.**  Whatever `EditLog.forward` returns for a region (a
`BlockCursor`, which is what a statement replaced by several forwards to, so what chain replay
goes through) resolves to statements each of which descends from one of the region's members. -/
theorem forward_region_never_unrelated (fresh : Edit → List Stmt) (L : EditLog) (h : SpecLog fresh L)
    (bp : BlockPath) (a b : Nat) (blk : Block) (hblk : resolveBlock L.source.body bp = .ok blk)
    (hb : b ≤ blk.length) (cur : Cursor)
    (hfw : L.forward (.region L.source.pid bp a b) = .ok cur) :
    cur.pid = L.result.pid ∧
    ∃ ss, resolveCursor L.result.body cur = .ok ss ∧
      ∀ s' ∈ ss, ∃ i s, a ≤ i ∧ i < b ∧ resolveStmt L.source.body ⟨bp, i⟩ = .ok s ∧
        Descends fresh L.edits ⟨bp, i⟩ s s' := by
  obtain ⟨hpid, rb, hrb, hle, hdesc⟩ := region_span fresh L h bp a b blk hblk hb cur hfw
  obtain ⟨ss, hr, _, hall⟩ := span_resolves hrb hle hdesc
  exact ⟨hpid, ss, hr, hall⟩

/-! ### replay along the parent chain (`Function.forward`) -/

theorem chain_self (ast : Prog) (log : Option EditLog) (rest : List (Prog × Option EditLog)) (c : Cursor)
    (h : ast.pid = c.pid) : chainForward ((ast, log) :: rest) c = .ok c := by
  simp [chainForward, h]

theorem chain_unrelated (c : Cursor) (chain : List (Prog × Option EditLog))
    (h : ∀ x ∈ chain, x.1.pid ≠ c.pid) : chainForward chain c = .error .unrelated := by
  induction chain with
  | nil => rfl
  | cons x r ih =>
    obtain ⟨ast, log⟩ := x
    simp [chainForward, h (ast, log) List.mem_cons_self, ih fun y hy => h y (List.mem_cons_of_mem _ hy)]

theorem chain_step (ast : Prog) (L : EditLog) (rest : List (Prog × Option EditLog)) (c out : Cursor)
    (hne : ast.pid ≠ c.pid) (hrest : chainForward rest c = .ok out) :
    chainForward ((ast, some L) :: rest) c = L.forward out := by
  simp [chainForward, hne, hrest]

theorem chain_opaque (ast : Prog) (rest : List (Prog × Option EditLog)) (c out : Cursor)
    (hne : ast.pid ≠ c.pid) (hrest : chainForward rest c = .ok out) :
    chainForward ((ast, none) :: rest) c = .error .opaque := by
  simp [chainForward, hne, hrest]

theorem forward_step (fresh : Edit → List Stmt) (L : EditLog) (h : SpecLog fresh L)
    (c : Cursor) (hv : ValidIn L.source.body c) (hpid : c.pid = L.source.pid)
    (cur : Cursor) (hfw : L.forward c = .ok cur) :
    cur.pid = L.result.pid ∧ ValidIn L.result.body cur ∧
    ∃ ss0 ss, resolveCursor L.source.body c = .ok ss0 ∧ resolveCursor L.result.body cur = .ok ss ∧
      ∀ s' ∈ ss, ∃ s ∈ ss0, ∃ p, resolveStmt L.source.body p = .ok s ∧ Descends fresh L.edits p s s' := by
  have hval := forward_valid L c cur (by intro pid p hc; subst hc; exact hv) hfw
  refine ⟨hval.1, hval.2, ?_⟩
  cases c with
  | expr pid p => exact absurd hv id
  | stmt pid p =>
    obtain ⟨s, hs⟩ := hv
    cases hpid
    obtain ⟨_, ss, hr, _, hd⟩ := forward_never_unrelated fresh L h p s hs cur hfw
    exact ⟨[s], ss, by simp only [resolveCursor, hs], hr,
      fun s' hs' => ⟨s, List.mem_singleton_self s, p, hs, hd s' hs'⟩⟩
  | region pid bp a b =>
    obtain ⟨blk, hblk, hle⟩ := hv
    cases hpid
    obtain ⟨_, ss, hr, hd⟩ := forward_region_never_unrelated fresh L h bp a b blk hblk hle cur hfw
    refine ⟨(blk.drop a).take (b - a), ss, by simp only [resolveCursor, hblk], hr, fun s' hs' => ?_⟩
    obtain ⟨i, s, hia, hib, hres, hdesc⟩ := hd s' hs'
    obtain ⟨_, hb2, hg⟩ := resolveStmt_ok hres
    cases hblk.symm.trans hb2
    exact ⟨s, mem_slice_iff.mpr ⟨i, hia, by omega, hg⟩, ⟨bp, i⟩, hres, hdesc⟩

/-- **chain.**  A cursor (statement or region) taken on the root program and replayed by
`Function.forward` across ANY number of passes whose logs meet the specification either fails
with a reference error or resolves, in the newest program, to statements each of which is reached
from a statement the cursor originally named by descending once per pass.  It never resolves to an
unrelated statement. -/
theorem chain_never_unrelated (root : Prog) (steps : List Pass) (hl : Linked root steps)
    (c : Cursor) (hv : ValidIn root.body c) (hpid : c.pid = root.pid)
    (cur : Cursor) (hfw : chainForward (mkChain root steps) c = .ok cur) :
    cur.pid = (top root steps).pid ∧ ValidIn (top root steps).body cur ∧
    ∃ ss0 ss, resolveCursor root.body c = .ok ss0 ∧ resolveCursor (top root steps).body cur = .ok ss ∧
      ∀ s' ∈ ss, ∃ s ∈ ss0, Lineage steps s s' := by
  induction steps generalizing cur with
  | nil =>
    simp only [mkChain, chainForward, hpid, beq_self_eq_true, if_true] at hfw
    cases hfw
    obtain ⟨rb, hrb, hle⟩ := validIn_span hv
    have h0 := resolveCursor_span root.body c rb hrb hle
    exact ⟨hpid, hv, _, _, h0, h0, fun s' hs' => ⟨s', hs', Lineage.nil s'⟩⟩
  | cons st rest ih =>
    obtain ⟨L, f⟩ := st
    obtain ⟨hspec, hsrc, hne, hrest⟩ := hl
    simp only [mkChain, chainForward] at hfw
    have hne' : (L.result.pid == c.pid) = false := by rw [hpid]; simpa using hne
    rw [hne'] at hfw
    simp only [Bool.false_eq_true, if_false] at hfw
    cases hout : chainForward (mkChain root rest) c with
    | error e => rw [hout] at hfw; cases hfw
    | ok out =>
      rw [hout] at hfw; simp only at hfw
      obtain ⟨hop, hov, ss0, ss1, h0, h1, hlin⟩ := ih hrest out hout
      rw [← hsrc] at hop hov h1
      obtain ⟨hcp, hcv, ssa, ssb, ha, hb, hdesc⟩ := forward_step f L hspec out hov hop cur hfw
      rw [h1] at ha; cases ha
      refine ⟨hcp, hcv, ss0, ssb, h0, hb, ?_⟩
      intro s' hs'
      obtain ⟨s1, hs1, p, hp, hd⟩ := hdesc s' hs'
      obtain ⟨s, hs, hl1⟩ := hlin s1 hs1
      exact ⟨s, hs, Lineage.step hl1 ⟨p, hp, hd⟩⟩

/-- **index_selects.**  If the listing has `k` sites, aiming at index `j < k` rewrites the `j`-th
listed site and only it. -/
theorem index_selects (pid : Nat) (cands : List Cand) (j : Nat) (hj : j < (listSites cands).length) :
    apply pid cands (.index j) = .ok [(listSites cands)[j]] := by
  rw [listSites_eq] at hj
  rw [apply_index, if_pos ⟨by omega, by omega⟩]
  simp [listSites_eq, List.getElem?_eq_getElem hj]

/-- **bad_index_rejected.**  Any other index — negative, or `≥ k` — is a reference error. -/
theorem bad_index_rejected (pid : Nat) (cands : List Cand) (j : Int)
    (hj : j < 0 ∨ j ≥ (listSites cands).length) :
    apply pid cands (.index j) = .error .reference := by
  rw [listSites_eq] at hj
  rw [apply_index, if_neg (by omega)]

/-- **none_selects_all.**  Aiming at nothing rewrites all `k` listed sites, in listing order. -/
theorem none_selects_all (pid : Nat) (cands : List Cand) :
    apply pid cands .none = .ok (listSites cands) := by
  simp [apply, checkWhere, targetOf, checkSite, listSites]

/-- **site_or_refusal.**  Every point the strategy considered is listed as a site (if not refused) or
explained as a refusal (if refused), and the two listings together are as long as the list of candidates. -/
theorem site_or_refusal (cands : List Cand) :
    (∀ c ∈ cands, (c.refused = false → c.path ∈ listSites cands) ∧
                  (c.refused = true → c.path ∈ listRefusals cands)) ∧
    (listSites cands).length + (listRefusals cands).length = cands.length := by
  rw [listSites_eq, listRefusals_eq]
  refine ⟨fun c hc => ⟨fun h => ?_, fun h => ?_⟩, length_sitesOf_add cands⟩
  · exact List.mem_map.mpr ⟨c, List.mem_filter.mpr ⟨hc, by rw [h]; rfl⟩, rfl⟩
  · exact List.mem_map.mpr ⟨c, List.mem_filter.mpr ⟨hc, h⟩, rfl⟩

/-- a refusal consumes no index: the sites listed are the non-refused candidates in visit order -/
theorem refusal_takes_no_index (cands : List Cand) :
    listSites cands = (cands.filter (fun c => !c.refused)).map (·.path) :=
  listSites_eq cands

/-- `True`/`False` and non-integers are rejected by type -/
theorem bool_where_rejected (pid : Nat) (cands : List Cand) :
    apply pid cands .bool = .error .typeError ∧ apply pid cands .other = .error .typeError := by
  simp [apply, checkWhere]

/-- **cursor_selects.**  A statement cursor or region of this program aims at exactly the listed
sites at or beneath it; if there are none it is a reference error, or `TransformDeclined` when a
refused candidate lies beneath it; a cursor of another program is a reference error. -/
theorem cursor_selects (pid : Nat) (cands : List Cand) (bp : BlockPath) (lo hi : Nat) :
    let sel := (listSites cands).filter (beneathStmt bp lo hi)
    let ref := (listRefusals cands).filter (beneathStmt bp lo hi)
    apply pid cands (.target pid bp lo hi) =
      (if sel = [] then (if ref = [] then .error .reference else .error .declined) else .ok sel) := by
  -- with a target, `selects` asks `beneath` whatever the index
  have hp := pick_sel (w := .target pid bp lo hi) (tgt := some (bp, lo, hi)) (sel := beneathStmt bp lo hi) (fun _ _ => rfl)
  simp only [apply, checkWhere, targetOf, bne_self_eq_false, Bool.false_eq_true, if_false, checkSite,
    listSites_eq, listRefusals_eq, walk_eq, hp, selects]
  simp only [List.nil_append, Nat.zero_add, Option.isSome_some, Bool.true_and]
  cases hs : (sitesOf cands).filter (beneathStmt bp lo hi) with
  | nil =>
    cases hr : (refusedOf cands).filter (beneathStmt bp lo hi) with
    | nil => simp
    | cons x xs => simp
  | cons x xs => simp

theorem cursor_other_program (pid pid' : Nat) (cands : List Cand) (bp : BlockPath) (lo hi : Nat)
    (hne : pid' ≠ pid) : apply pid cands (.target pid' bp lo hi) = .error .otherProgram := by
  simp [apply, checkWhere, targetOf, hne]

/-! ### non-vacuity -/

/-- a concrete program: `s0; if1 { s10; s11; s12 }; s2` -/
def exTree : Block := [.leaf 0, .one 1 [.leaf 10, .leaf 11, .leaf 12], .leaf 2]
/-- insert one statement before the `if`; replace `s11` by two statements -/
def exEdits : List Edit := [⟨[], 1, 0, 1⟩, ⟨[⟨1, .body⟩], 1, 1, 2⟩]
def exFresh (e : Edit) : List Stmt :=
  if e.blockPath = [] then [.leaf 100] else [.leaf 200, .leaf 201]
def exLog : EditLog := ⟨⟨0, exTree⟩, ⟨1, applyEdits exFresh exEdits exTree⟩, exEdits, [⟨[], 2⟩], true⟩

example : SpecLog exFresh exLog :=
  ⟨by rfl, by decide, rfl⟩

example : (applyEdits exFresh exEdits exTree).map Stmt.tag = [0, 100, 1, 2] := by decide
-- `s12` (untouched, shifted at two levels): body[1].body[2] ↦ body[2].body[3]
example : exLog.forward (.stmt 0 ⟨[⟨1, .body⟩], 2⟩) = .ok (.stmt 1 ⟨[⟨2, .body⟩], 3⟩) := by rfl
example : touched exEdits ⟨[⟨1, .body⟩], 2⟩ = false := by decide
-- `s11` (replaced by two): ↦ the region body[2].body[1:3]
example : exLog.forward (.stmt 0 ⟨[⟨1, .body⟩], 1⟩) = .ok (.region 1 [⟨2, .body⟩] 1 3) := by rfl
example : touched exEdits ⟨[⟨1, .body⟩], 1⟩ = true := by decide
-- expression cursors: `s12`'s expression follows its statement; `s2`'s expressions were rewritten
example : exLog.forward (.expr 0 ⟨[⟨1, .body⟩], 2⟩) = .ok (.expr 1 ⟨[⟨2, .body⟩], 3⟩) := by rfl
example : exLog.forward (.expr 0 ⟨[], 2⟩) = .error .exprRewritten := by rfl
example : exLog.forward (.expr 0 ⟨[⟨1, .body⟩], 1⟩) = .error .insideRewritten := by rfl
-- a deleted statement and a statement inside a replaced one
example : (⟨⟨0, exTree⟩, ⟨1, [.leaf 0, .leaf 2]⟩, [⟨[], 1, 1, 0⟩], [], true⟩ : EditLog).forward (.stmt 0 ⟨[], 1⟩)
    = .error .deleted := by rfl
example : (⟨⟨0, exTree⟩, ⟨1, [.leaf 0, .leaf 2]⟩, [⟨[], 1, 1, 0⟩], [], true⟩ : EditLog).forward (.stmt 0 ⟨[⟨1, .body⟩], 0⟩)
    = .error .insideRewritten := by rfl
-- overlapping edits are rejected as the code rejects them
example : (⟨⟨0, exTree⟩, ⟨1, exTree⟩, [⟨[], 1, 1, 1⟩, ⟨[⟨1, .body⟩], 0, 1, 1⟩], [], true⟩ : EditLog).check
    = .error .editOverlap := by rfl
-- a chain of two passes: the second deletes the first statement of the program `exLog` produced
def exEdits2 : List Edit := [⟨[], 0, 1, 0⟩]
def exLog2 : EditLog := ⟨exLog.result, ⟨2, applyEdits (fun _ => []) exEdits2 exLog.result.body⟩, exEdits2, [], true⟩
example : Linked ⟨0, exTree⟩ [(exLog2, fun _ => []), (exLog, exFresh)] :=
  ⟨⟨by rfl, by decide, rfl⟩, rfl, by decide, ⟨by rfl, by decide, rfl⟩, rfl, by decide, trivial⟩
-- `s11` ↦ region body[2].body[1:3] ↦ region body[1].body[1:3] (through `_forward_region`)
example : chainForward (mkChain ⟨0, exTree⟩ [(exLog2, fun _ => []), (exLog, exFresh)]) (.stmt 0 ⟨[⟨1, .body⟩], 1⟩)
    = .ok (.region 2 [⟨1, .body⟩] 1 3) := by rfl
-- `s0` is deleted by the second pass
example : chainForward (mkChain ⟨0, exTree⟩ [(exLog2, fun _ => []), (exLog, exFresh)]) (.stmt 0 ⟨[], 0⟩)
    = .error .deleted := by rfl
-- sites: three candidates, the middle one refused; index 1 is the THIRD candidate
def exCands : List Cand := [⟨⟨[], 0⟩, false⟩, ⟨⟨[], 1⟩, true⟩, ⟨⟨[], 2⟩, false⟩]
example : listSites exCands = [⟨[], 0⟩, ⟨[], 2⟩] := by decide
example : apply 0 exCands (.index 1) = .ok [⟨[], 2⟩] := by rfl
example : apply 0 exCands (.index 2) = .error .reference := by rfl
example : apply 0 exCands (.index (-1)) = .error .reference := by rfl
-- a region over candidates 1..2 takes the one site beneath it; over the refused one alone it declines
example : apply 0 exCands (.target 0 [] 1 3) = .ok [⟨[], 2⟩] := by rfl
example : apply 0 exCands (.target 0 [] 1 2) = .error .declined := by rfl

end Fpy.Props.C19
