/-
C07 — `simplify` (constant folding, copy propagation, dead-code elimination) never changes what a
program returns.

Approach: TRANSLATION VALIDATION at the level of the model.  `Fpy.Xform.simB R p' p`
(Model/Lang/Sim.lean) is an executable checker: `p'` is `p` up to the variable correspondence `R`.
`sim_sound` below is its soundness: accepted programs started in `R`-related environments have
the same outcome at every fuel.  Each rewrite of the real passes is then an instance:

* the cases of `dead_code._Eliminator`.  In every state: `dce_shapes_sound` (`if True/False`, `while False`,
  `assert True`, `pass`, code after `return`) and `dce_shapes_more` (an empty branch, an empty or doubled
  `with D:` block).  For an expression that is pure in the current state: `effect_elim` (dead expression
  statement) and `if1_pass_elim` (`if c: pass`; `if c: pass else: pass` is `dce_shapes_more` and then this).
  The scrubbing of unused names in a tuple binding has no theorem;
* `dead_assign_elim`: `x = e; rest ≡ rest` when `x` is not read afterwards and `e` is pure and total in the
  model's sense (`PureTotal`); `dead_assign_elim_returns` is the direction the property states and needs no
  totality, only that evaluating `e` leaves the heap alone (`HeapNeutral`);
* `self_assign_elim`: `x = x` with `x` bound;
* `copy_prop_sound`: after `x = y`, replacing reads of `x` by `y` (all or some of them) in a
  block that rebinds neither — the repaired single-definition condition of `copy_propagate.py`;
  `copy_prop_rejects_redefinition` shows the checker refusing the F13 shape;
* `const_fold_closed_sound` / `const_fold_static_sound`: the STATIC decision of constant folding, for scalar
  expressions (`scalarE`: literals and names bound to known flat values under rounded operators, predicates,
  comparisons, Boolean connectives, conditionals and `round_at`), under the context `C` active at that point.
  Replacing the expression by the literal (`litOf`) preserves the outcome of the enclosing assignment / `return` /
  `assert` / expression statement / `if` / `for` (`const_fold_stmt_sound`); under `with D:` the context to
  use is `D` (`const_fold_under_with`).  `const_fold_wrong_context_unsound`: folding with the value
  computed under a DIFFERENT context than the active one changes the result (concrete program).
  Open: a foldable sub-expression nested inside a non-constant expression (`x * (2 + 3)`), `while`
  conditions, list-valued constants — by differential runs only (`const_fold_subexpr_partial` is only the
  congruence of `return e` in `e`).
* the syntactic forms of the hypotheses: `copy_prop_subst_sound` (the substitution `substB x y ss` with `x`, `y` not
  bound in `ss` is accepted), `evalE_subst` / `evalE_congr_env` (expressions), `simple_is_pureTotal` (names and
  literals are `PureTotal`); `bequiv_returns`, `entry_equiv`: from `BEquiv` of the bodies to what `f(*args)` returns.
-/
import Fpy.Proof.LangFold
import Fpy.Proof.LangFrame
import Fpy.Proof.LangSyntax
namespace Fpy.Props.C07
open Fpy Fpy.Lang Fpy.Xform

/-- soundness of the validator: same outcome at EVERY fuel (`RelM (OutRel R)`: same error, or same
returned value and heap, or `R`-related final environments and the same heap) -/
theorem sim_sound (Φ : Funs) (R : VRel) (n : Nat) {σ1 σ2 : Env} {p' p : List Stmt} (hinv : Inv R σ1 σ2)
    (h : simB R p' p = true) (μ : Heap) (C : Ctx) :
    RelM (OutRel R) (evalB Φ n σ1 μ C p') (evalB Φ n σ2 μ C p) :=
  sim_evalB Φ R n hinv μ C h

/-- = `Xform.sim_returns` -/
theorem sim_returns (Φ : Funs) (R : VRel) {σ1 σ2 : Env} {p' p : List Stmt} (hinv : Inv R σ1 σ2)
    (h : simB R p' p = true) (μ : Heap) (C : Ctx) (v : Val) (μ' : Heap) :
    Returns Φ σ1 μ C p' v μ' ↔ Returns Φ σ2 μ C p v μ' := Fpy.Xform.sim_returns hinv h μ C v μ'

/-- = `Xform.evalE_congr_env` -/
theorem evalE_congr_env (Φ : Funs) (n : Nat) {σ1 σ2 : Env} (μ : Heap) (C : Ctx) (e : Expr)
    (h : ∀ z ∈ readsE e, σ1.get? z = σ2.get? z) : evalE Φ n σ1 μ C e = evalE Φ n σ2 μ C e :=
  Fpy.Xform.evalE_congr_env Φ n μ C e h

theorem evalE_subst (Φ : Funs) (n : Nat) {σ : Env} (μ : Heap) (C : Ctx) {x y : String} (e : Expr)
    (hxy : σ.get? x = σ.get? y) (hx : x ∉ bvE e) (hy : y ∉ bvE e) :
    evalE Φ n σ μ C (renE (sub1 x y) e) = evalE Φ n σ μ C e :=
  sim_evalE Φ _ n (inv_cpRel.2 ⟨fun _ _ => rfl, hxy.symm⟩) μ C (simE_subst hx hy)

theorem dce_shapes_sound (Φ : Funs) (A B rest : List Stmt) (e : Expr) :
    BEquiv Φ (.ifte (.bool true) A B :: rest) (A ++ rest) ∧
    BEquiv Φ (.ifte (.bool false) A B :: rest) (B ++ rest) ∧
    BEquiv Φ (.if1 (.bool true) A :: rest) (A ++ rest) ∧
    BEquiv Φ (.if1 (.bool false) A :: rest) rest ∧
    BEquiv Φ (.while (.bool false) A :: rest) rest ∧
    BEquiv Φ (.assert (.bool true) :: rest) rest ∧
    BEquiv Φ (.pass :: rest) rest ∧
    BEquiv Φ (.ret e :: rest) [.ret e] := by
  have hT : ∀ B, BEquiv Φ (.ifte (.bool true) A B :: rest) (A ++ rest) := fun B σ μ C => by
    rw [evalBω_cons', evalBω_append, evalSω_ifte, evalEω_bool]; rfl
  have hF : ∀ B, BEquiv Φ (.ifte (.bool false) A B :: rest) (B ++ rest) := fun B σ μ C => by
    rw [evalBω_cons', evalBω_append, evalSω_ifte, evalEω_bool]; rfl
  -- `if c: A` is `if c: A else: <nothing>`
  have h1 : ∀ c, BEquiv Φ (.if1 c A :: rest) (.ifte c A [] :: rest) := fun c =>
    BEquiv.cons (fun σ μ C => evalSω_if1 Φ σ μ C c A) (BEquiv.refl Φ rest)
  refine ⟨hT B, hF B, (h1 _).trans (hT []), (h1 _).trans (hF []), ?_, ?_, ?_, ?_⟩ <;> intro σ μ C
  · rw [evalBω_cons', evalSω_while, evalEω_bool]; rfl
  · rw [evalBω_cons', evalSω_assert, evalEω_bool]; rfl
  · rw [evalBω_cons', evalSω_pass]; rfl
  · rw [evalBω_cons', evalBω_cons', evalSω_ret]
    cases evalEω Φ σ μ C e <;> rfl

/-- further shapes of `dead_code._Eliminator` that hold in every state: an empty `else` branch, an empty `then`
branch, an empty `with D:` block, a doubled `with`.  (The pass rewrites the branches only under a pure condition;
the equivalences do not need it.  Of `with` statements the pass, `_visit_context`, rewrites those of the form
`with e as x:` whose name `x` is never used, for any expression `e`; the two `with` conjuncts here are about a literal
context and no name.) -/
theorem dce_shapes_more (Φ : Funs) (c : Expr) (A B rest : List Stmt) (D D' : Ctx) :
    SEquiv Φ (.ifte c A [.pass]) (.if1 c A) ∧
    SEquiv Φ (.ifte c [.pass] B) (.if1 (.not c) B) ∧
    BEquiv Φ (.with (.ctxLit D) none [.pass] :: rest) rest ∧
    SEquiv Φ (.with (.ctxLit D) none [.with (.ctxLit D') none A]) (.with (.ctxLit D') none A) := by
  have hpass : ∀ σ μ C, evalBω Φ σ μ C [.pass] = .ok (.normal σ, μ) := fun σ μ C => by
    rw [evalBω_single, evalSω_pass]
  refine ⟨?_, ?_, ?_, ?_⟩ <;> intro σ μ C
  · rw [evalSω_if1]
    exact SEquiv.ifte c (BEquiv.refl Φ A) (fun σ μ C => (hpass σ μ C).trans (evalBω_nil Φ σ μ C).symm) σ μ C
  · rw [evalSω_ifte, evalSω_if1, evalSω_ifte, evalEω_not]
    cases evalEω Φ σ μ C c with
    | error e => rfl
    | ok r =>
      obtain ⟨v, μ'⟩ := r
      cases v <;> try rfl
      rename_i b
      cases b
      · rfl
      · exact (hpass σ μ' C).trans (evalBω_nil Φ σ μ' C).symm
  · rw [evalBω_cons', with_ctx_wrap, hpass]; rfl
  · rw [with_ctx_wrap, evalBω_single, with_ctx_wrap, with_ctx_wrap]

theorem effect_elim {Φ : Funs} {σ : Env} {μ : Heap} {C : Ctx} {e : Expr} (hp : PureTotal Φ σ μ C e) (rest : List Stmt) :
    evalBω Φ σ μ C (.effect e :: rest) = evalBω Φ σ μ C rest := by
  obtain ⟨v, hv⟩ := hp
  rw [evalBω_cons', evalSω_effect, hv]; rfl

theorem if1_pass_elim {Φ : Funs} {σ : Env} {μ : Heap} {C : Ctx} {c : Expr} {b : Bool}
    (hp : evalEω Φ σ μ C c = .ok (.bool b, μ)) (rest : List Stmt) :
    evalBω Φ σ μ C (.if1 c [.pass] :: rest) = evalBω Φ σ μ C rest := by
  rw [evalBω_cons', evalSω_if1, evalSω_ifte, hp]
  show ((if b = true then evalBω Φ σ μ C [.pass] else evalBω Φ σ μ C []) >>= _) = _
  rw [evalBω_single, evalSω_pass, evalBω_nil, ite_self]; rfl

/-- from blocks to `f(*args)` versus `simplify(f)(*args)`: functions with equivalent bodies return the same -/
theorem entry_equiv {Φ : Funs} {f f' : String} {fd fd' : FuncDef} (hf : Φ.find? f = some fd) (hf' : Φ.find? f' = some fd')
    (hp : fd.params = fd'.params) (hc : fd.ctx = fd'.ctx) (hb : BEquiv Φ fd.body fd'.body)
    (args : List Val) (μ : Heap) (ctx : Option Ctx) (v : Val) (μ' : Heap) :
    (∃ n, callEntry Φ n f args μ ctx = .ok (v, μ')) ↔ (∃ n, callEntry Φ n f' args μ ctx = .ok (v, μ')) :=
  Fpy.Xform.entry_equiv hf hf' hp hc hb args μ ctx v μ'

/-- `BEquiv` is what the property needs and more -/
theorem bequiv_returns {Φ : Funs} {ss ss' : List Stmt} (h : BEquiv Φ ss ss') (σ : Env) (μ : Heap) (C : Ctx) (v : Val) (μ' : Heap) :
    Returns Φ σ μ C ss v μ' ↔ Returns Φ σ μ C ss' v μ' := h.returns

/-- `Xform.dead_assign_elim` at `xs = readsB rest` -/
theorem dead_assign_elim {Φ : Funs} {x : String} {e : Expr} {rest : List Stmt} (hx : x ∉ readsB rest)
    {σ : Env} {μ : Heap} {C : Ctx} (hp : PureTotal Φ σ μ C e) (w : Val) (μ' : Heap) :
    Returns Φ σ μ C (.assign (.var x) e :: rest) w μ' ↔ Returns Φ σ μ C rest w μ' :=
  Fpy.Xform.dead_assign_elim hx (simB_idRel_of_reads (fun _ hz => hz)) hp w μ'

/-- the direction C07 states, without totality -/
theorem dead_assign_elim_returns {Φ : Funs} {x : String} {e : Expr} {rest : List Stmt} (hx : x ∉ readsB rest)
    {σ : Env} {μ : Heap} {C : Ctx} (hp : HeapNeutral Φ σ μ C e) (w : Val) (μ' : Heap) :
    Returns Φ σ μ C (.assign (.var x) e :: rest) w μ' → Returns Φ σ μ C rest w μ' :=
  Fpy.Xform.dead_assign_elim_returns hx (simB_idRel_of_reads (fun _ hz => hz)) hp w μ'

theorem simple_is_pureTotal {Φ : Funs} {σ : Env} {μ : Heap} {C : Ctx} {e : Expr} (hs : simpleE e = true)
    (hb : ∀ z ∈ readsE e, (σ.get? z).isSome = true) : PureTotal Φ σ μ C e := by
  cases e <;> first
    | exact absurd hs Bool.false_ne_true
    | skip
  · rename_i x
    have := hb x (List.mem_singleton.2 rfl)
    cases hx : σ.get? x with
    | none => rw [hx] at this; cases this
    | some v => exact ⟨v, by rw [evalEω_var, hx]⟩
  · exact ⟨_, evalEω_bool Φ σ μ C _⟩
  · exact ⟨_, evalEω_num Φ σ μ C _⟩
  · exact ⟨_, evalEω_ctxLit Φ σ μ C _⟩

/-- `Xform.self_assign_elim` at `xs = readsB rest` -/
theorem self_assign_elim {Φ : Funs} {x : String} {rest : List Stmt} {σ : Env} {μ : Heap} {C : Ctx} {v : Val}
    (hb : σ.get? x = some v) (w : Val) (μ' : Heap) :
    Returns Φ σ μ C (.assign (.var x) (.var x) :: rest) w μ' ↔ Returns Φ σ μ C rest w μ' :=
  Fpy.Xform.self_assign_elim (xs := readsB rest) (simB_idRel_of_reads (fun _ hz => hz)) hb w μ'

/-- copy propagation, validator form: any `ss'` the checker accepts against `ss` under
"identity on `xs`, and `y` may stand for `x`" -/
theorem copy_prop_sound {Φ : Funs} {xs : List String} {x y : String} {ss ss' : List Stmt}
    (h : simB (cpRel xs x y) ss' ss = true) (σ : Env) (μ : Heap) (C : Ctx) (w : Val) (μ' : Heap) :
    Returns Φ σ μ C (.assign (.var x) (.var y) :: ss') w μ' ↔ Returns Φ σ μ C (.assign (.var x) (.var y) :: ss) w μ' :=
  Fpy.Xform.copy_prop_sound h σ μ C w μ'

theorem copy_prop_subst_sound {Φ : Funs} {x y : String} {ss : List Stmt} (hx : x ∉ bvB ss) (hy : y ∉ bvB ss)
    (σ : Env) (μ : Heap) (C : Ctx) (w : Val) (μ' : Heap) :
    Returns Φ σ μ C (.assign (.var x) (.var y) :: substB x y ss) w μ' ↔
      Returns Φ σ μ C (.assign (.var x) (.var y) :: ss) w μ' :=
  Fpy.Xform.copy_prop_sound (simB_subst hx hy) σ μ C w μ'

/-- THE STATIC DECISION of constant folding.  `Γ` lists the names bound to literals by a unique dominating
definition (flat values: numbers, Booleans, contexts); `e` is scalar; the folder evaluates `e` once (fuel `N`, in `Γ`
on the empty heap) under the ACTIVE context `C`.  Then in every state that agrees with `Γ` on the names `e` reads
(nothing rebinds them between definition and use), on every heap, `e` evaluates under `C` to that value, without
touching the heap. -/
theorem const_fold_static_sound {Φ : Funs} {N : Nat} {Γ σ : Env} {C : Ctx} {e : Expr} {v : Val} {m : Heap}
    (hs : scalarE e = true) (hΓ : FlatOn Γ (readsE e)) (hσ : ∀ z ∈ readsE e, σ.get? z = Γ.get? z)
    (hstatic : evalE Φ N Γ [] C e = .ok (v, m)) (μ : Heap) :
    evalEω Φ σ μ C e = .ok (v, μ) ∧ flatV v = true := by
  have h1 : evalE Φ N σ [] C e = .ok (v, m) := by rw [Fpy.Xform.evalE_congr_env Φ N [] C e hσ]; exact hstatic
  have hfl : FlatOn σ (readsE e) := fun z hz w hw => hΓ z hz w (by rw [← hσ z hz]; exact hw)
  obtain ⟨_, hf, hall⟩ := scalar_eval hs hfl h1
  exact ⟨evalEω_of_run (hall μ) (by intro h0; cases h0), hf⟩

/-- … in particular for a closed expression (no variables): no hypothesis on the state at all -/
theorem const_fold_closed_sound {Φ : Funs} {N : Nat} {C : Ctx} {e : Expr} {v : Val} {m : Heap}
    (hc : closedE e = true) (hstatic : evalE Φ N [] [] C e = .ok (v, m)) (σ : Env) (μ : Heap) :
    evalEω Φ σ μ C e = .ok (v, μ) ∧ flatV v = true := by
  unfold closedE at hc
  rw [Bool.and_eq_true, List.isEmpty_iff] at hc
  refine const_fold_static_sound (Γ := []) hc.1 ?_ ?_ hstatic μ
  · rw [hc.2]; intro z hz; cases hz
  · rw [hc.2]; intro z hz; cases hz

/-- replacing the top-level expression of a statement by the literal of its static value -/
theorem const_fold_stmt_sound {Φ : Funs} {N : Nat} {Γ σ : Env} {C : Ctx} {e lit : Expr} {v : Val} {m : Heap}
    (hs : scalarE e = true) (hΓ : FlatOn Γ (readsE e)) (hσ : ∀ z ∈ readsE e, σ.get? z = Γ.get? z)
    (hstatic : evalE Φ N Γ [] C e = .ok (v, m)) (hlit : litOf v = some lit) (μ : Heap) (p : Pat) (t f rest : List Stmt) :
    evalBω Φ σ μ C (.assign p e :: rest) = evalBω Φ σ μ C (.assign p lit :: rest) ∧
    evalBω Φ σ μ C (.ret e :: rest) = evalBω Φ σ μ C (.ret lit :: rest) ∧
    evalBω Φ σ μ C (.assert e :: rest) = evalBω Φ σ μ C (.assert lit :: rest) ∧
    evalBω Φ σ μ C (.effect e :: rest) = evalBω Φ σ μ C (.effect lit :: rest) ∧
    evalBω Φ σ μ C (.ifte e t f :: rest) = evalBω Φ σ μ C (.ifte lit t f :: rest) ∧
    evalBω Φ σ μ C (.if1 e t :: rest) = evalBω Φ σ μ C (.if1 lit t :: rest) ∧
    evalBω Φ σ μ C (.for p e t :: rest) = evalBω Φ σ μ C (.for p lit t :: rest) := by
  have he : evalEω Φ σ μ C e = evalEω Φ σ μ C lit := by
    rw [(const_fold_static_sound hs hΓ hσ hstatic μ).1, evalEω_litOf hlit]
  exact stmt_expr_congr he p t f rest

/-- inside `with D:` (a literal context: the statically known context stack) the value to fold is the one
computed under `D`, whatever the context outside -/
theorem const_fold_under_with {Φ : Funs} {N : Nat} {σ : Env} {C D : Ctx} {e lit : Expr} {v : Val} {m : Heap}
    (hc : closedE e = true) (hstatic : evalE Φ N [] [] D e = .ok (v, m)) (hlit : litOf v = some lit) (μ : Heap)
    (p : Pat) (body : List Stmt) :
    evalSω Φ σ μ C (.with (.ctxLit D) none (.assign p e :: body)) =
      evalSω Φ σ μ C (.with (.ctxLit D) none (.assign p lit :: body)) := by
  rw [with_ctx_wrap, with_ctx_wrap]
  have he : evalEω Φ σ μ D e = evalEω Φ σ μ D lit := by
    rw [(const_fold_closed_sound hc hstatic σ μ).1, evalEω_litOf hlit]
  exact (stmt_expr_congr he p [] [] body).1

/-- `return e` depends on `e` only through its value: expressions that evaluate alike in the current state may be
exchanged under `return`.  Nothing here about a folded sub-expression nested in a non-constant expression, `while`
conditions (the environment changes between iterations) or list-valued constants (identity): those are open. -/
theorem const_fold_subexpr_partial {Φ : Funs} {σ : Env} {μ : Heap} {C : Ctx} {e e' : Expr}
    (h : evalEω Φ σ μ C e = evalEω Φ σ μ C e') (rest : List Stmt) :
    evalBω Φ σ μ C (.ret e :: rest) = evalBω Φ σ μ C (.ret e' :: rest) :=
  (stmt_expr_congr h (.var "_") [] [] rest).2.1

def add (a b : Expr) : Expr := .op .add [a, b]
def one : Expr := .num (.fv (.fin ⟨false, 0, 1⟩))

/-- `return x + a`  ↦  `return y + a` is accepted after `x = y` -/
example : simB (cpRel ["x", "y", "a"] "x" "y") [.ret (add (.var "y") (.var "a"))] [.ret (add (.var "x") (.var "a"))] = true := by
  decide

/-- F13: `y = y + 1; return x` ↦ `y = y + 1; return y` is REJECTED: the source of the copy is rebound -/
theorem copy_prop_rejects_redefinition :
    simB (cpRel ["x", "y"] "x" "y") [.assign (.var "y") (add (.var "y") one), .ret (.var "y")]
      [.assign (.var "y") (add (.var "y") one), .ret (.var "x")] = false := by decide

/-! … and rightly so: the two programs return different values (2 and 1 from `y = 1`) -/

def retNum : M (Outcome × Heap) → Option NV
  | .ok (.ret (.num a), _) => some a
  | _ => none

example : retNum (evalB ⟨[]⟩ 20 [("y", .num (.fv (.fin ⟨false, 0, 1⟩)))] [] fp64
      [.assign (.var "x") (.var "y"), .assign (.var "y") (add (.var "y") one), .ret (.var "x")])
    = some (.fv (.fin ⟨false, 0, 1⟩)) := by decide
example : retNum (evalB ⟨[]⟩ 20 [("y", .num (.fv (.fin ⟨false, 0, 1⟩)))] [] fp64
      [.assign (.var "x") (.var "y"), .assign (.var "y") (add (.var "y") one), .ret (.var "y")])
    = some (.fv (.fin ⟨false, 0, 2⟩)) := by decide

/-- the hypotheses of `copy_prop_subst_sound` and `dead_assign_elim` hold of concrete blocks -/
example : "x" ∉ bvB [.assign (.var "z") (add (.var "x") (.var "a")), .ret (.var "z")] := by decide
example : substB "x" "y" [.assign (.var "z") (add (.var "x") (.var "a")), .ret (.var "z")]
    = [.assign (.var "z") (add (.var "y") (.var "a")), .ret (.var "z")] := by
  rfl
example : "t" ∉ readsB [.ret (add (.var "x") (.var "a"))] := by decide

def one3 : Expr := .op .div [.num (.fv (.fin ⟨false, 0, 1⟩)), .num (.fv (.fin ⟨false, 0, 3⟩))]
def mp3 : Ctx := .mp 3 .rne (some 0) {}
/-- `with MPFloatContext(3): return 1/3` called under binary64 -/
def progW (e : Expr) : List Stmt := [.with (.ctxLit mp3) none [.ret e]]
/-- `1/3` under binary64 — the value a folder that ignored the `with` would substitute -/
def third64 : NV := .fv (.fin ⟨false, -54, 6004799503160661⟩)
/-- `1/3` with 3 digits — the value under the ACTIVE context -/
def third3 : NV := .fv (.fin ⟨false, -4, 5⟩)

example : closedE one3 = true := by decide
/-- the static evaluation under the active context `mp3`, and the sound fold … -/
example : retNum (evalB ⟨[]⟩ 10 [] [] fp64 (progW one3)) = some third3 := by decide
example : retNum (evalB ⟨[]⟩ 10 [] [] fp64 (progW (.num third3))) = some third3 := by decide
/-- … whereas folding with the value computed under the enclosing context changes what the program returns -/
theorem const_fold_wrong_context_unsound :
    retNum (evalB ⟨[]⟩ 10 [] [] fp64 (progW one3)) ≠ retNum (evalB ⟨[]⟩ 10 [] [] fp64 (progW (.num third64))) := by
  decide

end Fpy.Props.C07
