/-
C20 — Library decompositions are exact.
Property theorems only.  The model of the library functions is `Fpy/Model/Lib.lean` (transcribed statement
by statement from `fpy2/libraries/eft.py` and `core.py`; the harness evaluates the REAL decorated functions,
the `Fpy.Lang` evaluator on their exported ASTs and this transcription on the same inputs and compares).
Helper lemmas: `Fpy/Proof/EFT.lean` (real-context arithmetic, `ctx.round(…, exact=True)` keeps the value in
every context family, `ldexp`), `Fpy/Proof/Fast2Sum.lean` (Fast2Sum and FMA 2Mul on the integer model over
`Spec.roundQuot`), `Fpy/Proof/Fast2SumModel.lean` (the model's roundings on an integer grid, `FloatLike`).

Vocabulary.  `ap C op args` is `ops.<op>(args, ctx=C)` as the interpreter applies it; values are `NV`
(`.fv (.fin x)` a finite `Float` with `RealFloat` part `x : RF`), `x.val : Rat` the number denoted.
`NotExp C`: `C` is not the power-of-two `ExpContext` (in which `round(x, exact=True)` returns NaN for a zero or
negative `x` instead of raising, so the exactness-checked decompositions can return NaN parts there).
`FloatLike C p rm g`: `C` is deterministic and rounds every finite value on the grid `2^g` to `p` digits under
`rm` (`rndI`, i.e. `Spec.roundQuot`) — proved for `MPFloatContext(p, rm)` on every grid and for
`MPSFloatContext(p, emin, rm)` on every grid at or above its least digit `2^(emin−p+1)`.

FULL: `ideal_2sum_exact`, `ideal_2mul_exact`, `ideal_fma_exact` (EVERY context `C`, also fixed point, wrap,
saturate, stochastic: whenever the rounded result is finite), `split_exact`, `modf_exact`, `frexp_exact`,
`ldexp_once`.
PARTIAL (gap stated at the theorem): `fast_2sum_exact_partial`, `fast_2mul_exact_partial` — proved for the
`MPFloat` and `MPSFloat` (subnormals) families at every precision `p ≥ 1`; not for the bounded families
(`MPBFloat`, `EFloat`/`IEEE`: needs "no intermediate overflow").
COUNTEREXAMPLES about the source BEFORE the repairs (definitions `…Legacy` of the model; all were reproduced on
the real code by harness/c20.py and repaired in /repo): `classic_2sum_legacy_counterexample` (F38: `bb = s - a`
instead of Knuth–Møller's `bb = s - aa`; `classic_2fma` inherited it), `classic_2mul_legacy_raises` (F39:
`core.max_p()` was called under `with fp.INTEGER:`; there also `ceil(p / 2)` was `floor(p / 2)`),
`frexp_legacy_counterexample` (F40: `e = ctx.round(x.e)` was not `exact=True`: the exponent was rounded).
NOT proved, tested exhaustively on small formats by the harness and reported there as tests: `classic_2sum`,
`classic_2mul`, `classic_2fma` (as repaired), `priest_2sum`, `veltkamp_split`, and the fast variants in
`EFloat`/`IEEE` formats.
-/
import Fpy.Proof.Fast2SumModel
import Fpy.Proof.EFT
import Fpy.Props.C02
namespace Fpy.Props.C20
open Fpy Fpy.Lib Fpy.C20

/-- `ideal_2sum(a, b)` under any context `C` (floating point, fixed point with any overflow mode, real,
stochastic, any of the eight rounding modes): if it returns `(s, t)` with `s` finite then `s` is the value
`a + b` evaluates to under `C`, `t` is finite and `s + t = a + b` exactly. -/
theorem ideal_2sum_exact (C : Ctx) (a b s : RF) (tv : NV)
    (h : ideal2sum C (.fv (.fin a)) (.fv (.fin b)) = .ok (.fv (.fin s), tv)) :
    ap C .add [.fv (.fin a), .fv (.fin b)] = .ok (.fv (.fin s)) ∧
    ∃ t : RF, tv = .fv (.fin t) ∧ s.val + t.val = a.val + b.val := by
  unfold ideal2sum at h
  rw [real_add_fin] at h
  obtain ⟨h1, t, ht, hv⟩ := ideal_shape _ _ _ _ h
  exact ⟨h1, t, ht, by rw [hv, RF.val_add]⟩

/-- `ideal_2mul`: likewise `s + t = a·b` -/
theorem ideal_2mul_exact (C : Ctx) (a b s : RF) (tv : NV)
    (h : ideal2mul C (.fv (.fin a)) (.fv (.fin b)) = .ok (.fv (.fin s), tv)) :
    ap C .mul [.fv (.fin a), .fv (.fin b)] = .ok (.fv (.fin s)) ∧
    ∃ t : RF, tv = .fv (.fin t) ∧ s.val + t.val = a.val * b.val := by
  unfold ideal2mul at h
  rw [real_mul_fin] at h
  obtain ⟨h1, t, ht, hv⟩ := ideal_shape _ _ _ _ h
  exact ⟨h1, t, ht, by rw [hv, RF.val_mul]⟩

/-- `ideal_fma`: likewise `r + t = a·b + c` -/
theorem ideal_fma_exact (C : Ctx) (a b c r : RF) (tv : NV)
    (h : idealFma C (.fv (.fin a)) (.fv (.fin b)) (.fv (.fin c)) = .ok (.fv (.fin r), tv)) :
    ap C .fma [.fv (.fin a), .fv (.fin b), .fv (.fin c)] = .ok (.fv (.fin r)) ∧
    ∃ t : RF, tv = .fv (.fin t) ∧ r.val + t.val = a.val * b.val + c.val := by
  unfold idealFma at h
  rw [real_fma_fin] at h
  obtain ⟨h1, t, ht, hv⟩ := ideal_shape _ _ _ _ h
  exact ⟨h1, t, ht, by rw [hv, RF.val_add, RF.val_mul]⟩

/-- `split(x, n)` on a finite `x`: whenever it returns (it raises `ValueError` if `n` is not an integer or a
part is not representable in `C`), both parts are finite, they are the digits of `x` above `n` / at or below
`n` (`RealFloat.split`, whose digit ranges are `Props.C05.split_ranges`) and their sum is `x` exactly. -/
theorem split_exact (C : Ctx) (hE : NotExp C) (x : RF) (n hi lo : FV) (h : Lib.split C (.fin x) n = .ok (hi, lo)) :
    ∃ (nr : RF) (k : Int) (h' l' : RF), n = .fin nr ∧ nr.toInt? = some k ∧ hi = .fin h' ∧ lo = .fin l' ∧
      h'.val = (x.split k).1.val ∧ l'.val = (x.split k).2.val ∧ h'.val + l'.val = x.val := by
  unfold Lib.split at h
  cases n with
  | fin nr =>
    simp only [] at h
    cases hk : nr.toInt? with
    | none => rw [hk] at h; simp at h
    | some k =>
      rw [hk] at h
      simp only [] at h
      obtain ⟨h', l', e1, e2, v1, v2⟩ := round_pair_exact C hE _ _ hi lo h
      exact ⟨nr, k, h', l', rfl, hk, e1, e2, v1, v2, by rw [v1, v2, RF.split_sum]⟩
  | inf s => simp at h
  | nan s => simp at h

/-- `modf(x)` on a finite `x` (zero included): integral part `i` (an integer) and fractional part `f`,
`i + f = x` exactly; for `x ≠ 0` they are the digits above / at-or-below position `−1`. -/
theorem modf_exact (C : Ctx) (hE : NotExp C) (x : RF) (i f : FV) (h : modf C (.fin x) = .ok (i, f)) :
    ∃ i' f' : RF, i = .fin i' ∧ f = .fin f' ∧ i'.val + f'.val = x.val ∧ (∃ k : Int, i'.val = (k : Rat)) ∧
      (x.c ≠ 0 → i'.val = (x.split (-1)).1.val ∧ f'.val = (x.split (-1)).2.val) := by
  unfold modf at h
  simp only [] at h
  by_cases hc : x.c = 0
  · simp only [hc, if_true, round_flt_eq_real] at h
    obtain ⟨i', f', e1, e2, v1, v2⟩ := round_pair_exact C hE _ _ i f h
    refine ⟨i', f', e1, e2, ?_, ⟨0, ?_⟩, fun hx => absurd hc hx⟩
    · rw [v1, v2, RF.val_mk_zero, RF.val_zero_c hc]; exact Rat.add_zero 0
    · rw [v1, RF.val_mk_zero]; rfl
  · simp only [hc, if_false] at h
    obtain ⟨i', f', e1, e2, v1, v2⟩ := round_pair_exact C hE _ _ i f h
    obtain ⟨k, hk⟩ := split_hi_integer x
    exact ⟨i', f', e1, e2, by rw [v1, v2, RF.split_sum], ⟨k, by rw [v1, hk]⟩, fun _ => ⟨v1, v2⟩⟩

/-- `frexp(x)`, finite `x ≠ 0`, whatever the exponent is rounded with: the mantissa `m` is finite and
`m · 2^e(x) = x` exactly where `e(x)` is the normalized exponent of `x`; the returned exponent is
`ctx.round(e(x), exact=exactE)`. -/
theorem frexp_mantissa (exactE : Bool) (C : Ctx) (hE : NotExp C) (x : RF) (hx : x.c ≠ 0) (m e : FV)
    (h : frexpG exactE C (.fin x) = .ok (m, e)) :
    (∃ m' : RF, m = .fin m' ∧ m'.val * (2 : Rat) ^ x.e = x.val) ∧
    (C.round (.int x.e) exactE).map (·.v) = .ok e := by
  unfold frexpG at h
  simp only [hx, if_false] at h
  obtain ⟨a, h1, h⟩ := bind_ok h
  obtain ⟨b, h2, h⟩ := bind_ok h
  cases h
  obtain ⟨y, hy, hv⟩ := ctx_round_real_exact C hE _ a h1
  exact ⟨⟨y, hy, by rw [hv, frexpMant_val]⟩, by rw [h2]; rfl⟩

/-- **`frexp` recombines exactly** (current source, `e = ctx.round(x.e, exact=True)`): for a finite `x ≠ 0`,
whenever the call returns (it raises `ValueError` when the mantissa or the exponent is not representable in
`C`), both parts are finite, the exponent part denotes the integer `e(x)` and `m · 2^e = x`. -/
theorem frexp_exact (C : Ctx) (hE : NotExp C) (x : RF) (hx : x.c ≠ 0) (m e : FV) (h : frexp C (.fin x) = .ok (m, e)) :
    ∃ m' e' : RF, m = .fin m' ∧ e = .fin e' ∧ e'.val = ((x.e : Int) : Rat) ∧ m'.val * (2 : Rat) ^ x.e = x.val := by
  obtain ⟨⟨m', hm, hv⟩, he⟩ := frexp_mantissa true C hE x hx m e h
  cases hr : C.round (.int x.e) true with
  | error err => rw [hr] at he; cases he
  | ok b =>
    rw [hr] at he
    cases he
    obtain ⟨y, hy, hyv⟩ := ctx_round_int_exact C hE x.e b hr
    exact ⟨m', y, hm, hy, hyv, hv⟩

/-- before F40 the exponent was rounded: `MPFloatContext(2, RNE)`, `x = 32`: the result was `(1, 4)` (the
exponent 5 is not representable with 2 digits), `1 · 2^4 = 16 ≠ 32`.
Real code then: `core.frexp(32.0, ctx=fp.MPFloatContext(2, fp.RM.RNE))`. -/
theorem frexp_legacy_counterexample :
    (match frexpLegacy (.mp 2 .rne (some 0) {}) (.fin ⟨false, 5, 1⟩) with
     | .ok (.fin m, .fin e) => decide (m.val = 1 ∧ e.val = 4 ∧ m.val * (2 : Rat) ^ (4 : Int) ≠ (⟨false, 5, 1⟩ : RF).val)
     | _ => false) = true := by decide +kernel

/-- `ldexp(x, n)` for an integer `n` (as `to_value(int)` passes it): the scale `2^n` is computed exactly under
the real context and the result is the exact product `x · 2^n` rounded ONCE by `C` (value; an error of the
context likewise) — for every deterministic context family (`Ctx.det`, as C02's `mul_correct`). -/
theorem ldexp_once (C : Ctx) (hC : C.det) (x : RF) (i : Int) :
    (x.mul ⟨false, i, 1⟩).val = x.val * (2 : Rat) ^ i ∧
    (match C.roundAtCore (.fin (x.mul ⟨false, i, 1⟩)) none false 0 with
     | .ok r => ldexp C (.fv (.fin x)) (.fv (.fin (RF.ofInt i))) = .ok (.fv r.v)
     | .error err => ldexp C (.fv (.fin x)) (.fv (.fin (RF.ofInt i))) = .error err) := by
  refine ⟨by rw [RF.val_mul, pow2_val], ?_⟩
  rw [ldexp_eq_mul, ap_of_agree rfl (Fpy.Props.C02.mul_correct C hC x ⟨false, i, 1⟩)]
  cases C.roundAtCore (.fin (x.mul ⟨false, i, 1⟩)) none false 0 <;> rfl

/-- **Fast2Sum** (`fast_2sum`, Dekker) — PARTIAL.  For a context that rounds to `p ≥ 1` digits on the grid of
the operands under `RNE` or `RNA`, operands with at most `p` significant digits and `|a| ≥ |b|` (the `assert`
of the source, on exact values): whenever the function returns `(s, t)`, both are finite and `s + t = a + b` exactly
(`z = s ⊖ a` and `t = b ⊖ z` are computed without rounding error: the error of the rounded sum is representable).
Instances: `fast_2sum_exact_mp` (every `MPFloatContext(p, ·)`), `fast_2sum_exact_mps` (every
`MPSFloatContext(p, emin, ·)`, subnormals included).  GAP: the bounded families `MPBFloat` / `EFloat` / `IEEE`
(same statement with "`s` does not overflow"; needs that no intermediate overflows) and operands whose
encoding carries more than `p` digits with trailing zeros — both covered by the exhaustive tests of
harness/c20.py only. -/
theorem fast_2sum_exact_partial (C : Ctx) (p : Nat) (hp : 1 ≤ p) (rm : RM) (hrm : rm = .rne ∨ rm = .rna)
    (a b : RF) (hC : FloatLike C p rm (min a.exp b.exp))
    (ha : bitLength a.c ≤ p) (hb : bitLength b.c ≤ p) (hab : a.abs.ge b.abs = true)
    (sv tv : NV) (h : fast2sum C (.fv (.fin a)) (.fv (.fin b)) = .ok (sv, tv)) :
    ∃ s t : RF, sv = .fv (.fin s) ∧ tv = .fv (.fin t) ∧ s.val + t.val = a.val + b.val := by
  have ha' := RF.okAt_min_left a b
  have hb' := RF.okAt_min_right a b
  generalize hg : min a.exp b.exp = g at ha' hb' hC
  obtain ⟨⟨a0, hA, ha0⟩, hB⟩ := grid_operands p a b ha hb hab g hg
  obtain ⟨hsw, hsv⟩ := RF.add_sc a b g ha' hb'
  obtain ⟨s, hs, hsok, hssc⟩ := fl_ap hC rfl (Fpy.Props.C02.add_correct C hC.1 a b) hsw
  obtain ⟨hzw, hzv⟩ := RF.sub_sc s a g hsok ha'
  obtain ⟨z, hz, hzok, hzsc⟩ := fl_ap hC rfl (Fpy.Props.C02.sub_correct C hC.1 s a) hzw
  obtain ⟨htw, htv⟩ := RF.sub_sc b z g hb' hzok
  obtain ⟨t, ht, htok, htsc⟩ := fl_ap hC rfl (Fpy.Props.C02.sub_correct C hC.1 b z) htw
  obtain ⟨hsum, _, _⟩ := fast2sum_rndI p hp rm hrm (a.sc g) (b.sc g) a0 _ hA ha0 hB
  have hint : s.sc g + t.sc g = a.sc g + b.sc g := by
    rw [htsc, htv, hzsc, hzv, hssc, hsv]; exact hsum
  unfold fast2sum at h
  obtain ⟨bb, -, h⟩ := bind_ok h
  cases bb with
  | false => simp [bind, Except.bind, throw, throwThe, MonadExceptOf.throw] at h
  | true =>
    simp only [bind, Except.bind, Bool.not_true, Bool.false_eq_true, if_false, pure, Except.pure, hs, hz, ht,
      Except.ok.injEq, Prod.mk.injEq] at h
    refine ⟨s, t, h.1.symm, h.2.symm, ?_⟩
    rw [RF.val_sc s g hsok, RF.val_sc t g htok, RF.val_sc a g ha', RF.val_sc b g hb',
      ← Rat.add_mul, ← Rat.add_mul, ← Rat.intCast_add, ← Rat.intCast_add, hint]

theorem fast_2sum_exact_mp (p : Nat) (hp : 1 ≤ p) (rm : RM) (hrm : rm = .rne ∨ rm = .rna) (o : Opts)
    (a b : RF) (ha : bitLength a.c ≤ p) (hb : bitLength b.c ≤ p) (hab : a.abs.ge b.abs = true)
    (sv tv : NV) (h : fast2sum (.mp p rm (some 0) o) (.fv (.fin a)) (.fv (.fin b)) = .ok (sv, tv)) :
    ∃ s t : RF, sv = .fv (.fin s) ∧ tv = .fv (.fin t) ∧ s.val + t.val = a.val + b.val :=
  fast_2sum_exact_partial _ p hp rm hrm a b (mp_floatLike p hp rm o _) ha hb hab sv tv h

/-- with subnormals: operands encoded on the grid of the format (`exp ≥ emin − p + 1`) -/
theorem fast_2sum_exact_mps (p : Nat) (hp : 1 ≤ p) (emin : Int) (rm : RM) (hrm : rm = .rne ∨ rm = .rna) (o : Opts)
    (a b : RF) (ha : bitLength a.c ≤ p) (hb : bitLength b.c ≤ p)
    (hae : emin - p + 1 ≤ a.exp) (hbe : emin - p + 1 ≤ b.exp) (hab : a.abs.ge b.abs = true)
    (sv tv : NV) (h : fast2sum (.mps p emin rm (some 0) o) (.fv (.fin a)) (.fv (.fin b)) = .ok (sv, tv)) :
    ∃ s t : RF, sv = .fv (.fin s) ∧ tv = .fv (.fin t) ∧ s.val + t.val = a.val + b.val :=
  fast_2sum_exact_partial _ p hp rm hrm a b (mps_floatLike p hp emin rm o _ (by omega)) ha hb hab sv tv h

/-- the integer core of Fast2Sum over `Spec.roundQuot` (`rndI p rm` = round to `p` digits): the intermediate
`s − A` and the error `A + B − s` are representable.  This is `fast2sum_rndI` with the textbook hypothesis
`hAB : |B| ≤ |A|` added and not used: what the argument needs is that `A` is a multiple of `2^ja` on the grid where
`|B| < 2^p`, i.e. that the exponent of `a` is not below that of `b`. -/
theorem fast_2sum_integer (p : Nat) (hp : 1 ≤ p) (rm : RM) (hrm : rm = .rne ∨ rm = .rna)
    (A B a0 : Int) (ja : Nat) (hA : A = a0 * ((2 ^ ja : Nat) : Int)) (ha0 : a0.natAbs < 2 ^ p)
    (hB : B.natAbs < 2 ^ p) (hAB : B.natAbs ≤ A.natAbs) :
    rndI p rm (A + B) + rndI p rm (B - rndI p rm (rndI p rm (A + B) - A)) = A + B ∧
    rndI p rm (rndI p rm (A + B) - A) = rndI p rm (A + B) - A ∧
    rndI p rm (B - rndI p rm (rndI p rm (A + B) - A)) = A + B - rndI p rm (A + B) :=
  fast2sum_rndI p hp rm hrm A B a0 ja hA ha0 hB

/-- **FMA-based 2Mul** (`fast_2mul`) — PARTIAL.  EVERY rounding mode; a context that rounds to `p ≥ 1` digits on
the grid `2^(a.exp + b.exp)` (the product of the last digits of the operands is representable: "no underflow of
the error term"), operands with at most `p` significant digits: whenever the function returns `(r1, r2)`, both are
finite and `r1 + r2 = a·b` exactly.  Instances `fast_2mul_exact_mp`, `fast_2mul_exact_mps`.  GAP: as for
`fast_2sum_exact_partial` (bounded families, redundant encodings). -/
theorem fast_2mul_exact_partial (C : Ctx) (p : Nat) (hp : 1 ≤ p) (rm : RM)
    (a b : RF) (hC : FloatLike C p rm (a.exp + b.exp)) (ha : bitLength a.c ≤ p) (hb : bitLength b.c ≤ p)
    (sv tv : NV) (h : fast2mul C (.fv (.fin a)) (.fv (.fin b)) = .ok (sv, tv)) :
    ∃ s t : RF, sv = .fv (.fin s) ∧ tv = .fv (.fin t) ∧ s.val + t.val = a.val * b.val := by
  obtain ⟨hpw, hpv⟩ := RF.mul_sc a b a.exp b.exp (RF.okAt_self a) (RF.okAt_self b)
  obtain ⟨r1, h1, h1ok, h1sc⟩ := fl_ap hC rfl (Fpy.Props.C02.mul_correct C hC.1 a b) hpw
  obtain ⟨n1, h2, h2ok, h2sc⟩ := fl_ap hC rfl (Fpy.Props.C02.neg_correct C hC.1 r1) (RF.neg_okAt h1ok)
  obtain ⟨hfw, hfv⟩ := RF.add_sc (a.mul b) n1 _ hpw h2ok
  obtain ⟨r2, h3, h3ok, h3sc⟩ := fl_ap hC rfl (Fpy.Props.C02.fma_correct C hC.1 a b n1) hfw
  unfold fast2mul at h
  simp only [bind, Except.bind, pure, Except.pure, h1, h2, h3, Except.ok.injEq, Prod.mk.injEq] at h
  refine ⟨r1, r2, h.1.symm, h.2.symm, ?_⟩
  have hPa : a.c < 2 ^ p := (bitLength_le_iff _ _).1 ha
  have hPb : b.c < 2 ^ p := (bitLength_le_iff _ _).1 hb
  have hS : (a.sc a.exp * b.sc b.exp).natAbs < 2 ^ p * 2 ^ p := by
    rw [Int.natAbs_mul, RF.natAbs_sc_self, RF.natAbs_sc_self]
    exact Nat.mul_lt_mul'' hPa hPb
  obtain ⟨_, _, hsum⟩ := fast2mul_rndI p hp rm _ hS
  have hint : r1.sc (a.exp + b.exp) + r2.sc (a.exp + b.exp) = a.sc a.exp * b.sc b.exp := by
    rw [h3sc, hfv, h2sc, RF.neg_sc, h1sc, hpv]; exact hsum
  rw [RF.val_sc r1 _ h1ok, RF.val_sc r2 _ h3ok, RF.val_sc a _ (RF.okAt_self a), RF.val_sc b _ (RF.okAt_self b),
    ← Rat.add_mul, ← Rat.intCast_add, hint, RF.two_zpow_add, Rat.intCast_mul]
  rw [Rat.mul_assoc, Rat.mul_assoc, ← Rat.mul_assoc (b.sc b.exp : Rat), Rat.mul_comm (b.sc b.exp : Rat), Rat.mul_assoc ((2 : Rat) ^ a.exp)]

theorem fast_2mul_exact_mp (p : Nat) (hp : 1 ≤ p) (rm : RM) (o : Opts)
    (a b : RF) (ha : bitLength a.c ≤ p) (hb : bitLength b.c ≤ p)
    (sv tv : NV) (h : fast2mul (.mp p rm (some 0) o) (.fv (.fin a)) (.fv (.fin b)) = .ok (sv, tv)) :
    ∃ s t : RF, sv = .fv (.fin s) ∧ tv = .fv (.fin t) ∧ s.val + t.val = a.val * b.val :=
  fast_2mul_exact_partial _ p hp rm a b (mp_floatLike p hp rm o _) ha hb sv tv h

/-- with subnormals: no underflow of the error term, `a.exp + b.exp ≥ emin − p + 1` -/
theorem fast_2mul_exact_mps (p : Nat) (hp : 1 ≤ p) (emin : Int) (rm : RM) (o : Opts)
    (a b : RF) (ha : bitLength a.c ≤ p) (hb : bitLength b.c ≤ p) (hu : emin - p + 1 ≤ a.exp + b.exp)
    (sv tv : NV) (h : fast2mul (.mps p emin rm (some 0) o) (.fv (.fin a)) (.fv (.fin b)) = .ok (sv, tv)) :
    ∃ s t : RF, sv = .fv (.fin s) ∧ tv = .fv (.fin t) ∧ s.val + t.val = a.val * b.val :=
  fast_2mul_exact_partial _ p hp rm a b (mps_floatLike p hp emin rm o _ hu) ha hb sv tv h

/-- before F39 `classic_2mul` raised `ValueError` for EVERY context and operands: `p = core.max_p()` was
evaluated inside `with fp.INTEGER:`, and the integer context has no maximum precision. -/
theorem classic_2mul_legacy_raises (C : Ctx) (a b : NV) : classic2mulLegacy C a b = .error .valueError := rfl

/-- before F38 `classic_2sum` (`bb = s - a` where Knuth and Møller have `bb = s - aa`) was NOT error free:
`MPSFloatContext(2, -3, RNE)`, `a = 1/16`, `b = 1/4`: `s = 1/4`, `t = 1/8`, `s + t = 3/8 ≠ 5/16`
(real code then, in binary64: `eft.classic_2sum(2.0**-53, 1.0)` returned `(1.0, 2**-52)`). -/
theorem classic_2sum_legacy_counterexample :
    (match classic2sumLegacy (.mps 2 (-3) .rne (some 0) {}) (.fv (.fin ⟨false, -4, 1⟩)) (.fv (.fin ⟨false, -2, 1⟩)) with
     | .ok (.fv (.fin s), .fv (.fin t)) =>
       decide (s.val + t.val ≠ (⟨false, -4, 1⟩ : RF).val + (⟨false, -2, 1⟩ : RF).val ∧ s.val + t.val = 3 / 8)
     | _ => false) = true := by decide +kernel

/-! ## Non-vacuity: the hypotheses are met by concrete non-trivial values (evaluated by the kernel) -/

-- ideal_2sum under a WRAPPING fixed-point context: 3 + 3 in 3-bit signed wraps to −2, t = 8; s + t = 6
example : (match ideal2sum (Ctx.fixed true 0 3 .rne .wrap (some 0) none none) (.fv (.fin ⟨false, 0, 3⟩)) (.fv (.fin ⟨false, 0, 3⟩)) with
    | .ok (.fv (.fin s), .fv (.fin t)) => decide (s.val = -2 ∧ t.val = 8)
    | _ => false) = true := by decide +kernel
-- fast_2sum under MPFloatContext(3, RNE): 7 + 5/4 = 8 + 1/4 (error term non-zero), hypotheses of the theorem hold
example : bitLength (7 : Nat) ≤ 3 ∧ bitLength (5 : Nat) ≤ 3 ∧ (RF.abs ⟨false, 0, 7⟩).ge (RF.abs ⟨false, -2, 5⟩) = true ∧
    (match fast2sum (.mp 3 .rne (some 0) {}) (.fv (.fin ⟨false, 0, 7⟩)) (.fv (.fin ⟨false, -2, 5⟩)) with
     | .ok (.fv (.fin s), .fv (.fin t)) => decide (s.val = 8 ∧ t.val = 1 / 4)
     | _ => false) = true := by decide +kernel
-- fast_2mul under MPSFloatContext(3, −4, RTZ): 7·5 = 35 = 32 + 3
example : (match fast2mul (.mps 3 (-4) .rtz (some 0) {}) (.fv (.fin ⟨false, 0, 7⟩)) (.fv (.fin ⟨false, 0, 5⟩)) with
     | .ok (.fv (.fin s), .fv (.fin t)) => decide (s.val = 32 ∧ t.val = 3)
     | _ => false) = true := by decide +kernel
-- split / modf / frexp / ldexp on 13/4 under MPFloatContext(4, RNE)
example : (match Lib.split (.mp 4 .rne (some 0) {}) (.fin ⟨true, -2, 13⟩) (.fin (RF.ofInt 0)) with
     | .ok (.fin h, .fin l) => decide (h.val = -2 ∧ l.val = -5 / 4) | _ => false) = true ∧
    (match modf (.mp 4 .rne (some 0) {}) (.fin ⟨true, -2, 13⟩) with
     | .ok (.fin i, .fin f) => decide (i.val = -3 ∧ f.val = -1 / 4) | _ => false) = true ∧
    (match frexp (.mp 4 .rne (some 0) {}) (.fin ⟨true, -2, 13⟩) with
     | .ok (.fin m, .fin e) => decide (m.val = -13 / 8 ∧ e.val = 1) | _ => false) = true ∧
    (match ldexp (.mp 2 .rne (some 0) {}) (.fv (.fin ⟨true, -2, 13⟩)) (.fv (.fin (RF.ofInt 3))) with
     | .ok (.fv (.fin r)) => decide (r.val = -24) | _ => false) = true := by decide +kernel

-- the repaired classic_2sum on the witness of `classic_2sum_legacy_counterexample`: (1/4, 1/16), exact
example : (match classic2sum (.mps 2 (-3) .rne (some 0) {}) (.fv (.fin ⟨false, -4, 1⟩)) (.fv (.fin ⟨false, -2, 1⟩)) with
     | .ok (.fv (.fin s), .fv (.fin t)) => decide (s.val = 1 / 4 ∧ t.val = 1 / 16) | _ => false) = true := by decide +kernel
-- the repaired classic_2mul with an ODD precision (3 digits, split point ceil(3/2) = 2): 3/4 · 3 = 2 + 1/4
example : (match classic2mul (.mp 3 .rne (some 0) {}) (.fv (.fin ⟨false, -2, 3⟩)) (.fv (.fin ⟨false, 0, 3⟩)) with
     | .ok (.fv (.fin s), .fv (.fin t)) => decide (s.val = 2 ∧ t.val = 1 / 4) | _ => false) = true := by decide +kernel
-- the repaired frexp refuses what it cannot represent: 32 under MPFloatContext(2)
example : (match frexp (.mp 2 .rne (some 0) {}) (.fin ⟨false, 5, 1⟩) with
     | .error .valueError => true | _ => false) = true := by decide +kernel

end Fpy.Props.C20
