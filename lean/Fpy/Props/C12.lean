/-
C12 — Translation to and from FPCore preserves meaning (partial).

Models (lean/Fpy/Model/FPCore.lean, FPCoreCompile.lean): an FPCore evaluator in which a `!` annotation
is in force for exactly its sub-expression; the property table `FPCoreContext.from_context / to_context`;
the REPAIRED compiler `backend/fpc.py` on the loop-free statement subset (`compileB`) and the compiler
as it was (`compileBLegacy`).

Proved here
* `compile_sound` — for every loop-free block of the subset (assignment, nested / sequential `with`
  followed by further statements, `if/else` whose branches return, `return`; expressions built from
  variables, explicitly rounded constants, rounded operators and order comparisons) and every
  environment: if the core-language evaluator returns `v`, the compiled FPCore expression evaluates
  to the SAME `v` (for every sufficiently large fuel) under the property set denoting the active
  context.  `compile_sound_straightline`, `compile_sound_if`, `compile_fun_sound` are its instances.
* `with_scope` — the continuation of a `with` block is compiled separately and placed OUTSIDE the
  block's annotation; `with_scope_example`, `with_scope_legacy_counterexample`: a program where inner and
  outer context give different numbers, on the repaired compiler and on the one before the repair.
* `ctx_props_roundtrip` and the domain theorems — the repaired table is inverse on its domain, the
  domain contains every IEEE format / signed fixed-point format / the integers / the reals with a
  nameable mode, and refuses what FPCore cannot express; `table_legacy_fixed_counterexample`.
* loops (Model/FPCoreLoops.lean: `compileLB`, the COMPOSITE of the passes `ForBundling`, `WhileBundling`,
  `IfBundling` and the back end, up to the names of the bundled — `let`-bound — variables):
  `compile_sound_loops` — the same statement for the subset WITH `while`, `for x in range(round(n))`, one-armed
  `if`, `if/else` followed by statements, tuple construction and destructuring, for both settings of
  `unsafe_int_cast` and every order in which the passes may meet the variables of a Python `set`
  (`OrdOK`); `compile_fun_sound_loops` for a whole function called from Python.  The hypothesis `wsL`
  (well-scoped) excludes the two shapes the compiler gets wrong — `looptarget_counterexample`,
  `looptarget2_counterexample`, both replayed on the real compiler by harness/c12.py (known findings
  C12-looptarget, C12-looptarget2); `loops_example` runs a program with every construct through both sides,
  `loops_example_side_conditions` shows the hypotheses hold for it.
* the READER (Model/FPCoreRead.lean: `readE`, `Function.from_fpcore` on `let`, `let*`, `if`, `while`, `while*`, `!`
  over pure operands; fresh names from a counter): `read_sound` — if FPCore evaluates the expression to `v` under the
  properties in force, the statements read from it followed by `return <result>` return `v` in the core language under
  the context those properties denote; `read_annotation` — a `!` becomes a `with` block of the context denoted by the
  properties in force UPDATED with the named ones (inherited properties); `read_compile_roundtrip` — the re-read of the
  compiled core of a source block returns what the source block returns;
  `roundtrip_example_source / _core / _reread` (source, compiled core and re-read body agree by evaluation).
Not proved (partial): `for` over anything but `range(round(n))` (lists, `range(a, b)`, `range(a, b, s)`), lists,
comparisons other than one order comparison; in the reader: tensors / arrays / `for` (so the round trip covers tuple-free
programs), a parallel `while` with several variables, a loop condition that needs statements (C12-readwhilecond), the
binding of the parameters (`read_sound` starts from the related environments).
Side condition `litsOKL`: the small integer literals the compiler itself writes (tuple indices, the
`0` of a block without effect) are rounded under the context in force like every FPCore literal and
must be read back exactly — `lits_example` shows it holds (by evaluation) for the example's contexts.
-/
import Fpy.Proof.FPCoreMain
import Fpy.Proof.FPCoreLAll
import Fpy.Proof.FPCoreReadAll
namespace Fpy.Props.C12
open Fpy Fpy.Lang Fpy.C12

/-- **compile_sound.** A loop-free block that returns `v` in the core language compiles to an FPCore
expression that evaluates to `v` under the property set `P` denoting the active context `C`, in every
environment that agrees with the source environment on the variables the expression mentions. -/
theorem compile_sound (Φ : Funs) (body : List SStmt) (fuel : Nat) (σ : Env) (μ μ' : Heap) (C : Ctx) (v : Val)
    (E : FExpr) (P : Props) (ρ : Env)
    (hrun : evalB Φ fuel σ μ C (SStmt.toLangs body) = .ok (.ret v, μ'))
    (hnames : ∀ x, x ∈ SStmt.namesL body → isTmp x = false) (hdefs : ∀ x, x ∈ SStmt.defsL body → isTmp x = false)
    (hcomp : compileB body none [] = some E) (hP : P.toCtx = .ok C) (hlits : SStmt.litsOKL body C false [])
    (hρ : ∀ x, x ∈ SStmt.mentionL body [] → isTmp x = false → ρ.get? x = σ.get? x) :
    ∃ N, ∀ n, N ≤ n → eval n ρ P E = .ok v :=
  (((flat_sound_all Φ fuel).2 body σ μ C (.ret v) μ' hrun).2 hnames hdefs none [] E P hcomp (fun _ => rfl) hP hlits).2 ρ hρ

/-- … and the source program does not touch the heap (nothing in this subset allocates). -/
theorem compile_sound_heap (Φ : Funs) (body : List SStmt) (fuel : Nat) (σ : Env) (μ μ' : Heap) (C : Ctx) (o : Outcome)
    (hrun : evalB Φ fuel σ μ C (SStmt.toLangs body) = .ok (o, μ')) : μ' = μ :=
  ((flat_sound_all Φ fuel).2 body σ μ C o μ' hrun).1

def straightS : SStmt → Bool
  | .assign _ _ => true
  | .ret _ => true
  | .ifte _ _ _ => false
  | .with_ _ body => body.attach.all fun ⟨s, _⟩ => straightS s
def straightL (ss : List SStmt) : Bool := ss.all straightS

/-- **compile_sound_straightline**: straight-line blocks (assign / `with` / return), in the source environment itself:
`compile_sound` at `ρ := σ` (the proof does not use that the block is straight-line). -/
theorem compile_sound_straightline (Φ : Funs) (body : List SStmt) (_hs : straightL body = true) (fuel : Nat) (σ : Env)
    (μ μ' : Heap) (C : Ctx) (v : Val) (E : FExpr) (P : Props)
    (hrun : evalB Φ fuel σ μ C (SStmt.toLangs body) = .ok (.ret v, μ'))
    (hnames : ∀ x, x ∈ SStmt.namesL body → isTmp x = false) (hdefs : ∀ x, x ∈ SStmt.defsL body → isTmp x = false)
    (hcomp : compileB body none [] = some E) (hP : P.toCtx = .ok C) (hlits : SStmt.litsOKL body C false []) :
    ∃ N, ∀ n, N ≤ n → eval n σ P E = .ok v :=
  compile_sound Φ body fuel σ μ μ' C v E P σ hrun hnames hdefs hcomp hP hlits (fun _ _ _ => rfl)

/-- **compile_sound_if**: `if c: …return… else: …return…` compiles to `(if c T F)` with the compiled branches,
and that expression returns what the statement returns. -/
theorem compile_sound_if (Φ : Funs) (c : SExpr) (t f : List SStmt) (fuel : Nat) (σ : Env) (μ μ' : Heap) (C : Ctx)
    (v : Val) (E : FExpr) (P : Props)
    (hrun : evalB Φ fuel σ μ C (SStmt.toLangs [.ifte c t f]) = .ok (.ret v, μ'))
    (hnames : ∀ x, x ∈ SStmt.namesL [.ifte c t f] → isTmp x = false)
    (hdefs : ∀ x, x ∈ SStmt.defsL [.ifte c t f] → isTmp x = false)
    (hcomp : compileB [.ifte c t f] none [] = some E) (hP : P.toCtx = .ok C)
    (hlits : SStmt.litsOKL [.ifte c t f] C false []) :
    (∃ T F, compileB t none [] = some T ∧ compileB f none [] = some F ∧ E = .ite c.toF T F) ∧
    ∃ N, ∀ n, N ≤ n → eval n σ P E = .ok v := by
  refine ⟨?_, compile_sound Φ _ fuel σ μ μ' C v E P σ hrun hnames hdefs hcomp hP hlits (fun _ _ _ => rfl)⟩
  exact (compileS_ifte_inv (c := c) (t := t) (e := f) (K := none) (N := []) hcomp).2

/-- **with_scope** (structure): a `with` block followed by statements compiles to the annotated block
bound AROUND the separately compiled continuation `K'` — the continuation is not under `(! props …)`. -/
theorem with_scope (d : CDesc) (body : List SStmt) (s : SStmt) (ss : List SStmt) (E : FExpr)
    (hcomp : compileB (.with_ d body :: s :: ss) none [] = some E) :
    ∃ p I K', fromDesc d = some p ∧ compileB (s :: ss) none [] = some K' ∧
      compileB body (some (retOf (passed body (SStmt.mentionL (s :: ss) [])))) (passed body (SStmt.mentionL (s :: ss) [])) = some I ∧
      E = bundle (passed body (SStmt.mentionL (s :: ss) [])) (.ann p I) K' := by
  simp only [compileB] at hcomp
  cases hK : compileB (s :: ss) none [] with
  | none => simp only [compileB] at hK; rw [hK] at hcomp; cases hcomp
  | some K' =>
    simp only [compileB] at hK
    rw [hK] at hcomp
    simp only [compileS] at hcomp
    cases hfd : fromDesc d with
    | none => rw [hfd] at hcomp; cases hcomp
    | some p =>
      rw [hfd] at hcomp
      simp only at hcomp
      unfold passed
      generalize sortNames (List.filter (fun x => (SStmt.mentionL (s :: ss) []).contains x) (SStmt.defsL body)) = D at hcomp ⊢
      obtain ⟨I, hI, rfl⟩ := Option.map_eq_some_iff.1 hcomp
      exact ⟨p, I, K', rfl, rfl, hI, rfl⟩

/-! ### the example: inner and outer context give different numbers

    with binary32:            -- outer
        with binary16:        -- inner
            x = a + b         -- 1 + 2^-12 = 1 in binary16 (11 digits)
        y = x / 3             -- OUTER context: RN_binary32(1/3)
        return y
-/
def b32 : CDesc := .ieee 8 32 .rne .overflow 0
def b16 : CDesc := .ieee 5 16 .rne .overflow 0
def three : NV := .q 3 1
def demo : List SStmt :=
  [.with_ b32 [.with_ b16 [.assign "x" (.op .add [.var "a", .var "b"])],
               .assign "y" (.op .div [.var "x", .lit three]),
               .ret (.var "y")]]
def demoEnv : Env := [("a", .num (.fv (.fin ⟨false, 0, 1⟩))), ("b", .num (.fv (.fin ⟨false, -12, 1⟩)))]

def numOf : Except Err Val → Option NV | .ok (.num v) => some v | _ => none
def numOf' : Except Err (Outcome × Heap) → Option NV | .ok (.ret (.num v), _) => some v | _ => none

/-- the core language: `y` is 1/3 rounded to binary32 (24 digits) -/
theorem demo_lang : numOf' (evalB ⟨[]⟩ 20 demoEnv [] fp64 (SStmt.toLangs demo)) = some (.fv (.fin ⟨false, -25, 11184811⟩)) := by
  decide +kernel

/-- **with_scope_example**: the repaired compiler's core returns the same number … -/
theorem with_scope_example :
    (compileB demo none []).map (fun E => numOf (eval 30 demoEnv {} E)) = some (some (.fv (.fin ⟨false, -25, 11184811⟩))) := by
  decide +kernel

/-- **with_scope_legacy_counterexample**: … the compiler before the repair evaluated `y = x / 3` under the
INNER annotation (binary16: 1/3 rounded to 11 digits). -/
theorem with_scope_legacy_counterexample :
    (compileBLegacy demo none).map (fun E => numOf (eval 30 demoEnv {} E)) = some (some (.fv (.fin ⟨false, -12, 1365⟩))) := by
  decide +kernel

/-- the side conditions of `compile_sound` hold for the example (non-vacuity of its hypotheses) -/
theorem lits_example : SStmt.litsOKL demo fp64 false [] := by
  simp only [SStmt.litsOKL, SStmt.litsOK, demo, b32, b16, CDesc.toCtx, SStmt.mentionL, SStmt.mention, SStmt.defsL, SStmt.defs,
    SExpr.vars, SExpr.varsL]
  decide +kernel

example : (∀ x, x ∈ SStmt.namesL demo → isTmp x = false) ∧ (∀ x, x ∈ SStmt.defsL demo → isTmp x = false) := by
  decide

theorem bindAll_eq_foldl : ∀ (l : List (String × Val)) (ρ : Env),
    bindAll ρ l = l.foldl (fun s (xv : String × Val) => s.set xv.1 xv.2) ρ := by
  intro l
  induction l with
  | nil => intro ρ; rfl
  | cons a rest ih => intro ρ; obtain ⟨x, v⟩ := a; simp only [bindAll, List.foldl_cons]; exact ih _

/-- **compile_fun_sound**: a call `f(*args)` from Python (no `ctx=`: binary64) of a function without declared context
returns what the compiled core evaluates to on the same arguments. -/
theorem compile_fun_sound (name : String) (params : List String) (body : List SStmt) (args : List Val) (fuel : Nat)
    (v : Val) (μ' : Heap) (core : FCore)
    (hrun : callEntry ⟨[{ name := name, params := params, ctx := none, body := SStmt.toLangs body }]⟩ fuel name args [] none = .ok (v, μ'))
    (hnames : ∀ x, x ∈ SStmt.namesL body → isTmp x = false) (hdefs : ∀ x, x ∈ SStmt.defsL body → isTmp x = false)
    (hcomp : compileFun params none body = some core) (hlits : SStmt.litsOKL body fp64 false []) :
    ∃ N, ∀ n, N ≤ n → evalCore n core args = .ok v := by
  obtain ⟨hlen, hb⟩ := callEntry_single hrun
  unfold compileFun at hcomp
  split at hcomp
  · cases hcomp
  · next E hE =>
    cases hcomp
    obtain ⟨N, hN⟩ := compile_sound _ body fuel _ [] μ' fp64 v E {} _ hb hnames hdefs hE rfl hlits (fun _ _ _ => rfl)
    refine ⟨N, fun n hn => ?_⟩
    unfold evalCore
    rw [if_neg (by simpa using hlen), bindAll_eq_foldl]
    exact hN n hn

/-- **compile_sound_loops.** A block of the subset with loops that returns `v` in the core language compiles
(`compileLB`: bundling passes + back end) to an FPCore expression that evaluates to `v`, for every sufficiently
large fuel, under the property set `P` denoting the active context `C`, in every environment that agrees with the
source environment on the free variables of the expression.  `G`: the variables defined before the block;
`wsL`: variables are defined before use, source names are not compiler temporaries, tuple targets are distinct,
a loop target is neither defined before its loop nor assigned in it; `litsL`: the integer literals the compiler
writes are read back exactly; `OrdOK`: the set-iteration order of the passes is a reordering. -/
theorem compile_sound_loops (Φ : Funs) (cfg : Cfg) (hord : OrdOK cfg) (body : List LStmt) (G : List String)
    (fuel : Nat) (σ : Env) (μ μ' : Heap) (C : Ctx) (v : Val) (E : FExpr) (P : Props) (ρ : Env)
    (hrun : evalB Φ fuel σ μ C (LStmt.toLangs body) = .ok (.ret v, μ'))
    (hG : ∀ y, y ∈ G → isTmpL y = false) (hws : LStmt.wsL G body) (hb : Bound G σ)
    (hcomp : compileLB cfg G body none = some E) (hP : P.toCtx = .ok C) (hlits : LStmt.litsL G P body)
    (hρ : AgreeL (fvF E) ρ σ) :
    ∃ N, ∀ n, N ≤ n → eval n ρ P E = .ok v :=
  ((lblock_all cfg hord body G none E hws hcomp (fun k hk => by cases hk)).2 Φ fuel σ μ C (.ret v) μ' P hrun hG hb hP
    hlits).2.2 ρ hρ

/-- … and the source program only ever extends the heap (the list a `range` allocates). -/
theorem compile_sound_loops_heap (Φ : Funs) (cfg : Cfg) (hord : OrdOK cfg) (body : List LStmt) (G : List String)
    (fuel : Nat) (σ : Env) (μ μ' : Heap) (C : Ctx) (o : Outcome) (E : FExpr) (P : Props)
    (hrun : evalB Φ fuel σ μ C (LStmt.toLangs body) = .ok (o, μ'))
    (hG : ∀ y, y ∈ G → isTmpL y = false) (hws : LStmt.wsL G body) (hb : Bound G σ)
    (hcomp : compileLB cfg G body none = some E) (hP : P.toCtx = .ok C) (hlits : LStmt.litsL G P body) :
    ∀ (r : Nat) (l : List Val), μ[r]? = some l → μ'[r]? = some l :=
  ((lblock_all cfg hord body G none E hws hcomp (fun k hk => by cases hk)).2 Φ fuel σ μ C o μ' P hrun hG hb hP hlits).1

/-- the order parameter: the identity and the reversal are reorderings (any permutation is) -/
theorem ordOK_id (b : Bool) : OrdOK { unsafeInt := b, ord := fun _ l => l } := fun _ _ => ⟨fun _ => Iff.rfl, Nat.le_refl _⟩
theorem ordOK_reverse (b : Bool) : OrdOK { unsafeInt := b, ord := fun _ l => l.reverse } :=
  fun _ _ => ⟨fun _ => List.mem_reverse, by simp⟩

theorem bound_foldl : ∀ (l : List (String × Val)) (σ : Env) (x : String),
    (x ∈ l.map (·.1) ∨ ∃ w, σ.get? x = some w) →
    ∃ w, (l.foldl (fun s (xv : String × Val) => s.set xv.1 xv.2) σ).get? x = some w := by
  intro l σ x h
  rcases Fpy.Xform.get?_setAll l σ x with ⟨hn, e⟩ | ⟨v, _, e⟩
  · obtain ⟨w, hw⟩ := h.resolve_left hn
    exact ⟨w, e.trans hw⟩
  · exact ⟨v, e⟩

/-- **compile_fun_sound_loops**: a call `f(*args)` from Python (no `ctx=`: binary64) of a function of the subset with
loops, without declared context, returns what the compiled core evaluates to on the same arguments. -/
theorem compile_fun_sound_loops (cfg : Cfg) (hord : OrdOK cfg) (name : String) (params : List String) (body : List LStmt)
    (args : List Val) (fuel : Nat) (v : Val) (μ' : Heap) (core : FCore)
    (hrun : callEntry ⟨[{ name := name, params := params, ctx := none, body := LStmt.toLangs body }]⟩ fuel name args [] none = .ok (v, μ'))
    (hparams : ∀ y, y ∈ params → isTmpL y = false) (hws : LStmt.wsL params body)
    (hcomp : compileFunL cfg params none body = some core) (hlits : LStmt.litsL params {} body) :
    ∃ N, ∀ n, N ≤ n → evalCore n core args = .ok v := by
  obtain ⟨hlen, hb⟩ := callEntry_single hrun
  unfold compileFunL at hcomp
  split at hcomp
  · cases hcomp
  · next E hE =>
    cases hcomp
    have hbound : Bound params ((params.zip args).foldl (fun s (xv : String × Val) => s.set xv.1 xv.2) []) := by
      intro x hx
      apply bound_foldl
      left
      rw [List.map_fst_zip (by omega)]
      exact hx
    obtain ⟨N, hN⟩ := compile_sound_loops _ cfg hord body params fuel _ [] μ' fp64 v E {} _ hb hparams hws hbound hE rfl hlits
      (agreeL_refl _ _)
    refine ⟨N, fun n hn => ?_⟩
    unfold evalCore
    rw [if_neg (by simpa using hlen), bindAll_eq_foldl]
    exact hN n hn

def cfgU : Cfg := { unsafeInt := true, ord := fun _ l => l }
def ten : Val := .num (.fv (.fin ⟨false, 0, 10⟩))
def two : Val := .num (.fv (.fin ⟨false, 1, 1⟩))
def envL : Env := [("a", ten), ("b", two)]
/-
    s = a; k = round(0)
    while k < round(3): s = s + b; k = k + round(1)          # two carried variables (WhileBundling)
    for i in range(round(2)): s = s + i
    if a < s: s = s * b
    if s < a: z = s; c = a
    else:     c = b; z = k                                   # two introduced variables (IfBundling)
    p, q = (z, c)
    return p - q
-/
def loopDemo : List LStmt :=
  [.assign "s" (.var "a"), .assign "k" (.lit (.q 0 1)),
   .while_ (.cmp .lt (.var "k") (.lit (.q 3 1)))
     [.assign "s" (.op .add [.var "s", .var "b"]), .assign "k" (.op .add [.var "k", .lit (.q 1 1)])],
   .forRange "i" 2 [.assign "s" (.op .add [.var "s", .var "i"])],
   .if1 (.cmp .lt (.var "a") (.var "s")) [.assign "s" (.op .mul [.var "s", .var "b"])],
   .ifte (.cmp .lt (.var "s") (.var "a")) [.assign "z" (.var "s"), .assign "c" (.var "a")]
     [.assign "c" (.var "b"), .assign "z" (.var "k")],
   .tassign ["p", "q"] (.tuple [.var "z", .var "c"]),
   .ret (.op .sub [.var "p", .var "q"])]

/-- **loops_example**: both sides return 1 -/
theorem loops_example :
    numOf' (evalB ⟨[]⟩ 60 envL [] fp64 (LStmt.toLangs loopDemo)) = some (.fv (.fin ⟨false, 0, 1⟩)) ∧
    (compileLB cfgU ["a", "b"] loopDemo none).map (fun E => numOf (eval 200 envL {} E)) = some (some (.fv (.fin ⟨false, 0, 1⟩))) := by
  decide +kernel

theorem litsP_fp64 (n : Nat) (h : CtxLits fp64 n) : LitsP {} n := ⟨fp64, rfl, h⟩

/-- the side conditions of `compile_sound_loops` hold for the example (non-vacuity of its hypotheses) -/
theorem loops_example_side_conditions :
    LStmt.wsL ["a", "b"] loopDemo ∧ LStmt.litsL ["a", "b"] {} loopDemo ∧ Bound ["a", "b"] envL ∧ OrdOK cfgU := by
  refine ⟨?_, ?_, ?_, ordOK_id true⟩
  · simp only [loopDemo, LStmt.wsL, LStmt.ws, LStmt.gamma, LStmt.gammaL, LStmt.asgL, LStmt.asg, LExpr.vars, LExpr.varsL]
    and_intros <;> decide
  · -- the largest bound `lits` asks for here is 11, at the `if/else`: 2 + 2 names assigned, 6 defined after a branch, + 1
    have hlit : LitsOK {} 12 := ⟨⟨fp64, rfl, by decide +kernel⟩, ⟨_, rfl, by decide +kernel⟩⟩
    simp only [loopDemo, LStmt.litsL, LStmt.lits, LStmt.gamma, LStmt.gammaL, LStmt.asgL, LStmt.asg, List.length, and_true, true_and]
    refine ⟨hlit.mono (by decide), hlit.mono (by decide), hlit.mono (by decide), hlit.mono (by decide), hlit.mono (by decide)⟩
  · intro x hx
    simp only [List.mem_cons, List.not_mem_nil, or_false] at hx
    rcases hx with rfl | rfl
    · exact ⟨ten, rfl⟩
    · exact ⟨two, rfl⟩

/-
    for i in range(round(3)): i = i + b
    return a
-/
def isUnbound : Except Err Val → Bool | .error .unbound => true | _ => false
def loopTarget : List LStmt := [.forRange "i" 3 [.assign "i" (.op .add [.var "i", .var "b"])], .ret (.var "a")]

/-- **looptarget_counterexample** (C12-looptarget): the loop target is assigned in the body — the pass takes it for a
loop-carried variable and initialises it from the (unbound) target: FPy returns `a`, the compiled core fails.  The
program is not well-scoped (`wsL`), which is the hypothesis of `compile_sound_loops` that excludes it. -/
theorem looptarget_counterexample :
    numOf' (evalB ⟨[]⟩ 60 envL [] fp64 (LStmt.toLangs loopTarget)) = some (.fv (.fin ⟨false, 0, 10⟩)) ∧
    (compileLB cfgU ["a", "b"] loopTarget none).map (fun E => isUnbound (eval 200 envL {} E)) = some true ∧
    ¬ LStmt.wsL ["a", "b"] loopTarget := by
  refine ⟨by decide +kernel, by decide +kernel, ?_⟩
  intro h
  simp only [loopTarget, LStmt.wsL, LStmt.ws, LStmt.asgL, LStmt.asg] at h
  -- the clause "the loop target is not assigned in the body"
  exact h.1.2.2.1 (by decide)

/-
    i = a; s = a
    for i in range(round(3)): s = s + i
    return s + i
-/
def loopTarget2 : List LStmt :=
  [.assign "i" (.var "a"), .assign "s" (.var "a"), .forRange "i" 3 [.assign "s" (.op .add [.var "s", .var "i"])],
   .ret (.op .add [.var "s", .var "i"])]

/-- **looptarget2_counterexample** (C12-looptarget2): the loop target is also defined before the loop and read after it — in
FPy it keeps the last element (2), in the compiled core the binding made inside the loop body is gone after the loop
and the OLD value (10) is read: 15 against 23. -/
theorem looptarget2_counterexample :
    numOf' (evalB ⟨[]⟩ 60 envL [] fp64 (LStmt.toLangs loopTarget2)) = some (.fv (.fin ⟨false, 0, 15⟩)) ∧
    (compileLB cfgU ["a", "b"] loopTarget2 none).map (fun E => numOf (eval 200 envL {} E)) = some (some (.fv (.fin ⟨false, 0, 23⟩))) ∧
    ¬ LStmt.wsL ["a", "b"] loopTarget2 := by
  refine ⟨by decide +kernel, by decide +kernel, ?_⟩
  intro h
  simp only [loopTarget2, LStmt.wsL, LStmt.ws, LStmt.gamma] at h
  -- the clause "the loop target is not defined before the loop"
  exact h.2.2.1.2.1 (by decide)

/-- **read_sound.** If FPCore evaluates `e` to `v` (environment `ρ`, properties in force `P` denoting the context `C`), then the
statements the reader produces for `e`, followed by `return <result expression>`, return `v` in the core language under `C` —
from every environment `σ` in which every FPCore variable in scope (`m`) is held by a distinct name generated before (`RInv`).
`nm`: any injective supply of fresh names. -/
theorem read_sound (Φ : Funs) (nm : Nat → String) (hnm : ∀ i j, nm i = nm j → i = j) (e : FExpr) (k : Nat) (m : RMap) (P : Props)
    (C : Ctx) (ρ σ : Env) (μ : Heap) (n : Nat) (v : Val) (ss : List Stmt) (r : Expr) (k' : Nat)
    (heval : eval n ρ P e = .ok v) (hread : readE nm k m P e = some (ss, r, k')) (hP : P.toCtx = .ok C)
    (hI : RInv nm k m ρ σ) :
    ∃ F, evalB Φ F σ μ C (ss ++ [.ret r]) = .ok (.ret v, μ) := by
  obtain ⟨σ', hrun, _, hval⟩ := (readE_ok nm e k m P ss r k' hread).2 Φ hnm n C ρ σ μ v heval hP hI
  obtain ⟨F, hF⟩ := Fpy.Xform.run_of_evalBω (runs_ret hrun (hval σ' (Ext.refl k' σ'))) (by simp)
  exact ⟨F, hF F (Nat.le_refl F)⟩

/-- … the names generated before are left alone (the statements only assign fresh names). -/
theorem read_sound_frame (Φ : Funs) (nm : Nat → String) (hnm : ∀ i j, nm i = nm j → i = j) (e : FExpr) (k : Nat) (m : RMap) (P : Props)
    (C : Ctx) (ρ σ : Env) (μ : Heap) (n : Nat) (v : Val) (ss : List Stmt) (r : Expr) (k' : Nat)
    (heval : eval n ρ P e = .ok v) (hread : readE nm k m P e = some (ss, r, k')) (hP : P.toCtx = .ok C)
    (hI : RInv nm k m ρ σ) :
    k ≤ k' ∧ ∃ σ' F, evalB Φ F σ μ C ss = .ok (.normal σ', μ) ∧ ∀ j, j < k → σ'.get? (nm j) = σ.get? (nm j) := by
  obtain ⟨hk, hs⟩ := readE_ok nm e k m P ss r k' hread
  obtain ⟨σ', hrun, hext, _⟩ := hs Φ hnm n C ρ σ μ v heval hP hI
  obtain ⟨F, hF⟩ := Fpy.Xform.run_of_evalBω hrun (by simp)
  exact ⟨hk, σ', F, hF F (Nat.le_refl F), hext⟩

/-- **read_annotation** (structure): `(! p e)` is read as a `with` block whose context is the one denoted by the properties in
force UPDATED with `p` — a partial annotation inherits the enclosing properties (C12-readprops). -/
theorem read_annotation (nm : Nat → String) (k : Nat) (m : RMap) (P p : Props) (e : FExpr) (s : List Stmt) (r : Expr) (k1 : Nat)
    (C' : Ctx) (h1 : readE nm k m (P.update p) e = some (s, r, k1)) (hC : (P.update p).toCtx = .ok C') :
    readE nm k m P (.ann p e) = some ([.with (.ctxLit C') none (s ++ [.assign (.var (nm k1)) r])], .var (nm k1), k1 + 1) := by
  simp only [readE, h1, hC]

/-- the supply `r`, `rr`, `rrr`, … is injective (non-vacuity of the hypothesis on `nm`) -/
theorem fresh_names_injective : ∀ i j, nmR i = nmR j → i = j := by
  intro i j h
  have := congrArg String.length h
  simp only [nmR, String.length_ofList, List.length_replicate] at this
  omega

/-- **read_compile_roundtrip.** The core compiled from a source block that returns `v`, read back, returns `v`: compile
(`compile_sound_loops`) then read (`read_sound`).  `σ`: the source environment; `σ2`: an environment of the re-read function in
which every variable of the core in scope is held by its name.  `hread` can hold only for a core without `array`, `ref` and
`for`, which `readE` refuses: the round trip covers the programs without tuples and `for` loops. -/
theorem read_compile_roundtrip (Φ : Funs) (cfg : Cfg) (hord : OrdOK cfg) (nm : Nat → String) (hnm : ∀ i j, nm i = nm j → i = j)
    (body : List LStmt) (G : List String) (fuel : Nat) (σ : Env) (μ μ' : Heap) (C : Ctx) (v : Val) (E : FExpr) (P : Props)
    (hrun : evalB Φ fuel σ μ C (LStmt.toLangs body) = .ok (.ret v, μ'))
    (hG : ∀ y, y ∈ G → isTmpL y = false) (hws : LStmt.wsL G body) (hb : Bound G σ)
    (hcomp : compileLB cfg G body none = some E) (hP : P.toCtx = .ok C) (hlits : LStmt.litsL G P body)
    (k : Nat) (m : RMap) (ss : List Stmt) (r : Expr) (k' : Nat) (hread : readE nm k m P E = some (ss, r, k'))
    (σ2 : Env) (μ2 : Heap) (hI : RInv nm k m σ σ2) :
    ∃ F, evalB Φ F σ2 μ2 C (ss ++ [.ret r]) = .ok (.ret v, μ2) := by
  obtain ⟨N, hN⟩ := compile_sound_loops Φ cfg hord body G fuel σ μ μ' C v E P σ hrun hG hws hb hcomp hP hlits (agreeL_refl _ _)
  exact read_sound Φ nm hnm E k m P C σ σ2 μ2 N v ss r k' (hN N (Nat.le_refl _)) hread hP hI

/-
    x = a + b
    with binary64 toward zero:
        y = x * b
    if x < y: z = x
    else:     z = y * b
    return z - y
-/
def d64z : CDesc := .ieee 11 64 .rtz .overflow 0
def rtDemo : List LStmt :=
  [.assign "x" (.op .add [.var "a", .var "b"]),
   .with_ d64z [.assign "y" (.op .mul [.var "x", .var "b"])],
   .ifte (.cmp .lt (.var "x") (.var "y")) [.assign "z" (.var "x")] [.assign "z" (.op .mul [.var "y", .var "b"])],
   .ret (.op .sub [.var "z", .var "y"])]
def nmT (k : Nat) : String :=
  ["r0", "r1", "r2", "r3", "r4", "r5", "r6", "r7", "r8", "r9", "r10", "r11", "r12", "r13", "r14", "r15", "r16", "r17", "r18", "r19"].getD k "rx"
def envR : Env := [("r0", ten), ("r1", two)]

/-- **roundtrip_example**: the source block, its compiled core and the body re-read from the core return the same number (-12) -/
theorem roundtrip_example_source :
    numOf' (evalB ⟨[]⟩ 40 envL [] fp64 (LStmt.toLangs rtDemo)) = some (.fv (.fin ⟨true, 0, 12⟩)) := by decide +kernel
theorem roundtrip_example_core :
    (compileLB cfgU ["a", "b"] rtDemo none).map (fun E => numOf (eval 60 envL {} E)) = some (some (.fv (.fin ⟨true, 0, 12⟩))) := by
  decide +kernel
theorem roundtrip_example_reread :
    (compileLB cfgU ["a", "b"] rtDemo none).bind (fun E => (readE nmT 2 [("a", "r0"), ("b", "r1")] {} E).map
      (fun x => numOf' (evalB ⟨[]⟩ 60 envR [] fp64 (x.1 ++ [Stmt.ret x.2.1])))) = some (some (.fv (.fin ⟨true, 0, 12⟩))) := by
  decide +kernel

/-- `(! props e)` evaluates `e` under the properties in force updated with `props` (the evaluator's equation for `!`). -/
theorem annotation_scope (n : Nat) (ρ : Env) (P p : Props) (e : FExpr) :
    eval (n + 1) ρ P (.ann p e) = eval n ρ (P.update p) e := eval_ann n ρ P p e

/-- `while`: the condition is tested first; the updates are evaluated in the environment of the
iteration (simultaneously for `while`, in sequence for `while*`), then the loop repeats -/
theorem fpcore_while_rule (n : Nat) (star : Bool) (ρ : Env) (P : Props) (c : FExpr) (binds : List (String × FExpr × FExpr))
    (body : FExpr) :
    C12.whileLoop (n + 1) star ρ P c binds body =
      (do let cv ← eval n ρ P c
          if ← asBool cv then do
            let ρ' ← evalBinds n star ρ ρ P (binds.map fun b => (b.1, b.2.2))
            C12.whileLoop n star ρ' P c binds body
          else eval n ρ P body) :=
  whileLoop_succ n star ρ P c binds body

/-- `for`: the dimension variables are bound to the position, the updates evaluated, next position -/
theorem fpcore_for_rule (n : Nat) (star : Bool) (ρ : Env) (P : Props) (names : List String) (pos : List Nat)
    (more : List (List Nat)) (binds : List (String × FExpr × FExpr)) (body : FExpr) :
    C12.forLoop (n + 1) star ρ P names (pos :: more) binds body =
      (do let ρ' ← evalBinds n star (bindAll ρ (names.zip (pos.map fun (i : Nat) => intVal (Int.ofNat i))))
                      (bindAll ρ (names.zip (pos.map fun (i : Nat) => intVal (Int.ofNat i)))) P (binds.map fun b => (b.1, b.2.2))
          C12.forLoop n star ρ' P names more binds body) :=
  forLoop_cons n star ρ P names pos more binds body

/-- **ctx_props_roundtrip**: whatever `from_context` returns, `to_context` maps back to the same context. -/
theorem ctx_props_roundtrip (d : CDesc) (p : Props) (h : fromDesc d = some p) : p.toDesc = some d :=
  (fromDesc_eq_some_iff.1 h).2

/-- the names of the rounding modes and overflow modes: the two tables are inverse -/
theorem rname_roundtrip : ∀ r : RName, RName.ofRM r.toRM = some r := by intro r; cases r <;> rfl
theorem rname_roundtrip_inv : ∀ rm : RM, ∀ r, RName.ofRM rm = some r → r.toRM = rm := by
  intro rm r h; cases rm <;> simp [RName.ofRM] at h <;> subst h <;> rfl
theorem oname_roundtrip : ∀ o : OName, OName.ofOV o.toOV = some o := by intro o; cases o <;> rfl
theorem oname_roundtrip_inv : ∀ ov : OV, ∀ o, OName.ofOV ov = some o → o.toOV = ov := by
  intro ov o h; cases ov <;> simp [OName.ofOV] at h <;> subst h <;> rfl

/-- the domain contains every IEEE format (named or `(float es nbits)`) under each of the six modes … -/
theorem fromDesc_ieee (es nbits : Nat) (r : RName) : ∃ p, fromDesc (.ieee es nbits r.toRM .overflow 0) = some p := by
  simp only [fromDesc_eq_some_iff, tableOf, rname_roundtrip, Option.map_some]
  refine ⟨_, rfl, ?_⟩
  -- the entry is chosen by a cascade of tests for the named formats; each choice denotes the format
  repeat refine toDesc_ite (by rintro ⟨rfl, rfl⟩; rfl) fun _ => ?_
  rfl

/-- … every signed fixed-point format with a nameable rounding and overflow mode … -/
theorem fromDesc_fixed (scale : Int) (nbits : Nat) (r : RName) (o : OName) :
    fromDesc (.fixed true scale nbits r.toRM o.toOV) =
      some { prec := some (.fixed scale nbits), round := some r, ov := some o } := by
  unfold fromDesc
  simp [tableOf, rname_roundtrip, oname_roundtrip, Props.toDesc]

/-- … the integers and the reals. -/
theorem fromDesc_integer (r : RName) :
    fromDesc (.mpfixed (-1) r.toRM false) = some { prec := some .integer, round := some r } := by
  unfold fromDesc
  simp [tableOf, rname_roundtrip, Props.toDesc]

theorem fromDesc_real : fromDesc .real = some { prec := some .real } := by decide

/-- what FPCore cannot express is REFUSED, not silently changed: an overflow mode or random bits on an
IEEE format, the scale of an unbounded fixed-point format, a negative zero of the integers, unsigned formats. -/
theorem fromDesc_refuses_ieee (es nbits : Nat) (rm : RM) (ov : OV) (k : Nat) (h : ov ≠ .overflow ∨ k ≠ 0) :
    fromDesc (.ieee es nbits rm ov k) = none := by
  refine Option.eq_none_iff_forall_ne_some.2 fun p hp => ?_
  obtain ⟨rfl, rfl⟩ := toDesc_ieee_inv (fromDesc_eq_some_iff.1 hp).2
  exact h.elim (· rfl) (· rfl)

theorem fromDesc_refuses_mpfixed (nmin : Int) (rm : RM) (nz : Bool) (h : nmin ≠ -1 ∨ nz = true) :
    fromDesc (.mpfixed nmin rm nz) = none := by
  refine Option.eq_none_iff_forall_ne_some.2 fun p hp => ?_
  obtain ⟨ht, hg⟩ := fromDesc_eq_some_iff.1 hp
  obtain ⟨r, rfl⟩ := tableOf_mpfixed ht
  split at hg <;> cases hg
  exact h.elim (· rfl) (fun hz => by cases hz)

theorem fromDesc_refuses_unsigned (scale : Int) (nbits : Nat) (rm : RM) (ov : OV) :
    fromDesc (.fixed false scale nbits rm ov) = none := by
  simp [fromDesc, tableOf]

/-- the other direction: a context a property set denotes is convertible, to properties denoting it -/
theorem toDesc_fromDesc (q : Props) (d : CDesc) (h : q.toDesc = some d) : ∃ p, fromDesc d = some p ∧ p.toDesc = some d := by
  have key : ∃ p, fromDesc d = some p := by
    simp only [Props.toDesc] at h
    split at h <;> cases h
    · exact fromDesc_ieee _ _ _
    · exact fromDesc_ieee 15 128 _
    · exact fromDesc_ieee 15 79 _
    · exact fromDesc_ieee 11 64 _
    · exact fromDesc_ieee 8 32 _
    · exact fromDesc_ieee 5 16 _
    · exact ⟨_, fromDesc_fixed _ _ _ _⟩
    · exact ⟨_, fromDesc_integer _⟩
    · exact ⟨_, fromDesc_real⟩
  obtain ⟨p, hp⟩ := key
  exact ⟨p, hp, ctx_props_roundtrip d p hp⟩

/-- **table_legacy_fixed_counterexample**: before the repair `from_context` wrote `(fixed nbits scale)` —
`FixedContext(True, -4, 16, RNE, SATURATE)` came back as the format with scale 16 and −4 bits (`NoSuchContextError`
in the real code, whose constructor rejects it; 0 bits here: `tableLegacy` takes `toNat`) — and `MPFixedContext(-4)`
came back as binary64. -/
theorem table_legacy_fixed_counterexample :
    (tableLegacy (.fixed true (-4) 16 .rne .saturate)).bind Props.toDesc ≠ some (.fixed true (-4) 16 .rne .saturate) ∧
    (tableLegacy (.mpfixed (-4) .rne false)).bind Props.toDesc = some (.ieee 11 64 .rne .overflow 0) := by
  decide

end Fpy.Props.C12
