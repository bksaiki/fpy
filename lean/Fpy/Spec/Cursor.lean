/-
Specification of what an edit log *means* (independent of the forwarding arithmetic):
`applyEdits fresh E t` is the program obtained from `t` by replacing, for every edit `e ∈ E`
(given in the OLD program's terms), the run `[e.index, e.index + e.removed)` of the block at
`e.blockPath` by the statements `fresh e`.  Defined top-down over the tree, looking only at the
old position of each statement:

  new block = for each old index i:  (the fresh runs of all edits of this block that start at i)
                                      ++ (nothing, if i lies in a replaced run;
                                          otherwise statement i, its own blocks treated the same way)
              ++ the fresh runs of the edits that start at the end of the block.

A statement of the result *descends from* the old statement at `p` if it is the image of that very
statement (same tag; only its nested blocks may have been edited) or one of the fresh statements of
the edit whose run contains `p`.
-/
import Fpy.Model.Cursor
namespace Fpy.Cursor.Spec
open Fpy.Cursor

/-- `e` is an edit of block `here` whose run contains index `i` -/
def covers (e : Edit) (here : BlockPath) (i : Nat) : Bool :=
  e.blockPath == here && e.index ≤ i && i < e.index + e.removed

def coveredBy (E : List Edit) (here : BlockPath) (i : Nat) : Bool := E.any (covers · here i)

/-- the fresh statements of all edits of block `here` that start at old index `i`, in log order -/
def emitAt (fresh : Edit → List Stmt) (E : List Edit) (here : BlockPath) (i : Nat) : List Stmt :=
  E.flatMap fun e => if e.blockPath = here ∧ e.index = i then fresh e else []

mutual
def applyStmt (fresh : Edit → List Stmt) (E : List Edit) : BlockPath → Nat → Stmt → Stmt
  | _, _, .leaf t => .leaf t
  | here, i, .one t b => .one t (applyBlock fresh E (⟨i, .body⟩ :: here) b 0)
  | here, i, .two t a b =>
      .two t (applyBlock fresh E (⟨i, .ift⟩ :: here) a 0) (applyBlock fresh E (⟨i, .iff⟩ :: here) b 0)
def applyBlock (fresh : Edit → List Stmt) (E : List Edit) : BlockPath → Block → Nat → Block
  | here, [], i => emitAt fresh E here i
  | here, s :: r, i =>
      emitAt fresh E here i
        ++ ((if coveredBy E here i then [] else [applyStmt fresh E here i s])
        ++ applyBlock fresh E here r (i + 1))
end

def applyEdits (fresh : Edit → List Stmt) (E : List Edit) (t : Block) : Block := applyBlock fresh E [] t 0

/-- `p` lies at or beneath a statement some edit replaced -/
def touched (E : List Edit) (p : StmtPath) : Bool :=
  E.any fun e => beneathStmt e.blockPath e.index (e.index + e.removed) p

/-- `s'` (a statement of the result) descends from the old statement `s` at `p` -/
def Descends (fresh : Edit → List Stmt) (E : List Edit) (p : StmtPath) (s s' : Stmt) : Prop :=
  (touched E p = false ∧ s' = applyStmt fresh E p.parent p.index s) ∨
  (∃ e ∈ E, covers e p.parent p.index = true ∧ s' ∈ fresh e)

/-! ### a log that meets the specification; chains of passes -/

/-- the log is one the code accepts (`EditLog.__post_init__` passes) and its result program really
is the source with every recorded run replaced by the `inserted` statements `fresh e` -/
structure SpecLog (fresh : Edit → List Stmt) (L : EditLog) : Prop where
  check : L.check = .ok ()
  fresh_len : ∀ e ∈ L.edits, (fresh e).length = e.inserted
  result_eq : L.result.body = applyEdits fresh L.edits L.source.body

/-- a statement or region cursor that passed its constructor's validation against program `t`; expression
cursors are excluded (`False`): the theorems stated with `ValidIn` (`forward_step`, `chain_never_unrelated`) are
about statements and regions only -/
def ValidIn (t : Block) : Cursor → Prop
  | .stmt _ p => ∃ s, resolveStmt t p = .ok s
  | .region _ bp _ b => ∃ blk, resolveBlock t bp = .ok blk ∧ b ≤ blk.length
  | .expr _ _ => False

abbrev Pass := EditLog × (Edit → List Stmt)

/-- the newest program of a chain (`steps` newest first) -/
def top (root : Prog) : List Pass → Prog
  | [] => root
  | (L, _) :: _ => L.result

/-- the `parent` chain of `Function`s as `Function.forward` walks it: newest first, the root last -/
def mkChain (root : Prog) : List Pass → List (Prog × Option EditLog)
  | [] => [(root, none)]
  | (L, _) :: rest => (L.result, some L) :: mkChain root rest

/-- every pass produced its program from the previous one, by a log that meets the specification;
the cursor's program (the root) is not one of the later ones -/
def Linked (root : Prog) : List Pass → Prop
  | [] => True
  | (L, f) :: rest => SpecLog f L ∧ L.source = top root rest ∧ L.result.pid ≠ root.pid ∧ Linked root rest

/-- `s'` is reached from `s` by descending once per pass (`steps` newest first) -/
inductive Lineage : List Pass → Stmt → Stmt → Prop where
  | nil (s : Stmt) : Lineage [] s s
  | step {L : EditLog} {f : Edit → List Stmt} {rest : List Pass} {s s1 s2 : Stmt} :
      Lineage rest s s1 →
      (∃ p, resolveStmt L.source.body p = .ok s1 ∧ Descends f L.edits p s1 s2) →
      Lineage ((L, f) :: rest) s s2

end Fpy.Cursor.Spec
