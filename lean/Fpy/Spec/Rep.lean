/-
Specification of "representable" and of "correct rounding" at the level of VALUES (rationals).
The first half (grids, `RepFloat` … `roundVal`, `roundDiv`) is written from the published description
of the number formats, independent of the model's record operations: only `Rat`, integer powers of
two, `floor`/`ceil`, and the NAMES of the rounding modes are used.  The second half (membership in the
format of a context) reads the parameters off the model's `Ctx`; for `efloat` the digits, the subnormal
grid and the bounds are those of `c.mpb` (the model's `efloatMpb`, i.e. `_ext_to_mpb_fmt`), for `exp` the
exponent range is the model's `emin`/`emax`: for these two families membership is relative to a model
computation.

* a *grid* of spacing `2^u` is the set of integer multiples of `2^u`;
* a `p`-digit float is `m · 2^e` with `|m| < 2^p` (unbounded exponent);
* a fixed-point number with least digit position `n + 1` is a multiple of `2^(n+1)`;
* an IEEE-style float with subnormals is a `p`-digit float that is also on the grid of the
  smallest subnormal.

`roundVal rm u q` is the textbook rounding of the real `q` to the grid of spacing `2^u`:
the two candidates are `⌊q / 2^u⌋ · 2^u` and `⌈q / 2^u⌉ · 2^u`, the mode picks one.
-/
import Fpy.Model.Num.Ctx
namespace Fpy.Spec
open Fpy

/-- `q` is an integer multiple of `2^u` -/
def OnGrid (u : Int) (q : Rat) : Prop := ∃ m : Int, q = (m : Rat) * (2 : Rat) ^ u

/-- `q` is a binary float with at most `p` significant digits (any exponent) -/
def RepFloat (p : Nat) (q : Rat) : Prop :=
  q = 0 ∨ ∃ (m : Int) (e : Int), q = (m : Rat) * (2 : Rat) ^ e ∧ m.natAbs < 2 ^ p

/-- `q` is a fixed-point number whose first unrepresentable digit is at position `n` -/
def RepFixed (n : Int) (q : Rat) : Prop := OnGrid (n + 1) q

/-- `p`-digit float with gradual underflow: no digit at or below position `nmin` -/
def RepFloatSub (p : Nat) (nmin : Int) (q : Rat) : Prop := RepFloat p q ∧ OnGrid (nmin + 1) q

/-- membership in the unbounded-range float format with `p` digits and, when `minN = some nmin`,
no digit at or below position `nmin` (gradual underflow) -/
def RepIn (p : Nat) (minN : Option Int) (q : Rat) : Prop :=
  RepFloat p q ∧ ∀ nmin, minN = some nmin → OnGrid (nmin + 1) q

/-- lower / upper neighbour of `q` on the grid of spacing `2^u` -/
def gridLo (u : Int) (q : Rat) : Rat := ((q / (2 : Rat) ^ u).floor : Rat) * (2 : Rat) ^ u
def gridHi (u : Int) (q : Rat) : Rat := ((q / (2 : Rat) ^ u).ceil : Rat) * (2 : Rat) ^ u

/-- The grid point (as an integer multiple of `2^u`) that mode `rm` prescribes for the real `q`:
`lo = ⌊q/2^u⌋`, `hi = ⌈q/2^u⌉`; on the grid (`lo = hi`) the number itself; otherwise the mode's
name decides: toward −∞ / +∞ / zero / away; nearest with ties to even / away; to even / to odd. -/
def roundInt (rm : RM) (u : Int) (q : Rat) : Int :=
  let t := q / (2 : Rat) ^ u
  let lo := t.floor
  let hi := t.ceil
  if lo = hi then lo else
  match rm with
  | .rtn => lo
  | .rtp => hi
  | .rtz => if 0 ≤ q then lo else hi
  | .raz => if 0 ≤ q then hi else lo
  | .rte => if lo % 2 = 0 then lo else hi
  | .rto => if lo % 2 = 0 then hi else lo
  | .rne => if t - lo < hi - t then lo else if hi - t < t - lo then hi
            else (if lo % 2 = 0 then lo else hi)
  | .rna => if t - lo < hi - t then lo else if hi - t < t - lo then hi
            else (if 0 ≤ q then hi else lo)

/-- correct rounding of the real `q` to the grid of spacing `2^u` under mode `rm` -/
def roundVal (rm : RM) (u : Int) (q : Rat) : Rat := (roundInt rm u q : Rat) * (2 : Rat) ^ u

/-- `Spec.roundQuot` for an arbitrary positive divisor `D` (the grid is the multiples of `D`):
the multiple of `D` that mode `rm` prescribes for a magnitude of `N` with sign `s`. -/
def roundDiv (rm : RM) (s : Bool) (N D : Nat) : Nat :=
  let q := N / D
  let r := N % D
  if r = 0 then q else
  match rm with
  | .rtz => q
  | .raz => q + 1
  | .rtp => if s then q else q + 1
  | .rtn => if s then q + 1 else q
  | .rte => if q % 2 = 0 then q else q + 1
  | .rto => if q % 2 = 1 then q else q + 1
  | .rne => if 2 * r < D then q else if 2 * r > D then q + 1 else (if q % 2 = 0 then q else q + 1)
  | .rna => if 2 * r < D then q else q + 1

/-! ### membership in the format of a context

Written from the description of the families: which finite rationals the format contains, and
whether it has a negative zero, infinities, NaN.  The bounds of the bounded families are the
VALUES of the context's `posMax`/`negMax`; `p`, `nmin` and the bounds of `efloat`, and `emin`/`emax`
of `exp`, are computed by the model (`EFloatParams.mpb`, `ExpParams.emin`/`emax`). -/

/-- the finite members of each family's format, as a set of rationals (the exponential family holds
the powers of two `2^e`, `emin ≤ e ≤ emax`, and nothing else finite — no zero) -/
def CtxFinMember : Ctx → Rat → Prop
  | .real, _ => True
  | .mp p _ _ _, q => RepFloat p q
  | .mps p emin _ _ _, q => RepFloatSub p (emin - p) q
  | .mpb c, q => RepFloatSub c.p c.nmin q ∧ c.negMax.val ≤ q ∧ q ≤ c.posMax.val
  | .efloat c, q => RepFloatSub c.mpb.p c.mpb.nmin q ∧ c.mpb.negMax.val ≤ q ∧ q ≤ c.mpb.posMax.val
  | .mpfix nmin _ _ _ _, q => RepFixed nmin q
  | .mpbfix c, q => RepFixed c.nmin q ∧ c.negMax.val ≤ q ∧ q ≤ c.posMax.val
  | .exp c, q => ∃ e : Int, c.emin ≤ e ∧ e ≤ c.emax ∧ q = (2 : Rat) ^ e

def hasNegZero : Ctx → Bool
  | .mpfix _ _ _ nz _ => nz
  | .mpbfix c => c.negZero
  | .efloat c => c.kind != .negZero
  | .exp _ => false
  | _ => true

def hasInf : Ctx → Bool
  | .real => true
  | .mp _ _ _ o => o.enableInf
  | .mps _ _ _ _ o => o.enableInf
  | .mpb c => c.o.enableInf
  | .efloat c => c.inf
  | .mpfix _ _ _ _ o => o.enableInf
  | .mpbfix c => c.o.enableInf
  | .exp _ => false

def hasNan : Ctx → Bool
  | .real => true
  | .mp _ _ _ o => o.enableNan
  | .mps _ _ _ _ o => o.enableNan
  | .mpb c => c.o.enableNan
  | .efloat c => c.kind != .none
  | .mpfix _ _ _ _ o => o.enableNan
  | .mpbfix c => c.o.enableNan
  | .exp _ => true

/-- the user-configured substitutes for a disabled infinity / NaN -/
def infSub : Ctx → Option FV
  | .real => none
  | .mp _ _ _ o => o.infValue
  | .mps _ _ _ _ o => o.infValue
  | .mpb c => c.o.infValue
  | .efloat c => c.infValue
  | .mpfix _ _ _ _ o => o.infValue
  | .mpbfix c => c.o.infValue
  | .exp c => c.infValue

def nanSub : Ctx → Option FV
  | .real => none
  | .mp _ _ _ o => o.nanValue
  | .mps _ _ _ _ o => o.nanValue
  | .mpb c => c.o.nanValue
  | .efloat c => c.nanValue
  | .mpfix _ _ _ _ o => o.nanValue
  | .mpbfix c => c.o.nanValue
  | .exp _ => none

/-- `v` is a member of the format of context `C`: a finite member (−0 only where the format has
it), an infinity only if the format has infinities, a NaN only if it has NaN -/
def CtxMember (C : Ctx) : FV → Prop
  | .fin y => CtxFinMember C y.val ∧ (y.c = 0 → y.s = true → hasNegZero C = true)
  | .inf _ => hasInf C = true
  | .nan _ => hasNan C = true

/-- `v` is the configured substitute for a special value the format lacks (possibly re-signed) -/
def CtxSubstitute (C : Ctx) (v : FV) : Prop :=
  (hasInf C = false ∧ ∃ w, infSub C = some w ∧ (v = w ∨ ∃ s, v = w.withSign s)) ∨
  (hasNan C = false ∧ ∃ w, nanSub C = some w ∧ (v = w ∨ ∃ s, v = w.withSign s))

/-- well-formed parameters: at least one digit; for the bounded families the extreme values are
themselves finite members on either side of zero; for `efloat` and `mpbfix`, whose format may lack `−0`,
the largest value is moreover not written `−0` (`mpb` always has `−0`) -/
def CtxWF : Ctx → Prop
  | .real => True
  | .mp p _ _ _ => 1 ≤ p
  | .mps p _ _ _ _ => 1 ≤ p
  | .mpb c => 1 ≤ c.p ∧ RepFloatSub c.p c.nmin c.posMax.val ∧ RepFloatSub c.p c.nmin c.negMax.val ∧
      c.negMax.val ≤ 0 ∧ 0 ≤ c.posMax.val
  | .efloat c => 1 ≤ c.mpb.p ∧ RepFloatSub c.mpb.p c.mpb.nmin c.mpb.posMax.val ∧
      RepFloatSub c.mpb.p c.mpb.nmin c.mpb.negMax.val ∧ c.mpb.negMax.val ≤ 0 ∧ 0 ≤ c.mpb.posMax.val ∧
      c.mpb.posMax.s = false
  | .mpfix _ _ _ _ _ => True
  | .mpbfix c => RepFixed c.nmin c.posMax.val ∧ RepFixed c.nmin c.negMax.val ∧
      c.negMax.val ≤ 0 ∧ 0 ≤ c.posMax.val ∧ c.posMax.s = false
  | .exp _ => True

end Fpy.Spec
