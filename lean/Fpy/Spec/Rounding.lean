/-
Specification of rounding, written from the names of the modes in plain
arithmetic (no bit tests, no `to_direction` table).  Magnitudes are counted in
units of the operand's own LSB: the operand is `c` units, the grid spacing is
`2^k` units.
-/
import Fpy.Model.Num.Round
namespace Fpy.Spec
open Fpy

/-- The multiple of `2^k` (as a quotient) that mode `rm` prescribes for a magnitude of `c` units
with sign `s`.  `q = c / 2^k` is the lower neighbour, `q + 1` the upper one. -/
def roundQuot (rm : RM) (s : Bool) (c k : Nat) : Nat :=
  let q := c / 2 ^ k
  let r := c % 2 ^ k
  if r = 0 then q else
  match rm with
  | .rtz => q
  | .raz => q + 1
  | .rtp => if s then q else q + 1
  | .rtn => if s then q + 1 else q
  | .rte => if q % 2 = 0 then q else q + 1
  | .rto => if q % 2 = 1 then q else q + 1
  | .rne => if 2 * r < 2 ^ k then q else if 2 * r > 2 ^ k then q + 1 else (if q % 2 = 0 then q else q + 1)
  | .rna => if 2 * r < 2 ^ k then q else q + 1

end Fpy.Spec
