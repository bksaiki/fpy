/-
Helper lemmas for C11: the abstract format of a ladder rung denotes exactly the values of the
machine type (`γ (ladderFmt T) = values T`), in scaled integers; then, for `dispatch_contract`, the shape of the
signature `_dispatch` selects under a hardware context (`dispatch_fp_shape`).
-/
import Fpy.Proof.AbsFmt
import Fpy.Spec.Storage
namespace Fpy.C11
open Fpy RF AbsFmt

/-- `denotes x m e` compares magnitudes at the scale `min x.exp e`; any scale below both will do -/
theorem denotes_iff_scale {x : RF} {m : Nat} {e g : Int} (hg1 : g ≤ x.exp) (hg2 : g ≤ e) :
    denotes x m e ↔ x.mag g = m * 2 ^ (e - g).toNat := by
  have hg := Int.le_min.2 ⟨hg1, hg2⟩
  unfold denotes mag
  rw [two_pow_split hg (Int.min_le_left x.exp e), two_pow_split hg (Int.min_le_right x.exp e),
    ← Nat.mul_assoc, ← Nat.mul_assoc]
  exact (Nat.mul_right_cancel_iff (Nat.pow_pos (by decide))).symm

theorem sc_of_mag {x : RF} {g : Int} {m U : Nat} (h : x.mag g = m * U) :
    x.sc g = (if x.s then -(m : Int) else m) * U := by
  rw [sc_eq_mag, h, Int.natCast_mul]
  cases x.s
  · exact Int.one_mul _
  · rw [if_pos rfl, if_pos rfl, Int.neg_mul, Int.neg_mul, Int.one_mul]

theorem two_pow_ge_one (n : Nat) : (1 : Int) ≤ 2 ^ n := by
  have := RF.pw_pos n; omega

/-- a non-zero `x` against a format whose two bounds are finite with the same exponent `e`, in units of `2^(e-g)` -/
theorem finMem_fin_bounds {a : AbsFmt} {x : RF} {g e : Int} {sN : Bool} {P N : Nat} (hc : x.c ≠ 0) (hg : g ≤ x.exp)
    (hge : g ≤ e) (hpos : a.pos = .fin ⟨false, e, P⟩) (hneg : a.neg = .fin ⟨sN, e, N⟩) :
    a.finMem x ↔ IW a.prec a.exp g (x.sc g) ∧
      (if sN then -(N : Int) else N) * ((2 ^ (e - g).toNat : Nat) : Int) ≤ x.sc g ∧
      x.sc g ≤ (P : Int) * ((2 ^ (e - g).toNat : Nat) : Int) := by
  rw [finMem_iff a x g hc hg (hpos ▸ Or.inr hge) (hneg ▸ Or.inr hge), hpos, hneg]
  show _ ∧ -x.sc g ≤ -(⟨sN, e, N⟩ : RF).sc g ∧ x.sc g ≤ (⟨false, e, P⟩ : RF).sc g ↔ _
  rw [Int.neg_le_neg_iff, sc_of_mag (x := ⟨false, e, P⟩) rfl, sc_of_mag (x := ⟨sN, e, N⟩) rfl]
  exact Iff.rfl

/-- the lower bound is `-N`, or `+0` on the unsigned rungs (`sN = false`, whence `hsN`);
`a` with `ha` lets the callers pass `uintFmt n` / `sintFmt n` and `rfl` -/
theorem gamma_int_iff (a : AbsFmt) (P N : Nat) (sN : Bool)
    (ha : a = { prec := none, exp := some 0, pos := .fin ⟨false, 0, P⟩, neg := .fin ⟨sN, 0, N⟩ })
    (hsN : sN = false → N = 0) (v : FV) : γ a v ↔ intValues (if sN then -(N : Int) else 0) P v := by
  subst ha
  cases v with
  | nan s => exact ⟨nofun, nofun⟩
  | inf s => cases s <;> exact ⟨nofun, nofun⟩
  | fin x =>
    show finMem _ x ↔ _
    unfold intValues
    by_cases hc : x.c = 0
    · rw [finMem_zero _ x hc]
      constructor
      · intro hz
        have hs : x.s = false := by cases h : x.s <;> simp_all
        refine ⟨fun _ => hs, 0, by unfold denotes; simp [hc], ?_, ?_⟩ <;> rw [hs]
        · cases sN <;> simp
        · simp
      · intro hv hs; rw [hv.1 hc] at hs; cases hs
    · -- at the scale `g = min x.exp 0`, with unit `U = 2^(-g)`: `x = ±m·U`, the bounds are `P·U` and `lo·U`
      have hg : min x.exp 0 ≤ x.exp := Int.min_le_left ..
      have hg0 : min x.exp 0 ≤ (0 : Int) := Int.min_le_right ..
      have hU : (0 : Int) < ((2 ^ (0 - min x.exp 0).toNat : Nat) : Int) := Int.natCast_pos.2 (Nat.pow_pos (by decide))
      have hN : (if sN then -(N : Int) else N) = if sN then -(N : Int) else 0 := by
        cases sN
        · rw [hsN rfl]; rfl
        · rfl
      rw [finMem_fin_bounds hc hg hg0 rfl rfl, hN]
      constructor
      · rintro ⟨⟨m, e, hge, hm, _, hE⟩, hlb, hub⟩
        rw [natAbs_sc, two_pow_split hg0 (hE 0 rfl), ← Nat.mul_assoc] at hm
        rw [sc_of_mag hm] at hlb hub
        exact ⟨fun h => absurd h hc, _, (denotes_iff_scale hg hg0).2 hm, Int.le_of_mul_le_mul_right hlb hU,
          Int.le_of_mul_le_mul_right hub hU⟩
      · rintro ⟨_, m, hd, hlo, hhi⟩
        have hm := (denotes_iff_scale hg hg0).1 hd
        refine ⟨⟨m, 0, hg0, (natAbs_sc x _).trans hm, nofun, fun E h => by cases h; exact Int.le_refl 0⟩, ?_, ?_⟩ <;>
          rw [sc_of_mag hm]
        · exact Int.mul_le_mul_of_nonneg_right hlo (Int.le_of_lt hU)
        · exact Int.mul_le_mul_of_nonneg_right hhi (Int.le_of_lt hU)

theorem gamma_ieee_iff (p : Nat) (E Q : Int) (hEQ : E ≤ Q) (v : FV) : γ (ieeeFmt p E Q) v ↔ floatValues p E Q v := by
  cases v with
  | nan s => exact ⟨fun _ => trivial, fun _ => rfl⟩
  | inf s => cases s <;> exact ⟨fun _ => trivial, fun _ => rfl⟩
  | fin x =>
    show finMem _ x ↔ _
    unfold floatValues
    by_cases hc : x.c = 0
    · rw [finMem_zero _ x hc]
      exact ⟨fun _ => Or.inl hc, fun _ _ => rfl⟩
    · -- at the scale `g = min x.exp E`: the two bounds say `|x| ≤ (2^p - 1)·2^(Q - g)`
      have hg : min x.exp E ≤ x.exp := Int.min_le_left ..
      have hgE : min x.exp E ≤ E := Int.min_le_right ..
      have hgQ : min x.exp E ≤ Q := Int.le_trans hgE hEQ
      rw [finMem_fin_bounds (sN := true) hc hg hgQ rfl rfl]
      have hbound : -((2 ^ p - 1 : Nat) : Int) * ((2 ^ (Q - min x.exp E).toNat : Nat) : Int) ≤ x.sc (min x.exp E) ∧
          x.sc (min x.exp E) ≤ ((2 ^ p - 1 : Nat) : Int) * ((2 ^ (Q - min x.exp E).toNat : Nat) : Int) ↔
            x.mag (min x.exp E) ≤ (2 ^ p - 1) * 2 ^ (Q - min x.exp E).toNat := by
        rw [← natAbs_sc, Int.neg_mul, ← Int.natCast_mul]
        omega
      rw [if_pos rfl, hbound]
      have hpos : 0 < 2 ^ p := Nat.pow_pos (by decide)
      constructor
      · rintro ⟨⟨m, e, hge, hm, hmp, hEe⟩, hle⟩
        right
        rw [natAbs_sc] at hm
        by_cases heQ : e ≤ Q
        · exact ⟨m, e, hmp p rfl, hEe E rfl, heQ, (denotes_iff_scale hg hge).2 hm⟩
        · -- the witness sits above the largest quantum: fold the excess into the significand
          rw [two_pow_split hgQ (by omega : Q ≤ e), ← Nat.mul_assoc] at hm
          rw [hm] at hle
          have := Nat.le_of_mul_le_mul_right hle (Nat.pow_pos (by decide))
          exact ⟨_, Q, by omega, hEQ, Int.le_refl _, (denotes_iff_scale hg hgQ).2 hm⟩
      · rintro (h | ⟨m, e, hmp, hEe, heQ, hd⟩)
        · exact absurd h hc
        · have hge : min x.exp E ≤ e := Int.le_trans hgE hEe
          have hm := (denotes_iff_scale hg hge).1 hd
          refine ⟨⟨m, e, hge, (natAbs_sc x _).trans hm, fun q hq => by cases hq; exact hmp,
            fun E' h => by cases h; exact hEe⟩, ?_⟩
          rw [hm, two_pow_split hge heQ, ← Nat.mul_assoc]
          exact Nat.mul_le_mul (Nat.le_trans (by omega : m ≤ 2 ^ p - 1) (Nat.le_mul_of_pos_right _ (Nat.pow_pos (by decide))))
            (Nat.le_refl _)

theorem uintFmt_wf (n : Nat) : (uintFmt n).WF :=
  ⟨Or.inr ⟨_, rfl, Or.inr rfl⟩, Or.inr ⟨_, rfl, Or.inl rfl⟩, by simp [uintFmt]⟩
theorem sintFmt_wf (n : Nat) : (sintFmt n).WF :=
  ⟨Or.inr ⟨_, rfl, Or.inr rfl⟩, Or.inr ⟨_, rfl, Or.inr rfl⟩, by simp [sintFmt]⟩
theorem ieeeFmt_wf (p : Nat) (hp : p ≠ 0) (E Q : Int) : (ieeeFmt p E Q).WF :=
  ⟨Or.inr ⟨_, rfl, Or.inr rfl⟩, Or.inr ⟨_, rfl, Or.inr rfl⟩, by simp [ieeeFmt]; exact hp⟩

theorem ladderFmt_wf (T : MachTy) (l : AbsFmt) (h : ladderFmt T = some l) : l.WF := by
  cases T <;> simp [ladderFmt] at h <;> subst h
  all_goals first | exact uintFmt_wf _ | exact sintFmt_wf _ | exact ieeeFmt_wf _ (by decide) _ _

theorem ladderFmt_exp (T : MachTy) (l : AbsFmt) (h : ladderFmt T = some l) : l.exp ≠ none := by
  cases T <;> simp [ladderFmt] at h <;> subst h <;> simp [uintFmt, sintFmt, ieeeFmt]

theorem ladderFmt_eq_none : ∀ {T : MachTy}, ladderFmt T = none → T = .bool
  | .bool, _ => rfl

theorem gamma_uint (n : Nat) (v : FV) : γ (uintFmt n) v ↔ intValues 0 ((2 ^ n - 1 : Nat) : Int) v :=
  gamma_int_iff (uintFmt n) (2 ^ n - 1) 0 false rfl (fun _ => rfl) v

theorem gamma_sint (n : Nat) (v : FV) : γ (sintFmt n) v ↔ intValues (-((2 ^ (n - 1) : Nat) : Int)) ((2 ^ (n - 1) - 1 : Nat) : Int) v :=
  gamma_int_iff (sintFmt n) (2 ^ (n - 1) - 1) (2 ^ (n - 1)) true rfl nofun v

theorem ty_fp (dbl : Bool) (rm : HwRM) : (NativeCtx.fp dbl rm).ty = some (fpTy dbl) := by
  cases dbl <;> cases rm <;> decide

theorem mem_sameSigsBy {ar : Nat} {nm : MachTy → String} {cs : List NativeCtx} {s : Sig} (h : s ∈ sameSigsBy ar nm cs) :
    ∃ t, s.outCtx.ty = some t ∧ s.inTys = List.replicate ar t := by
  unfold sameSigsBy at h
  rw [List.mem_filterMap] at h
  obtain ⟨c, _, hc⟩ := h
  cases ht : c.ty with
  | none => rw [ht] at hc; cases hc
  | some t =>
    rw [ht] at hc
    simp only [Option.map_some, Option.some.injEq] at hc
    subst hc
    exact ⟨t, ht, rfl⟩

theorem mem_sigs {nd : Node} {s : Sig} (h : s ∈ sigs nd) :
    ∃ t, s.outCtx.ty = some t ∧ s.inTys = List.replicate nd.arity t := by
  -- `sameSigs` is `sameSigsBy` with a constant spelling
  cases nd <;> simp only [sigs, List.mem_append] at h
  case abs => exact h.elim mem_sameSigsBy mem_sameSigsBy
  all_goals exact mem_sameSigsBy h

/-- what `_dispatch` returns: a signature of the node for the active context whose operand types are the storage
types themselves (phase 1) or the context's own type throughout, which every operand storage fits (phase 2) -/
theorem dispatch_some {nd : Node} {tys : List MachTy} {active : NativeCtx} {s : Sig}
    (h : dispatch nd tys active = some s) :
    s ∈ sigs nd ∧ s.outCtx = active ∧ (s.inTys = tys ∨ ∃ T, active.ty = some T ∧
      s.inTys = List.replicate tys.length T ∧ ∀ t ∈ tys, t = T ∨ scalarFitsIn t T = true) := by
  unfold dispatch at h
  split at h
  · next s1 h1 =>
    cases h
    have hm := List.find?_some h1
    simp only [Sig.matchesDirect, Bool.and_eq_true, beq_iff_eq] at hm
    exact ⟨List.mem_of_find?_eq_some h1, hm.1, .inl hm.2⟩
  · split at h
    · cases h
    · next T hT =>
      split at h
      · next s2 h2 =>
        split at h
        · next hall =>
          cases h
          have hm := List.find?_some h2
          simp only [Bool.and_eq_true, beq_iff_eq] at hm
          exact ⟨List.mem_of_find?_eq_some h2, hm.2, .inr ⟨T, hT, hm.1, fun t ht => by
            simpa using List.all_eq_true.1 hall t ht⟩⟩
        · cases h
      · cases h

theorem dispatch_fp_shape (nd : Node) (tys : List MachTy) (dbl : Bool) (rm : HwRM) (s : Sig)
    (h : dispatch nd tys (.fp dbl rm) = some s) :
    s.outCtx = .fp dbl rm ∧ s.inTys = List.replicate nd.arity (fpTy dbl) ∧ tys.length = nd.arity ∧
      ∀ t ∈ tys, t = fpTy dbl ∨ scalarFitsIn t (fpTy dbl) = true := by
  obtain ⟨hmem, hctx, hsh⟩ := dispatch_some h
  obtain ⟨t, ht, hin⟩ := mem_sigs hmem
  rw [hctx, ty_fp] at ht
  cases ht
  refine ⟨hctx, hin, ?_⟩
  rcases hsh with rfl | ⟨T, hT, hrep, hfit⟩
  · exact ⟨by rw [hin, List.length_replicate], fun t ht => .inl (List.eq_of_mem_replicate (hin ▸ ht))⟩
  · rw [ty_fp] at hT
    cases hT
    have hl := congrArg List.length (hin.symm.trans hrep)
    rw [List.length_replicate, List.length_replicate] at hl
    exact ⟨hl.symm, hfit⟩

theorem zipWith_cast_id (cs : CastSem) (T : MachTy) (args : List FV) (h : ∀ a ∈ args, values T a) :
    List.zipWith cs.cast (List.replicate args.length T) args = args := by
  induction args with
  | nil => rfl
  | cons a rest ih =>
    simp only [List.length_cons, List.replicate_succ, List.zipWith_cons_cons]
    rw [cs.exact T a (h a (List.mem_cons_self ..)), ih (fun b hb => h b (List.mem_cons_of_mem _ hb))]

theorem ValuesOf.length_eq {ts : List MachTy} {vs : List FV} (h : ValuesOf ts vs) : ts.length = vs.length := by
  induction h with
  | nil => rfl
  | cons _ _ ih => simp [ih]

theorem ValuesOf.mem {ts : List MachTy} {vs : List FV} (h : ValuesOf ts vs) (a : FV) (ha : a ∈ vs) :
    ∃ t, t ∈ ts ∧ values t a := by
  induction h with
  | nil => cases ha
  | cons hxy _ ih =>
    rcases List.mem_cons.1 ha with h | h
    · subst h; exact ⟨_, List.mem_cons_self .., hxy⟩
    · obtain ⟨t, ht, hv⟩ := ih h
      exact ⟨t, List.mem_cons_of_mem _ ht, hv⟩

end Fpy.C11
