/-
Property C05, value layer: the denotation `RF.val : Rat` of a `RealFloat`.  Order, sum, product and
`normalize` are carried over from the scaled-integer lemmas of `Proof/RFOrder` through
`val_sc : x.val = x.sc g · 2^g`; the digit operations (`split`, `bit`, `is_more_significant`, `int()`)
are proved on `Rat` directly.  Then the special-value arms of `Float` against the `ExtVal` tables.  Last, what one
call of `_round_at` can do (`RF.roundAtCore_outcome`), and from it: a rounding that lost nothing returns the
operand's value, up to the contexts with a core (`Ctx.roundAtCore_kept`).
-/
import Fpy.Proof.RFOrder
import Fpy.Spec.Denote
import Fpy.Proof.CtxCore
namespace Fpy
namespace RF

theorem val_eq_m (x : RF) : x.val = (x.m : Rat) * (2 : Rat) ^ x.exp := by
  unfold val m
  by_cases h : x.exp ≥ 0
  · simp only [h, if_true]
    obtain ⟨n, hn⟩ := Int.eq_ofNat_of_zero_le h
    rw [hn, Int.toNat_natCast, two_zpow_nat', Rat.intCast_mul]
  · simp only [h, if_false]
    have h' : x.exp = -((-x.exp).toNat : Int) := by omega
    generalize (-x.exp).toNat = n at h'
    rw [h', Rat.zpow_neg, two_zpow_nat, Rat.div_def]

theorem m_cast (x : RF) : (x.m : Rat) = sgn x.s * (x.c : Rat) := by
  unfold m sgn; cases x.s <;> simp [Rat.neg_mul, Rat.intCast_natCast]

theorem val_eq (x : RF) : x.val = sgn x.s * (x.c : Rat) * (2 : Rat) ^ x.exp := by
  rw [val_eq_m, m_cast]

theorem val_mk (s : Bool) (e : Int) (c : Nat) : (⟨s, e, c⟩ : RF).val = sgn s * (c : Rat) * (2 : Rat) ^ e :=
  val_eq _

theorem val_zero_c {x : RF} (h : x.c = 0) : x.val = 0 := by
  rw [val_eq, h]; simp

theorem val_ofSigned (k : Int) (e : Int) : (⟨k < 0, e, k.natAbs⟩ : RF).val = (k : Rat) * (2 : Rat) ^ e := by
  rw [val_eq_m]; congr 2; unfold m; simp only
  by_cases h : k < 0
  · simp [h]; omega
  · simp [h]; omega

theorem ofInt_val (i : Int) : (RF.ofInt i).val = (i : Rat) := by
  unfold RF.ofInt; rw [val_ofSigned]; simp

theorem val_sc (x : RF) (g : Int) (h : x.okAt g) : x.val = (x.sc g : Rat) * (2 : Rat) ^ g := by
  rcases h with h | h
  · rw [val_zero_c h, sc_zero x g h]; simp
  · have e : x.sc g = x.m * ((2 ^ (x.exp - g).toNat : Nat) : Int) := by
      unfold m sc; cases x.s <;> simp [Int.natCast_pow, Int.neg_mul]
    rw [e, val_eq_m, Rat.intCast_mul, Rat.mul_assoc]
    congr 1
    have : x.exp = ((x.exp - g).toNat : Int) + g := by omega
    generalize (x.exp - g).toNat = k at this
    rw [this, two_zpow_add, two_zpow_nat]
    simp

theorem sgn_not (s : Bool) : sgn (!s) = -sgn s := by cases s <;> simp [sgn, Rat.neg_neg]
theorem sgn_mul_self (s : Bool) : sgn s * sgn s = 1 := by cases s <;> simp [sgn, Rat.neg_mul, Rat.neg_neg]

theorem val_neg (x : RF) : x.neg.val = -x.val := by
  simp only [neg, val_eq, sgn_not, Rat.neg_mul]

theorem val_pos (x : RF) : x.pos.val = x.val := rfl

theorem natCast_nonneg' (c : Nat) : (0 : Rat) ≤ (c : Rat) := Rat.natCast_nonneg

theorem natCast_mul_zpow_nonneg (c : Nat) (e : Int) : (0 : Rat) ≤ (c : Rat) * (2 : Rat) ^ e :=
  Rat.mul_nonneg Rat.natCast_nonneg (Rat.le_of_lt (two_zpow_pos e))

theorem val_abs (x : RF) : x.abs.val = x.val.abs := by
  simp only [abs, val_eq]
  cases hs : x.s
  · simp only [sgn, Bool.false_eq_true, if_false, Rat.one_mul]
    rw [Rat.abs_of_nonneg (natCast_mul_zpow_nonneg _ _)]
  · simp only [sgn, if_true, Bool.false_eq_true, if_false, Rat.one_mul]
    rw [Rat.neg_mul, Rat.one_mul, Rat.neg_mul, Rat.abs_neg, Rat.abs_of_nonneg (natCast_mul_zpow_nonneg _ _)]

theorem abs_val_eq (x : RF) : x.val.abs = (x.c : Rat) * (2 : Rat) ^ x.exp := by
  rw [← val_abs, RF.abs, val_mk]; simp [sgn]

theorem val_add (x y : RF) : (x.add y).val = x.val + y.val := by
  have hx := okAt_min_left x y
  have hy := okAt_min_right x y
  obtain ⟨h, hs⟩ := add_sc x y _ hx hy
  rw [val_sc _ _ h, hs, val_sc x _ hx, val_sc y _ hy, Rat.intCast_add, Rat.add_mul]

theorem val_sub (x y : RF) : (x.sub y).val = x.val - y.val := by
  unfold RF.sub; rw [val_add, val_neg, Rat.sub_eq_add_neg]

theorem rat_mul4 (a b c d : Rat) : a * b * (c * d) = a * c * (b * d) := by
  rw [Rat.mul_assoc, ← Rat.mul_assoc b, Rat.mul_comm b c, Rat.mul_assoc c, ← Rat.mul_assoc]

theorem val_mul (x y : RF) : (x.mul y).val = x.val * y.val := by
  obtain ⟨h, hs⟩ := mul_sc x y _ _ (okAt_self x) (okAt_self y)
  rw [val_sc _ _ h, hs, val_sc x _ (okAt_self x), val_sc y _ (okAt_self y), Rat.intCast_mul, two_zpow_add,
    rat_mul4]

theorem two_zpow_mul (e : Int) (k : Nat) : (2 : Rat) ^ (e * k) = ((2 : Rat) ^ e) ^ k := by
  induction k with
  | zero => simp
  | succ n ih =>
    rw [Rat.pow_succ, ← ih, ← two_zpow_add]; congr 1
    rw [Int.natCast_succ, Int.mul_add, Int.mul_one]

theorem sgn_pow (s : Bool) (k : Nat) : sgn s ^ k = sgn (s && (k % 2 == 1)) := by
  induction k with
  | zero => cases s <;> rfl
  | succ n ih =>
    rw [Rat.pow_succ, ih]
    have h : (n + 1) % 2 = 1 ↔ ¬ n % 2 = 1 := by omega
    cases s
    · simp [sgn]
    · by_cases hn : n % 2 = 1 <;> simp [sgn, hn, h, Rat.neg_mul, Rat.neg_neg]

theorem val_pow (x : RF) (k : Nat) : (x.pow k).val = x.val ^ k := by
  unfold pow
  by_cases hk : k = 0
  · subst hk; simp [val_mk, sgn]
  · -- core has no `Rat.mul_pow`; the commutative-semiring lemma serves
    rw [if_neg hk, val_mk, val_eq x, Lean.Grind.CommSemiring.mul_pow, Lean.Grind.CommSemiring.mul_pow, sgn_pow,
      two_zpow_mul, Rat.natCast_pow]

theorem cmpRat_lt_iff (a b : Rat) : cmpRat a b = .lt ↔ a < b := by
  unfold cmpRat
  by_cases h1 : a < b
  · simp [h1]
  · by_cases h2 : b < a <;> simp [h1, h2]

theorem cmpRat_gt_iff (a b : Rat) : cmpRat a b = .gt ↔ b < a := by
  unfold cmpRat
  by_cases h1 : a < b
  · have : ¬ b < a := Rat.not_lt.mpr (Rat.le_of_lt h1)
    simp [h1, this]
  · by_cases h2 : b < a <;> simp [h1, h2]

theorem cmpRat_eq_iff (a b : Rat) : cmpRat a b = .eq ↔ a = b := by
  unfold cmpRat
  by_cases h1 : a < b
  · simp [h1]; exact Rat.ne_of_lt h1
  · by_cases h2 : b < a
    · simp [h1, h2]; exact Rat.ne_of_gt h2
    · simp [h1, h2]; exact Rat.le_antisymm (Rat.not_lt.mp h2) (Rat.not_lt.mp h1)

theorem intCast_mul_lt {X Y : Int} {p : Rat} (hp : 0 < p) : (X : Rat) * p < (Y : Rat) * p ↔ X < Y := by
  rw [Rat.mul_lt_mul_right hp, Rat.intCast_lt_intCast]

theorem cmpRat_scale (X Y : Int) (p : Rat) (hp : 0 < p) :
    cmpRat ((X : Rat) * p) ((Y : Rat) * p) = Ord.compare X Y := by
  unfold cmpRat
  simp only [intCast_mul_lt hp]
  rcases Int.lt_trichotomy X Y with h | h | h
  · rw [if_pos h, Int.compare_eq_lt.2 h]
  · subst h; simp
  · rw [if_neg (by omega), if_pos h, Int.compare_eq_gt.2 h]

theorem intCast_mul_inj {X Y : Int} {p : Rat} (hp : 0 < p) : (X : Rat) * p = (Y : Rat) * p ↔ X = Y := by
  rw [← cmpRat_eq_iff, cmpRat_scale X Y p hp]; exact Int.compare_eq_eq

theorem compare_cmpRat (x y : RF) : x.compare y = cmpRat x.val y.val := by
  rw [compare_min, val_sc x _ (okAt_min_left x y), val_sc y _ (okAt_min_right x y), cmpRat_scale _ _ _ (two_zpow_pos _)]

theorem val_mk_zero (s : Bool) (e : Int) : (⟨s, e, 0⟩ : RF).val = 0 := val_zero_c rfl

theorem natCast_shift (c k : Nat) (e : Int) :
    ((c * 2 ^ k : Nat) : Rat) * (2 : Rat) ^ e = (c : Rat) * (2 : Rat) ^ (e + k) := by
  rw [two_zpow_add, two_zpow_nat, Rat.natCast_mul, Rat.mul_assoc, Rat.mul_comm ((2 : Rat) ^ e)]

theorem val_shift (s : Bool) (e : Int) (c k : Nat) :
    (⟨s, e, c * 2 ^ k⟩ : RF).val = (⟨s, e + k, c⟩ : RF).val := by
  rw [val_mk, val_mk, Rat.mul_assoc, Rat.mul_assoc, natCast_shift]

theorem split_sum (x : RF) (n : Int) : (x.split n).1.val + (x.split n).2.val = x.val := by
  rcases split_cases x n with ⟨h0, hs⟩ | ⟨_, _, hs⟩ | ⟨_, hle, hs⟩ <;> rw [hs]
  · rw [val_mk_zero, val_mk_zero, val_zero_c h0]; exact Rat.add_zero _
  · rw [val_mk_zero]; exact Rat.add_zero _
  · have hn : n + 1 = x.exp + ((n + 1 - x.exp).toNat : Int) := by omega
    generalize (n + 1 - x.exp).toNat = k at hn
    simp only [hn]
    rw [← val_shift, val_mk, val_mk, val_eq x, ← Rat.add_mul, ← Rat.mul_add, ← Rat.natCast_add, Nat.mul_comm,
      Nat.div_add_mod]

theorem split_ranges (x : RF) (n : Int) :
    (x.split n).1.exp ≥ n + 1 ∧ ((x.split n).2.c = 0 ∨ (x.split n).2.e ≤ n) ∧
    (x.split n).1.s = x.s ∧ (x.split n).2.s = x.s := by
  rcases split_cases x n with ⟨_, hs⟩ | ⟨_, hlt, hs⟩ | ⟨_, hle, hs⟩ <;> rw [hs]
  · exact ⟨Int.le_refl _, Or.inl rfl, rfl, rfl⟩
  · exact ⟨hlt, Or.inl rfl, rfl, rfl⟩
  · refine ⟨Int.le_refl _, ?_, rfl, rfl⟩
    have hlt : x.c % 2 ^ (n + 1 - x.exp).toNat < 2 ^ (n + 1 - x.exp).toNat :=
      Nat.mod_lt _ (Nat.pow_pos (by decide))
    have := (bitLength_le_iff _ _).mpr hlt
    right; simp only [e, p]; omega

theorem low_digits_zero_iff (x : RF) (t : Int) :
    x.c % 2 ^ (t - x.exp).toNat = 0 ↔ ∃ k : Int, x.val = (k : Rat) * (2 : Rat) ^ t := by
  by_cases ht : t ≤ x.exp
  · have : (t - x.exp).toNat = 0 := by omega
    simp only [this, Nat.pow_zero, Nat.mod_one, true_iff]
    exact ⟨_, val_sc x t (.inr ht)⟩
  · have hd : t = x.exp + ((t - x.exp).toNat : Int) := by omega
    generalize (t - x.exp).toNat = d at hd
    subst hd
    constructor
    · intro h
      have hv := val_shift x.s x.exp (x.c / 2 ^ d) d
      rw [Nat.div_mul_cancel (Nat.dvd_of_mod_eq_zero h)] at hv
      exact ⟨_, hv.trans (val_eq_m _)⟩
    · rintro ⟨k, hk⟩
      rw [val_sc x _ (okAt_self x), two_zpow_add, two_zpow_nat, Rat.mul_comm ((2 : Rat) ^ x.exp), ← Rat.mul_assoc,
        ← Rat.intCast_natCast, ← Rat.intCast_mul, intCast_mul_inj (two_zpow_pos _)] at hk
      rw [← natAbs_sc_self x, hk, Int.natAbs_mul, Int.natAbs_natCast]
      exact Nat.mul_mod_left _ _

theorem isMoreSignificant_iff (x : RF) (n : Int) :
    x.isMoreSignificant n = true ↔ ∃ k : Int, x.val = (k : Rat) * (2 : Rat) ^ (n + 1) := by
  rw [isMoreSignificant_eq, ← low_digits_zero_iff]; simp

/-- `bit(n)` is the parity of `⌊|x| / 2^n⌋` -/
theorem bit_spec (x : RF) (n : Int) :
    ∃ k : Nat, (k : Rat) * (2 : Rat) ^ n ≤ x.val.abs ∧ x.val.abs < ((k + 1 : Nat) : Rat) * (2 : Rat) ^ n ∧
      x.bit n = (k % 2 == 1) := by
  rw [abs_val_eq]
  unfold bit
  by_cases hoff : n - x.exp < 0
  · -- the position is below the least significant digit: `|x| = (c·2^j)·2^n` with `j ≥ 1`
    have he : x.exp = n + ((x.exp - n).toNat : Int) := by omega
    have hj : 1 ≤ (x.exp - n).toNat := by omega
    generalize (x.exp - n).toNat = j at he hj
    rw [show (x.c : Rat) * (2 : Rat) ^ x.exp = ((x.c * 2 ^ j : Nat) : Rat) * (2 : Rat) ^ n by rw [he, natCast_shift]]
    refine ⟨x.c * 2 ^ j, Rat.le_refl, ?_, ?_⟩
    · exact Rat.mul_lt_mul_of_pos_right (Rat.natCast_lt_natCast.mpr (Nat.lt_succ_self _)) (two_zpow_pos n)
    · have : x.c * 2 ^ j % 2 = 0 := by
        rw [two_pow_pred j hj, Nat.mul_left_comm]; exact Nat.mul_mod_right 2 _
      simp [hoff, this]
  · -- `n = exp + d`: `k = c / 2^d`, and `k·2^n = (k·2^d)·2^exp`
    have hn : n = x.exp + ((n - x.exp).toNat : Int) := by omega
    have hoff' : ¬ (n - x.exp < 0) := hoff
    generalize hd : (n - x.exp).toNat = d at hn
    refine ⟨x.c / 2 ^ d, ?_, ?_, ?_⟩
    · rw [hn, ← natCast_shift]
      exact Rat.mul_le_mul_of_nonneg_right (Rat.natCast_le_natCast.mpr (Nat.div_mul_le_self _ _))
        (Rat.le_of_lt (two_zpow_pos _))
    · rw [hn, ← natCast_shift]
      apply Rat.mul_lt_mul_of_pos_right (Rat.natCast_lt_natCast.mpr _) (two_zpow_pos _)
      rw [Nat.mul_comm]; exact Nat.lt_mul_div_succ x.c (Nat.pow_pos (by decide))
    · simp only [hoff', decide_false, Bool.false_or]
      by_cases hp : n - x.exp ≥ (x.p : Int)
      · have hb : bitLength x.c ≤ d := by unfold RF.p at hp; omega
        have := (bitLength_le_iff _ _).mp hb
        simp [hp, Nat.div_eq_of_lt this]
      · simp only [hp, decide_false, Bool.false_eq_true, if_false, hd]
        rw [Nat.testBit_eq_decide_div_mod_eq]
        by_cases h1 : x.c / 2 ^ d % 2 = 1 <;> simp [h1]

theorem normalize_eq_go (x : RF) (p : Option Nat) (n : Option Int) :
    x.normalize p n = x.normGo (x.normTarget p n) :=
  match p, n with
  | none, none => normalize_none x
  | none, some n => normalize_fixed x n
  | some p, none => normalize_prec x p
  | some p, some n => normalize_pn x p n

theorem eqV_iff_val (x y : RF) : x.eqV y ↔ x.val = y.val := by
  rw [val_sc x _ (okAt_min_left x y), val_sc y _ (okAt_min_right x y), intCast_mul_inj (two_zpow_pos _)]; rfl

theorem normalize_val (x y : RF) (p : Option Nat) (n : Option Int) (h : x.normalize p n = some y) :
    y.val = x.val ∧ y.exp = x.normTarget p n ∧ y.s = x.s := by
  rw [normalize_eq_go] at h
  obtain ⟨he, hs, hv⟩ := normGo_spec x y _ h
  exact ⟨(eqV_iff_val y x).1 hv, he, hs⟩

theorem isInteger_iff (x : RF) : x.isInteger = true ↔ ∃ k : Int, x.val = (k : Rat) := by
  unfold isInteger
  rw [isMoreSignificant_iff]
  simp

theorem toInt_some (x : RF) (i : Int) (h : x.toInt? = some i) : (i : Rat) = x.val := by
  unfold toInt? at h
  by_cases hi : x.isInteger = true
  · simp only [hi, Bool.not_true, Bool.false_eq_true, if_false] at h
    by_cases h0 : x.c = 0
    · simp only [h0, if_true, Option.some.injEq] at h; subst h; rw [val_zero_c h0]; rfl
    · simp only [h0, if_false, Option.some.injEq] at h
      subst h
      by_cases he : x.exp ≥ 0
      · simp only [he, if_true]
        unfold val; simp only [he, if_true]
        congr 1
        cases x.s <;> simp [Int.neg_mul]
      · simp only [he, if_false]
        -- an integer with `exp < 0` has `-exp` low zero digits; they move into the exponent
        have hm : x.c % 2 ^ (-x.exp).toNat = 0 := by
          rw [← show ((-1 : Int) + 1 - x.exp) = -x.exp by omega]; exact isMoreSignificant_div hi
        have hv := val_shift x.s x.exp (x.c / 2 ^ (-x.exp).toNat) (-x.exp).toNat
        rw [Nat.div_mul_cancel (Nat.dvd_of_mod_eq_zero hm), show x.exp + ((-x.exp).toNat : Int) = 0 by omega] at hv
        rw [show x.val = _ from hv, val_eq_m]; simp [m]
  · simp [hi] at h

theorem toInt_none_iff (x : RF) : x.toInt? = none ↔ ¬ ∃ k : Int, x.val = (k : Rat) := by
  rw [← isInteger_iff]
  unfold toInt?
  by_cases hi : x.isInteger = true
  · simp only [hi, Bool.not_true, Bool.false_eq_true, if_false, not_true, iff_false]
    by_cases h0 : x.c = 0 <;> simp [h0]
  · simp [hi]

theorem toInt_eq_some_iff (x : RF) (i : Int) : x.toInt? = some i ↔ (i : Rat) = x.val := by
  refine ⟨toInt_some x i, fun h => ?_⟩
  cases hx : x.toInt? with
  | none => exact absurd ⟨i, h.symm⟩ ((toInt_none_iff x).mp hx)
  | some j => rw [← Rat.intCast_inj.mp ((toInt_some x j hx).trans h.symm)]

theorem val_eq_zero_iff (x : RF) : x.val = 0 ↔ x.c = 0 := by
  rw [← sc_eq_zero_iff x x.exp, ← intCast_mul_inj (two_zpow_pos x.exp), ← val_sc x _ (okAt_self x), Rat.intCast_zero,
    Rat.zero_mul]

theorem val_neg_iff (x : RF) : x.val < 0 ↔ (x.s = true ∧ x.c ≠ 0) := by
  rw [← sc_neg_iff x x.exp, ← intCast_mul_lt (two_zpow_pos x.exp), ← val_sc x _ (okAt_self x), Rat.intCast_zero,
    Rat.zero_mul]

theorem val_pos_iff (x : RF) : 0 < x.val ↔ (x.s = false ∧ x.c ≠ 0) := by
  rw [← sc_pos_iff x x.exp, ← intCast_mul_lt (two_zpow_pos x.exp), ← val_sc x _ (okAt_self x), Rat.intCast_zero,
    Rat.zero_mul]

end RF
open Fpy.Spec

namespace FV
open RF

theorem cmpQ_eq_cmpRat (a b : Rat) : ExtVal.cmpQ a b = cmpRat a b := rfl

theorem neg_den (a : FV) : a.neg.den = a.den.neg := by
  cases a with
  | fin x => simp [neg, den, ExtVal.neg, val_neg]
  | inf s => cases s <;> rfl
  | nan s => rfl

theorem add_den (a b : FV) : (a.add b).den = a.den.add b.den := by
  cases a with
  | nan s => cases b <;> rfl
  | inf s =>
    cases b with
    | nan t => cases s <;> rfl
    | inf t => cases s <;> cases t <;> rfl
    | fin y => cases s <;> rfl
  | fin x =>
    cases b with
    | nan t => rfl
    | inf t => cases t <;> rfl
    | fin y => simp [add, den, ExtVal.add, val_add]

theorem isZero_den (a : FV) : a.den.isZero = a.isZero := by
  cases a with
  | fin x =>
    simp only [den, ExtVal.isZero, isZero]
    by_cases h : x.c = 0
    · simp [h, (val_eq_zero_iff x).mpr h]
    · simp [h, mt (val_eq_zero_iff x).mp h]
  | inf s => cases s <;> rfl
  | nan s => rfl

theorem isNeg_den_fin (x : RF) (h : x.c ≠ 0) : (FV.fin x).den.isNeg = x.s := by
  simp only [den, ExtVal.isNeg]
  cases hs : x.s
  · have : ¬ x.val < 0 := by rw [val_neg_iff]; simp [hs]
    simp [this]
  · have : x.val < 0 := by rw [val_neg_iff]; simp [hs, h]
    simp [this]

theorem ofInf_mul_fin (s : Bool) (b : ExtVal) (q : Rat) (hb : b = .fin q) :
    (ExtVal.ofInf s).mul b = (if b.isZero then .nan else ExtVal.ofInf (s != b.isNeg)) ∧
    b.mul (ExtVal.ofInf s) = (if b.isZero then .nan else ExtVal.ofInf (b.isNeg != s)) := by
  subst hb; cases s <;> simp [ExtVal.mul, ExtVal.ofInf, ExtVal.isZero, ExtVal.isNeg]

theorem mul_den (a b : FV) : (a.mul b).den = a.den.mul b.den := by
  cases a with
  | nan s => cases b <;> rfl
  | inf s =>
    cases b with
    | nan t => cases s <;> rfl
    | inf t => cases s <;> cases t <;> rfl
    | fin y =>
      rw [show (FV.inf s).den = ExtVal.ofInf s from rfl, (ofInf_mul_fin s (FV.fin y).den y.val rfl).1, isZero_den]
      by_cases h : y.c = 0
      · simp [mul, isZero, h, den]
      · rw [isNeg_den_fin y h]; simp [mul, isZero, h, den, sign]
  | fin x =>
    cases b with
    | nan t => rfl
    | inf t =>
      rw [show (FV.inf t).den = ExtVal.ofInf t from rfl, (ofInf_mul_fin t (FV.fin x).den x.val rfl).2, isZero_den]
      by_cases h : x.c = 0
      · simp [mul, isZero, h, den]
      · rw [isNeg_den_fin x h]; simp [mul, isZero, h, den]
    | fin y => simp [mul, den, ExtVal.mul, val_mul]

theorem compare_den (a b : FV) : a.compare b = a.den.cmp b.den := by
  cases a with
  | nan s => cases b <;> rfl
  | inf s =>
    cases b with
    | nan t => cases s <;> rfl
    | inf t => cases s <;> cases t <;> rfl
    | fin y => cases s <;> rfl
  | fin x =>
    cases b with
    | nan t => rfl
    | inf t => cases t <;> rfl
    | fin y => simp [compare, den, ExtVal.cmp, compare_cmpRat, cmpQ_eq_cmpRat]

end FV

/-- **What one call of `_round_at` can do.**  No non-zero digit is dropped (fast path, or the part at and below `n`
is zero), or one is: under `exact` that is the `ValueError`.  `overflow` is never set (the contexts do that). -/
theorem RF.roundAtCore_outcome (x : RF) (p : Option Nat) (n : Int) (emin : Option Int) (rm : RM) (ex : Bool) :
    (∃ y fl, x.roundAtCore p n emin rm ex = .ok (y, fl) ∧ y.val = x.val ∧ y.s = x.s ∧
        fl.inexact = false ∧ fl.overflow = false) ∨
    ((x.split n).2.c ≠ 0 ∧
      if ex = true then x.roundAtCore p n emin rm ex = .error .valueError
      else ∃ y fl, x.roundAtCore p n emin rm ex = .ok (y, fl) ∧ fl.inexact = true ∧ fl.overflow = false) := by
  have hs := RF.split_sum x n
  have hr := (RF.split_ranges x n).2.2.1
  unfold RF.roundAtCore
  simp only []
  generalize (decide (x.exp > n) && _) = fast
  cases fast
  · simp only [Bool.false_eq_true, if_false]
    by_cases hl : (x.split n).2.c = 0
    · rw [if_pos hl]
      exact Or.inl ⟨_, _, rfl, by rw [← hs, RF.val_zero_c hl, Rat.add_zero], hr, rfl, rfl⟩
    · rw [if_neg hl]
      refine Or.inr ⟨hl, ?_⟩
      cases ex
      · exact ⟨_, _, rfl, rfl, rfl⟩
      · rfl
  · exact Or.inl ⟨_, _, rfl, rfl, rfl, rfl, rfl⟩

/-- nothing was lost (`hk`): either `exact=True` did not raise, or `inexact` is not flagged -/
theorem RF.roundAtCore_kept {x : RF} {p : Option Nat} {n : Int} {emin : Option Int} {rm : RM} {ex : Bool} {y : RF}
    {fl : Flags} (h : x.roundAtCore p n emin rm ex = .ok (y, fl)) (hk : ex = true ∨ fl.inexact = false) : y.val = x.val := by
  rcases RF.roundAtCore_outcome x p n emin rm ex with ⟨y', fl', h', hv, -⟩ | ⟨-, h'⟩
  · rw [h] at h'; cases h'; exact hv
  · cases ex
    · obtain ⟨y', fl', h', hi, -⟩ := h'
      rw [h] at h'; cases h'
      rcases hk with hk | hk
      · cases hk
      · rw [hk] at hi; cases hi
    · rw [if_pos rfl, h] at h'; cases h'

theorem RF.round_kept {x : RF} {maxP : Option Nat} {minN : Option Int} {rm : RM} {k? : Option Nat} {r : Nat}
    {ex : Bool} {y : RF} {fl : Flags} (h : x.round maxP minN rm k? r ex = .ok (y, fl)) (hk : ex = true ∨ fl.inexact = false) :
    y.val = x.val := by
  obtain ⟨p, n, emin, rm', h', -, -⟩ := RF.round_ok h
  exact RF.roundAtCore_kept h' hk

/-- **a rounding that lost nothing returns the operand's value** (`hk` as in `RF.roundAtCore_kept`) -/
theorem Ctx.roundAtCore_kept {C : Ctx} (hc : C.core.isSome = true) (x : RF) (n : Option Int) (ex : Bool) (r : Nat)
    {res : Res} (h : C.roundAtCore (.fin x) n ex r = .ok res) (hk : ex = true ∨ res.fl.inexact = false) :
    ∃ y : RF, res.v = .fin y ∧ y.val = x.val := by
  obtain ⟨⟨P, N, rm, k⟩, hcore⟩ := Option.isSome_iff_exists.1 hc
  by_cases hx : x.c = 0
  · rw [Ctx.roundAtCore_zero_at hc hx] at h
    cases h
    exact ⟨_, rfl, by rw [RF.val_zero_c rfl, RF.val_zero_c hx]⟩
  · -- out of range: `exact` raises, and whatever the overflow arm returns is flagged `inexact`
    obtain ⟨y, fl, hr, ⟨-, rfl⟩ | ⟨-, rfl, -, -, hi⟩⟩ := Ctx.roundAtCore_fin_inv hcore hx h
    · exact ⟨_, rfl, (RF.dropNegZero_val y _).trans (RF.round_kept hr hk)⟩
    · rcases hk with hk | hk
      · cases hk
      · rw [hi] at hk; cases hk

end Fpy
