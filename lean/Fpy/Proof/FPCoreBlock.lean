/-
C12 — what the block-level proofs need: the sorted name sets, `CtxLits` (decided by evaluation; `CtxLits.mono`, `lit0`), the tuple a `with`
block hands over and how `bundle` unpacks it (`conv_bundle`), and the two halves of what both inductions prove of a
statement (`Ran`, `Sim`).
-/
import Fpy.Proof.FPCoreSound
namespace Fpy.C12
open Fpy Fpy.Lang

theorem mem_insertName (x y : String) (l : List String) : y ∈ insertName x l ↔ y = x ∨ y ∈ l := by
  induction l with
  | nil => simp [insertName]
  | cons z zs ih =>
    unfold insertName
    split
    · next h =>
      have hxz : x = z := by simpa using h
      subst hxz
      simp
    · split
      · simp
      · simp only [List.mem_cons, ih]
        exact or_left_comm

theorem mem_sortNames (y : String) (l : List String) : y ∈ sortNames l ↔ y ∈ l := by
  induction l with
  | nil => simp [sortNames]
  | cons x xs ih =>
    have : sortNames (x :: xs) = insertName x (sortNames xs) := rfl
    rw [this, mem_insertName, ih]; simp

theorem length_insertName_le (x : String) (l : List String) : (insertName x l).length ≤ l.length + 1 := by
  induction l with
  | nil => simp [insertName]
  | cons y ys ih =>
    unfold insertName
    split
    · simp
    · split
      · simp
      · simp only [List.length_cons]; omega

theorem length_sortNames_le (l : List String) : (sortNames l).length ≤ l.length := by
  induction l with
  | nil => simp [sortNames]
  | cons x xs ih =>
    have : sortNames (x :: xs) = insertName x (sortNames xs) := rfl
    rw [this]
    have := length_insertName_le x (sortNames xs)
    simp only [List.length_cons]; omega

/-- the variables a `with` block hands to its continuation (the expression `compileS`, `mention` and `litsOK` write out) -/
def passed (body : List SStmt) (N : List String) : List String :=
  sortNames ((SStmt.defsL body).filter (N.contains ·))

theorem mem_passed (y : String) (body : List SStmt) (N : List String) :
    y ∈ passed body N ↔ y ∈ SStmt.defsL body ∧ y ∈ N := by
  unfold passed
  rw [mem_sortNames, List.mem_filter]
  simp

theorem isTmp_ne_tmp {x : String} (h : isTmp x = false) : x ≠ tmpName := by
  intro hx; subst hx; simp [isTmp] at h

theorem isTmp_ne_us {x : String} (h : isTmp x = false) : x ≠ "_" := by
  intro hx; subst hx; simp [isTmp] at h

def ctxLitOK (C : Ctx) (i : Nat) : Bool :=
  match opEval C .round [cvtReal (.q (i : Int) 1)] with
  | .ok r => (match asIndex (.num r) with | .ok j => j == i | .error _ => false)
  | .error _ => false

theorem ctxLitOK_iff (C : Ctx) (i : Nat) :
    ctxLitOK C i = true ↔ ∃ r, opEval C .round [cvtReal (.q (i : Int) 1)] = .ok r ∧ asIndex (.num r) = .ok i := by
  unfold ctxLitOK
  cases h1 : opEval C .round [cvtReal (.q (i : Int) 1)] with
  | error e => simp
  | ok r =>
    cases h2 : asIndex (.num r) with
    | error e => simp [h2]
    | ok j => simp [h2]

instance (C : Ctx) (n : Nat) : Decidable (CtxLits C n) :=
  decidable_of_iff (∀ i, i < n → ctxLitOK C i = true) (by simp only [CtxLits, ctxLitOK_iff])

theorem CtxLits.mono {C : Ctx} {n m : Nat} (h : CtxLits C n) (hm : m ≤ n) : CtxLits C m :=
  fun i hi => h i (by omega)

theorem lit0 {C : Ctx} (h : CtxLits C 1) : ∃ r0, opEval C .round [cvtReal (.q 0 1)] = .ok r0 := by
  obtain ⟨r, hr, _⟩ := h 0 (by omega)
  exact ⟨r, by simpa using hr⟩

theorem convL_vars (P : Props) (σb ρ' : Env) (D : List String) (hA : ∀ x, x ∈ D → ρ'.get? x = σb.get? x)
    (hb : Bound D σb) : ConvL ρ' P (D.map FExpr.var) (D.map (gv σb)) := by
  induction D with
  | nil => exact convL_nil
  | cons x xs ih =>
    obtain ⟨w, hw⟩ := hb x (by simp)
    have h1 : Conv ρ' P (.var x) (gv σb x) := by rw [gv_of_get hw]; exact conv_var ((hA x (by simp)).trans hw)
    exact convL_cons h1 (ih (fun y hy => hA y (by simp [hy])) (fun y hy => hb y (by simp [hy])))

theorem conv_ref1 {ρ : Env} {P : Props} {t : String} {ws : List Val} {ie : FExpr} {iv v : Val} {i : Nat}
    (ht : ρ.get? t = some (.tuple ws)) (hi : Conv ρ P ie iv) (hidx : asIndex iv = .ok i) (hwi : ws[i]? = some v) :
    Conv ρ P (.ref (.var t) [ie]) v :=
  Ev.step (fun n => eval_ref n ρ P _ _) (Ev.bind (conv_var ht) (Ev.bind (convL_cons hi convL_nil) (by
    simp only [List.mapM_cons, List.mapM_nil, hidx, bind, Except.bind, pure, Except.pure, refIdx, hwi]
    exact Ev.pure v)))

theorem refBinds_ev (P : Props) (C : Ctx) (hP : P.toCtx = .ok C) (ws : List Val) (g : String → Val) (ρ₀ : Env)
    (tot : Nat) (hL : CtxLits C tot) :
    ∀ (xs : List String) (i : Nat) (acc : Env),
      acc.get? tmpName = some (.tuple ws) → (∀ x, x ∈ xs → isTmp x = false) →
      i + xs.length ≤ tot → ws.drop i = xs.map g →
      Ev (fun n => evalBinds n true ρ₀ acc P (refBinds tmpName xs i)) (xs.foldl (fun a x => a.set x (g x)) acc) := by
  intro xs
  induction xs with
  | nil => intro i acc _ _ _ _; exact Ev.step (fun n => evalBinds_nil n true ρ₀ acc P) (Ev.pure _)
  | cons x xs ih =>
    intro i acc ht hx hi hd
    simp only [List.length_cons] at hi
    obtain ⟨r, hr, hidx⟩ := hL i (by omega)
    have hwi : ws[i]? = some (g x) := by rw [← List.head?_drop, hd]; rfl
    have hne : x ≠ tmpName := isTmp_ne_tmp (hx x (by simp))
    have ht' : (acc.set x (g x)).get? tmpName = some (.tuple ws) := by
      rw [get?_set_ne (fun h => hne h.symm)]; exact ht
    have hd' : ws.drop (i + 1) = xs.map g := by rw [← List.tail_drop, hd]; rfl
    exact Ev.step (fun n => evalBinds_cons n true ρ₀ acc P x _ (refBinds tmpName xs (i + 1)))
      (Ev.bind (conv_ref1 ht (conv_num hP hr) hidx hwi) (ih (i + 1) (acc.set x (g x)) ht' (fun y hy => hx y (by simp [hy])) (by omega) hd'))

theorem get?_foldl_set (g : String → Val) (xs : List String) (acc : Env) (y : String) :
    (xs.foldl (fun a x => a.set x (g x)) acc).get? y = if y ∈ xs then some (g y) else acc.get? y := by
  have e : xs.foldl (fun a x => a.set x (g x)) acc = Fpy.Xform.setAll acc (xs.map fun x => (x, g x)) := by
    unfold Fpy.Xform.setAll; rw [List.foldl_map]
  rw [e]
  rcases Fpy.Xform.get?_setAll (xs.map fun x => (x, g x)) acc y with ⟨hn, h⟩ | ⟨v, hv, h⟩
  · rw [h, if_neg fun hy => hn (List.mem_map.2 ⟨(y, g y), List.mem_map.2 ⟨y, hy, rfl⟩, rfl⟩)]
  · obtain ⟨x, hx, hxv⟩ := List.mem_map.1 hv
    cases hxv
    rw [h, if_pos hx]

theorem conv_bundle_many {ρ : Env} {P : Props} {C : Ctx} (hP : P.toCtx = .ok C) (D : List String) (inner K : FExpr)
    (g : String → Val) (w : Val)
    (hL : CtxLits C D.length) (hT : ∀ x, x ∈ D → isTmp x = false)
    (hi : Conv ρ P inner (.tuple (D.map g)))
    (hK : ∀ ρ', (∀ y, isTmp y = false → ρ'.get? y = if y ∈ D then some (g y) else ρ.get? y) → Conv ρ' P K w) :
    Conv ρ P (.let_ true ((tmpName, inner) :: refBinds tmpName D 0) K) w := by
  have hK2 : Conv (D.foldl (fun a x => a.set x (g x)) (ρ.set tmpName (.tuple (D.map g)))) P K w := by
    apply hK
    intro y hy
    rw [get?_foldl_set]
    by_cases h : y ∈ D
    · simp [h]
    · simp only [h, if_false]
      exact get?_set_ne (isTmp_ne_tmp hy)
  exact Ev.step (fun n => eval_let n ρ P true _ K)
    (Ev.bind (Ev.step (fun n => evalBinds_cons n true ρ ρ P tmpName inner _)
      (Ev.bind hi (refBinds_ev P C hP (D.map g) g ρ D.length hL D 0 _ (get?_set_self _ _ _) hT (by omega) (by simp)))) hK2)

/-- the value that stands for the variables `M` in the state `σ`; `r0`: the rounded `0` -/
def carried (M : List String) (σ : Env) (r0 : NV) : Val :=
  match M with
  | [] => .num r0
  | [x] => gv σ x
  | _ => .tuple (M.map (gv σ))

theorem conv_retOf {ρ' σb : Env} {P : Props} {C : Ctx} {D : List String} {r0 : NV} (hP : P.toCtx = .ok C)
    (hr0 : D = [] → opEval C .round [cvtReal (.q 0 1)] = .ok r0) (hA : ∀ x, x ∈ D → ρ'.get? x = σb.get? x)
    (hb : Bound D σb) : Conv ρ' P (retOf D) (carried D σb r0) := by
  match D with
  | [] => exact conv_num hP (hr0 rfl)
  | [x] =>
    obtain ⟨w, hw⟩ := hb x (by simp)
    simp only [retOf, carried, gv_of_get hw]
    exact conv_var ((hA x (by simp)).trans hw)
  | x :: x2 :: rest => exact conv_array (convL_vars P σb ρ' _ hA hb)

theorem conv_bundle {ρ σb : Env} {P : Props} {C : Ctx} (hP : P.toCtx = .ok C) {D : List String} {inner K : FExpr}
    {r0 : NV} {w : Val} (hL : CtxLits C D.length) (hT : ∀ x, x ∈ D → isTmp x = false)
    (hb : Bound D σb) (hi : Conv ρ P inner (carried D σb r0))
    (hK : ∀ ρ', (∀ y, isTmp y = false → ρ'.get? y = if y ∈ D then σb.get? y else ρ.get? y) → Conv ρ' P K w) :
    Conv ρ P (bundle D inner K) w := by
  match D with
  | [] =>
    refine conv_let1 hi (hK _ (fun y ht => ?_))
    simp only [List.not_mem_nil, if_false]
    exact get?_set_ne (isTmp_ne_us ht)
  | [x] =>
    obtain ⟨w0, hw0⟩ := hb x (by simp)
    simp only [carried, gv_of_get hw0] at hi
    refine conv_let1 hi (hK _ (fun y ht => ?_))
    rw [Fpy.Xform.Env.get?_set]
    by_cases hyx : y = x
    · subst hyx; simp [hw0]
    · simp [hyx]
  | x :: x2 :: rest =>
    refine conv_bundle_many hP _ inner K (gv σb) w hL hT hi (fun ρ' hρ' => hK ρ' (fun y ht => ?_))
    rw [hρ' y ht]
    by_cases hz : y ∈ x :: x2 :: rest
    · obtain ⟨w1, hw1⟩ := hb y hz
      simp only [hz, if_true, hw1, gv_of_get hw1]
    · simp only [hz, if_false]

/-- what the run of the source says by itself of the outcome of a statement or block compiled with continuation `K`:
a `return` ends what was compiled without continuation; a normal end has one, binds `G'`, and leaves the names
outside `asg` as they were. The names bound afterwards and the names that may have changed are two lists because
the model with loops tracks the former as `gamma G`, which contains what was bound before; the loop-free proof has no
`G` and passes the assigned names for both. -/
def Ran (K : Option FExpr) (G' asg : List String) (σ : Env) : Outcome → Prop
  | .ret _ => K = none
  | .normal σ' => (∃ k, K = some k) ∧ Bound G' σ' ∧ ∀ x, x ∉ asg → σ'.get? x = σ.get? x

theorem Ran.normal {k : FExpr} {G' asg : List String} {σ σ' : Env} (hb : Bound G' σ')
    (hkeep : ∀ x, x ∉ asg → σ'.get? x = σ.get? x) : Ran (some k) G' asg σ (.normal σ') :=
  ⟨⟨k, rfl⟩, hb, hkeep⟩

theorem Ran.of_none {G' asg : List String} {σ : Env} {o : Outcome} (h : Ran none G' asg σ o) : ∃ v, o = .ret v := by
  cases o with
  | ret v => exact ⟨v, rfl⟩
  | normal σ' => obtain ⟨⟨k, hk⟩, _⟩ := h; cases hk

theorem Ran.of_some {k : FExpr} {G' asg : List String} {σ : Env} {o : Outcome} (h : Ran (some k) G' asg σ o) :
    ∃ σ', o = .normal σ' ∧ Bound G' σ' ∧ ∀ x, x ∉ asg → σ'.get? x = σ.get? x := by
  cases o with
  | ret v => cases h
  | normal σ' => exact ⟨σ', rfl, h.2⟩

/-- the continuation `k` converges to `v` in every environment that stands (`R`) for the state `σ'` -/
def KHyp (R : Env → Env → Prop) (P : Props) (k : FExpr) (σ' : Env) (v : Val) : Prop := ∀ ρ', R ρ' σ' → Conv ρ' P k v

/-- the compiled expression `E` simulates the outcome in the environment `ρ`: it converges to the value returned, or
to whatever the continuation `k` converges to in the environments that stand for the final state. `R k ρ' σ'`: `ρ'`
stands for `σ'` where `k` looks. The loop-free proof takes `fun _ => Agree N`, with `N` the names the compiler was
told the continuation mentions; the proof with loops takes `fun k => AgreeL (fvF k)`. -/
def Sim (R : FExpr → Env → Env → Prop) (ρ : Env) (P : Props) (E : FExpr) (K : Option FExpr) : Outcome → Prop
  | .ret v => Conv ρ P E v
  | .normal σ' => ∀ k, K = some k → ∀ v, KHyp (R k) P k σ' v → Conv ρ P E v

theorem Sim.normal_intro {R : FExpr → Env → Env → Prop} {ρ σ' : Env} {P : Props} {E k : FExpr}
    (h : ∀ v, KHyp (R k) P k σ' v → Conv ρ P E v) : Sim R ρ P E (some k) (.normal σ') := by
  intro k' hk v hv
  cases hk
  exact h v hv

theorem Sim.normal_elim {R : FExpr → Env → Env → Prop} {ρ σ' : Env} {P : Props} {E k : FExpr} {v : Val}
    (h : Sim R ρ P E (some k) (.normal σ')) (hk : KHyp (R k) P k σ' v) : Conv ρ P E v :=
  h k rfl v hk

theorem Sim.nil {R : FExpr → Env → Env → Prop} {ρ σ : Env} {P : Props} {k : FExpr} (h : R k ρ σ) :
    Sim R ρ P k (some k) (.normal σ) :=
  Sim.normal_intro fun _ hv => hv ρ h

theorem Sim.seq {R R' : FExpr → Env → Env → Prop} {ρ σ1 : Env} {P : Props} {E K' : FExpr} {K : Option FExpr} {o : Outcome}
    (h1 : Sim R ρ P E (some K') (.normal σ1)) (h2 : ∀ ρ', R K' ρ' σ1 → Sim R' ρ' P K' K o) : Sim R' ρ P E K o := by
  cases o with
  | ret v => exact h1.normal_elim h2
  | normal σ' => exact fun k hk v hv => h1.normal_elim (fun ρ' hρ' => h2 ρ' hρ' k hk v hv)

end Fpy.C12
