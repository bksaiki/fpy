/-
Loop restructuring: a CPS loop-invariant simulation between the element loop `for p in it: body` and the indexed
code the unrolling passes emit for it.  `Jinv` is the joint invariant, `JinvK` adds what the emitted code relies on
besides (temporaries kept, a property of the heaps kept); an answer relation `Ans` (`AnsOK`) compares final results
(in the end results it is `FinRel`, here with what it says about errors and flat values).  One emitted copy
`p = t[i]; body` is one iteration (`copy_cont`); `k` copies in a row (`copies_cont`); an emitted
`for idx in <range cell>` with `k` copies per iteration is `k·q` iterations (`mainloop_cont`); `range_eval` and
`range_count` give the value of the emitted `range(a, b, k)`.
-/
import Fpy.Proof.LangParOn
import Fpy.Proof.LangSyntax
import Fpy.Proof.LangFrame
namespace Fpy.Xform
open Fpy Fpy.Lang

theorem bindPatω_relS {S : List String} {π : RMap} {D : List Nat} {μ1 μ2 : Heap} (hh : HR π D μ1 μ2) (p : Pat) {v w : Val}
    {σ1 σ2 : Env} (he : ERS S π D μ1.length σ1 σ2) (hv : VR π D μ1.length v w) :
    RelM (ERS S π D μ1.length) (bindPatω p v σ1) (bindPatω p w σ2) :=
  RelM.tends (tends_bindPat p v σ1) (tends_bindPat p w σ2) fun n =>
    LR.bindPat_rel .sym (onNR S π D) (w := ⟨(μ1, μ2), hh⟩) n n rfl v w σ1 σ2 (.refl p) he hv

theorem bindPatω_frame {p : Pat} {v : Val} {σ σ' : Env} (h : bindPatω p v σ = .ok σ') :
    ∀ z, z ∉ bvP p → σ'.get? z = σ.get? z :=
  (Post.tends (tends_bindPat p v σ) (fun n => bindPat_frame n p v σ)).out _ h

structure AnsOK (Ans : M (Outcome × Heap) → M (Outcome × Heap) → Prop) : Prop where
  err : ∀ e, Ans (.error e) (.error e)
  ret : ∀ (π : RMap) (D : List Nat) (m1 m2 : Heap) (v w : Val), HR π D m1 m2 → VR π D m1.length v w →
    Ans (.ok (.ret v, m1)) (.ok (.ret w, m2))

/-- sequencing under an answer relation: `k1`, `k2` are continuations that pass a `return` on unchanged (`hk1`, `hk2`: as
`thenB` does), so only the normal outcomes are left to compare (`hk`) -/
theorem ans_bind {Ans : M (Outcome × Heap) → M (Outcome × Heap) → Prop} (hA : AnsOK Ans)
    {S : List String} {π : RMap} {D : List Nat} {μ1 μ2 : Heap} {a b : M (Outcome × Heap)}
    (hab : RelM (QSS S π D μ1 μ2) a b) {k1 k2 : Outcome × Heap → M (Outcome × Heap)}
    (hk1 : ∀ v m, k1 (.ret v, m) = .ok (.ret v, m)) (hk2 : ∀ v m, k2 (.ret v, m) = .ok (.ret v, m))
    (hk : ∀ σ1' m1 σ2' m2, a = .ok (.normal σ1', m1) → b = .ok (.normal σ2', m2) →
      ERS S π D m1.length σ1' σ2' → HR π D m1 m2 → ExtP π D μ1 μ2 m1 m2 →
      Ans (k1 (.normal σ1', m1)) (k2 (.normal σ2', m2))) :
    Ans (a >>= k1) (b >>= k2) := by
  rcases hab.cases with ⟨e, rfl, rfl⟩ | ⟨⟨o1, m1⟩, ⟨o2, m2⟩, rfl, rfl, ho, hh, hx⟩
  · exact hA.err _
  · dsimp only at ho hh hx
    cases o1 <;> cases o2 <;> simp only [ORS] at ho
    · exact hk _ _ _ _ rfl rfl ho hh hx
    · show Ans (k1 _) (k2 _)
      rw [hk1, hk2]; exact hA.ret π D m1 m2 _ _ hh ho

/-- the final comparison: same error, or outcomes related under SOME renaming of references with some
cells of the left heap declared garbage.  Both are existential, so the heaps are compared on the cells the outcome
reaches only (through the returned value, or through the final values of `S`): after a `return` of a number it says
nothing about the heaps. -/
def FinRel (S : List String) (a b : M (Outcome × Heap)) : Prop :=
  match a, b with
  | .error e, .error e' => e = e'
  | .ok (o1, m1), .ok (o2, m2) => ∃ (π : RMap) (D : List Nat), HR π D m1 m2 ∧ ORS S π D m1.length o1 o2
  | _, _ => False

theorem FinRel.ansOK (S : List String) : AnsOK (FinRel S) :=
  ⟨fun _ => rfl, fun π D _ _ _ _ hh hv => ⟨π, D, hh, hv⟩⟩

theorem FinRel.of_qss {S : List String} {π : RMap} {D : List Nat} {μ1 μ2 : Heap} {a b : M (Outcome × Heap)}
    (h : RelM (QSS S π D μ1 μ2) a b) : FinRel S a b := by
  rcases h.cases with ⟨e, rfl, rfl⟩ | ⟨⟨o1, m1⟩, ⟨o2, m2⟩, rfl, rfl, q⟩
  · exact rfl
  · exact ⟨π, D, q.heap, q.out⟩

/-- `FinRel.ansOK` again: an error and a `return` pass through `>>= thenB Φ C rest` by computation -/
theorem FinRel.ansOK_then (Φ : Funs) (C : Ctx) (S : List String) (rest : List Stmt) :
    AnsOK (fun a b => FinRel S (a >>= thenB Φ C rest) b) :=
  ⟨(FinRel.ansOK S).err, (FinRel.ansOK S).ret⟩

theorem FinRel.relM {S : List String} {a b : M (Outcome × Heap)} (h : FinRel S a b) :
    RelM (fun x y => ∃ (π : RMap) (D : List Nat), HR π D x.2 y.2 ∧ ORS S π D x.2.length x.1 y.1) a b := by
  cases a <;> cases b <;> exact h

theorem FinRel.returns_flat {S : List String} {a b : M (Outcome × Heap)} (h : FinRel S a b) {v : Val} (hv : flatV v = true) :
    (∃ m, a = .ok (.ret v, m)) ↔ (∃ m, b = .ok (.ret v, m)) := by
  constructor
  · rintro ⟨m, rfl⟩
    cases b with
    | error e => exact absurd h id
    | ok y =>
      obtain ⟨o2, m2⟩ := y
      obtain ⟨π, D, _, ho⟩ := h
      cases o2 with
      | normal σ2 => exact absurd ho id
      | ret w => exact ⟨m2, by rw [VR.eq_of_flat ho (.inl hv)]⟩
  · rintro ⟨m, rfl⟩
    cases a with
    | error e => exact absurd h id
    | ok x =>
      obtain ⟨o1, m1⟩ := x
      obtain ⟨π, D, _, ho⟩ := h
      cases o1 with
      | normal σ1 => exact absurd ho id
      | ret w => exact ⟨m1, by rw [← VR.eq_of_flat ho (.inr hv)]⟩

theorem FinRel.fails {S : List String} {a b : M (Outcome × Heap)} (h : FinRel S a b) (e : Err) :
    a = .error e ↔ b = .error e := h.relM.err_iff e

/-- an index expression of the emitted code: a name or a literal holding the integer `i` -/
def AtomInt (Φ : Funs) (σ : Env) (e : Expr) (i : Int) : Prop :=
  ∃ w, (∀ μ C, evalEω Φ σ μ C e = .ok (.num w, μ)) ∧ nvInt? w = some i

/-- reads names of `V` only, so it holds `i` in every state that agrees with `σ0` on `V` (`CtlAtom.on`) -/
def CtlAtom (Φ : Funs) (V : List String) (σ0 : Env) (e : Expr) (i : Int) : Prop :=
  AtomInt Φ σ0 e i ∧ ∀ z ∈ readsE e, z ∈ V

theorem CtlAtom.num {Φ : Funs} {V : List String} {σ0 : Env} {w : NV} {i : Int} (hw : nvInt? w = some i) :
    CtlAtom Φ V σ0 (.num w) i :=
  ⟨⟨w, fun μ C => evalEω_num Φ σ0 μ C w, hw⟩, fun _ h => by simp [readsE] at h⟩

theorem CtlAtom.var {Φ : Funs} {V : List String} {σ0 : Env} {x : String} {w : NV} {i : Int} (hx : x ∈ V)
    (h : σ0.get? x = some (.num w)) (hw : nvInt? w = some i) : CtlAtom Φ V σ0 (.var x) i :=
  ⟨⟨w, fun μ C => by rw [evalEω_var, h], hw⟩, fun z hz => by rw [List.mem_singleton.1 (show z ∈ [x] from hz)]; exact hx⟩

theorem CtlAtom.on {Φ : Funs} {V : List String} {σ0 : Env} {e : Expr} {i : Int} (h : CtlAtom Φ V σ0 e i) {σ2 : Env}
    (hσ : ∀ z ∈ V, σ2.get? z = σ0.get? z) : AtomInt Φ σ2 e i := by
  obtain ⟨⟨w, h1, h2⟩, hV⟩ := h
  refine ⟨w, fun μ C => ?_, h2⟩
  rw [← h1 μ C]
  exact sim_evalEω (inv_idRel.2 fun z hz => hσ z (hV z hz)) (simE_idRel_of_reads (fun _ hz => hz)) μ C

/-- `p = t[ie]; body` — what the loop transformations emit for one element (`ie` a name or a literal) -/
def copyStmt (p : Pat) (t : String) (ie : Expr) (body : List Stmt) : List Stmt :=
  .assign p (.index (.var t) ie) :: body

/-- the joint invariant of the element loop (left) and the emitted indexed code (right): `S` the user variables,
`r` the iterated list, of `N` elements, `t` the temporary that holds (the right-hand name of) that list -/
structure Jinv (S : List String) (π : RMap) (D : List Nat) (r N : Nat) (t : String)
    (σ1 : Env) (μ1 : Heap) (σ2 : Env) (μ2 : Heap) : Prop where
  env : ERS S π D μ1.length σ1 σ2
  heap : HR π D μ1 μ2
  rlive : r ∉ D
  cell : ∃ l, μ1[r]? = some l ∧ l.length = N
  tbind : σ2.get? t = some (.list (π r))

theorem Jinv.rlt {S : List String} {π : RMap} {D : List Nat} {r N : Nat} {t : String}
    {σ1 : Env} {μ1 : Heap} {σ2 : Env} {μ2 : Heap} (J : Jinv S π D r N t σ1 μ1 σ2 μ2) : r < μ1.length := by
  obtain ⟨l, hl, _⟩ := J.cell
  exact lt_of_getElem?_eq_some hl

theorem Jinv.congr_right {S : List String} {π : RMap} {D : List Nat} {r N : Nat} {t : String}
    {σ1 : Env} {μ1 : Heap} {σ2 σ2' : Env} {μ2 : Heap} (J : Jinv S π D r N t σ1 μ1 σ2 μ2)
    (heq : ∀ z, (z ∈ S ∨ z = t) → σ2'.get? z = σ2.get? z) : Jinv S π D r N t σ1 μ1 σ2' μ2 :=
  ⟨J.env.congr_right (fun z hz => heq z (.inl hz)), J.heap, J.rlive, J.cell, by rw [heq t (.inr rfl)]; exact J.tbind⟩

theorem Jinv.init {S : List String} {r : Nat} {t : String} {σ σ2 : Env} {μ0 : Heap} {l : List Val} (hwfh : WFH μ0)
    (hwfe : WFE σ μ0) (hcl : μ0[r]? = some l) (hS : ∀ z ∈ S, σ2.get? z = σ.get? z) (ht : σ2.get? t = some (.list r)) :
    Jinv S (fun r => r) [] r l.length t σ μ0 σ2 μ0 :=
  ⟨(ERS.of_ER hwfe).congr_right hS, hwfh, by simp, ⟨l, hcl, rfl⟩, ht⟩

/-- `Jinv`, and what the emitted code relies on besides: the names `V` (index and control temporaries, which pattern
and body do not bind) hold what they hold in `σ0`, and `X` of the two heaps -/
structure JinvK (S : List String) (π : RMap) (D : List Nat) (r N : Nat) (t : String) (V : List String) (σ0 : Env)
    (X : Heap → Heap → Prop) (σ1 : Env) (μ1 : Heap) (σ2 : Env) (μ2 : Heap) : Prop
    extends Jinv S π D r N t σ1 μ1 σ2 μ2 where
  keep : ∀ z ∈ V, σ2.get? z = σ0.get? z
  extra : X μ1 μ2

theorem forLoopω_some (Φ : Funs) (σ : Env) (μ : Heap) (C : Ctx) (r i : Nat) (p : Pat) (b : List Stmt)
    {l : List Val} (hg : μ[r]? = some l) {x : Val} (hx : l[i]? = some x) :
    forLoopω Φ σ μ C r i p b =
      (do let σ' ← bindPatω p x σ
          let (o, μ') ← evalBω Φ σ' μ C b
          match o with
          | .ret v => .ok (.ret v, μ')
          | .normal σ'' => forLoopω Φ σ'' μ' C r (i + 1) p b) := by
  rw [forLoopω_eq, heapGet_ok_iff.2 hg]
  show (match l[i]? with | none => _ | some x => _) = _
  rw [hx]
  rfl

theorem forLoopω_end (Φ : Funs) (σ : Env) (μ : Heap) (C : Ctx) (g j : Nat) (p : Pat) (b : List Stmt)
    {RL : List Val} (hg : μ[g]? = some RL) (hv : RL[j]? = none) :
    forLoopω Φ σ μ C g j p b = .ok (.normal σ, μ) := by
  rw [forLoopω_eq, heapGet_ok_iff.2 hg]
  show (match RL[j]? with | none => _ | some x => _) = _
  rw [hv]

theorem forLoopω_bind_eq (Φ : Funs) (σ : Env) (μ : Heap) (C : Ctx) (g j : Nat) (x : String) (b : List Stmt)
    (k2 : Outcome × Heap → M (Outcome × Heap)) {RL : List Val} (hg : μ[g]? = some RL) {v : Val} (hv : RL[j]? = some v) :
    (forLoopω Φ σ μ C g j (.var x) b >>= k2) =
      evalBω Φ (σ.set x v) μ C b >>= fun r =>
        (match r with
          | (.ret w, m) => (Except.ok (.ret w, m) : M (Outcome × Heap))
          | (.normal σ', m) => forLoopω Φ σ' m C g (j + 1) (.var x) b) >>= k2 := by
  rw [forLoopω_some Φ σ μ C g j (.var x) b hg hv]
  show ((bindPatω (.var x) v σ >>= _) >>= k2) = _
  rw [bindPatω_var]
  show ((evalBω Φ (σ.set x v) μ C b >>= _) >>= k2) = _
  rw [bind_assoc]
  congr 1; funext r
  obtain ⟨o, m⟩ := r
  cases o <;> rfl

theorem copyStmt_eval (Φ : Funs) (C : Ctx) {σ : Env} {μ : Heap} {t : String} {g : Nat} {l : List Val} {ie : Expr} {w : NV}
    {i : Nat} {x : Val} (ht : σ.get? t = some (.list g)) (hl : μ[g]? = some l) (hie : evalEω Φ σ μ C ie = .ok (.num w, μ))
    (hw : nvInt? w = some (i : Int)) (hx : l[i]? = some x) (p : Pat) (body : List Stmt) :
    evalBω Φ σ μ C (copyStmt p t ie body) = bindPatω p x σ >>= fun σ' => evalBω Φ σ' μ C body := by
  show evalBω Φ σ μ C (.assign p (.index (.var t) ie) :: body) = _
  rw [evalBω_cons', evalSω_assign, evalEω_index, evalEω_var, ht]
  show (((evalEω Φ σ μ C ie >>= _) >>= _) >>= _) = _
  rw [hie]
  show (((asSeq μ (.list g) >>= _) >>= _) >>= _) = _
  rw [show asSeq μ (.list g) = .ok l from heapGet_ok_iff.2 hl]
  show (((asIndex (.num w) >>= _) >>= _) >>= _) = _
  rw [asIndex_int hw]
  show (((match l[i]? with | some v => _ | none => _) >>= _) >>= _) = _
  rw [hx]
  show ((bindPatω p x σ >>= _) >>= _) = _
  cases bindPatω p x σ <;> rfl

section
variable {Ans : M (Outcome × Heap) → M (Outcome × Heap) → Prop} (hA : AnsOK Ans)
  {Φ : Funs} {C : Ctx} {S : List String} {π : RMap} {D : List Nat} {r N : Nat} {t : String} {p : Pat}
  {body : List Stmt} (hreads : ∀ z ∈ readsB body, z ∈ S) (htp : t ∉ bvP p ++ bvB body)
  {V : List String} {σ0 : Env} {X : Heap → Heap → Prop} (hV : ∀ z ∈ V, z ∉ bvP p ++ bvB body)
  (hX : ∀ {μ1 μ2 m1 m2}, ExtP π D μ1 μ2 m1 m2 → X μ1 μ2 → X m1 m2)
include hA hreads htp hV hX

/-- one emitted copy `p = t[ie]; body` is iteration `i` of the element loop, in continuation-passing form: `k2` has
only to answer the loop continued at `i + 1`, from every pair of states that is again in `JinvK` (`hK`).  That the copy
keeps `V` and `X` is shown here once: pattern and body bind no name of `V`, and every step of two related runs
preserves `X` (`hX`; `GCell.step`). -/
theorem copy_cont {σ1 : Env} {μ1 : Heap} {σ2 : Env} {μ2 : Heap} (J : JinvK S π D r N t V σ0 X σ1 μ1 σ2 μ2)
    {ie : Expr} {i : Nat} (hie : CtlAtom Φ V σ0 ie (i : Int)) (hi : i < N)
    (k2 : Outcome × Heap → M (Outcome × Heap)) (hk2 : ∀ v m, k2 (.ret v, m) = .ok (.ret v, m))
    (hK : ∀ σ1' m1 σ2' m2, JinvK S π D r N t V σ0 X σ1' m1 σ2' m2 →
      Ans (forLoopω Φ σ1' m1 C r (i + 1) p body) (k2 (.normal σ2', m2))) :
    Ans (forLoopω Φ σ1 μ1 C r i p body) (evalBω Φ σ2 μ2 C (copyStmt p t ie body) >>= k2) := by
  obtain ⟨w, hw1, hw2⟩ := hie.on J.keep
  obtain ⟨l, hl, hlen⟩ := J.cell
  obtain ⟨l2, hl2, hll⟩ := J.heap.cells r l J.rlive hl
  have hi' : i < l.length := by omega
  rcases (VRs.get hll i).cases with ⟨e1, _⟩ | ⟨x1, x2, e1, e2, hx⟩
  · have := List.getElem?_eq_none_iff.1 e1; omega
  · rw [forLoopω_some Φ σ1 μ1 C r i p body hl e1, copyStmt_eval Φ C J.tbind hl2 (hw1 μ2 C) hw2 e2]
    rcases (bindPatω_relS J.heap p J.env hx).cases with ⟨e, b1, b2⟩ | ⟨σ1', σ2', b1, b2, hb⟩
    · rw [b1, b2]; exact hA.err _
    · rw [b1, b2]
      show Ans (evalBω Φ σ1' μ1 C body >>= _) (evalBω Φ σ2' μ2 C body >>= k2)
      refine ans_bind hA (par_on hreads (Nat.le_refl _) hb J.heap C) (fun _ _ => rfl) hk2 ?_
      intro σ1'' m1 σ2'' m2 ha hbb he hh hx'
      have hfr : ∀ z, z ∉ bvP p ++ bvB body → σ2''.get? z = σ2.get? z := by
        intro z hz
        rw [evalBω_frame Φ σ2' μ2 C body hbb z (not_mem_of_not_mem_append_right hz),
          bindPatω_frame b2 z (not_mem_of_not_mem_append_left hz)]
      refine hK σ1'' m1 σ2'' m2 ⟨⟨he, hh, J.rlive, ?_, ?_⟩, fun z hz => (hfr z (hV z hz)).trans (J.keep z hz), hX hx' J.extra⟩
      · obtain ⟨l', h1, h2⟩ := hx'.e1.len r l hl
        exact ⟨l', h1, h2.trans hlen⟩
      · rw [hfr t htp]; exact J.tbind

theorem copies_cont : ∀ (ies : List Expr) (i : Nat) {σ1 : Env} {μ1 : Heap} {σ2 : Env} {μ2 : Heap},
    JinvK S π D r N t V σ0 X σ1 μ1 σ2 μ2 →
    (∀ j (h : j < ies.length), CtlAtom Φ V σ0 ies[j] ((i + j : Nat) : Int)) → i + ies.length ≤ N →
    ∀ (k2 : Outcome × Heap → M (Outcome × Heap)), (∀ v m, k2 (.ret v, m) = .ok (.ret v, m)) →
    (∀ σ1' m1 σ2' m2, JinvK S π D r N t V σ0 X σ1' m1 σ2' m2 →
      Ans (forLoopω Φ σ1' m1 C r (i + ies.length) p body) (k2 (.normal σ2', m2))) →
    Ans (forLoopω Φ σ1 μ1 C r i p body) (evalBω Φ σ2 μ2 C (ies.flatMap (fun ie => copyStmt p t ie body)) >>= k2) := by
  intro ies
  induction ies with
  | nil => intro i σ1 μ1 σ2 μ2 J _ _ k2 _ hK; rw [List.flatMap_nil, evalBω_nil, ok_bind]; exact hK σ1 μ1 σ2 μ2 J
  | cons ie ies ih =>
    intro i σ1 μ1 σ2 μ2 J hat hle k2 hk2 hK
    rw [List.length_cons] at hle
    rw [List.flatMap_cons, evalBω_append, bind_assoc]
    refine copy_cont hA hreads htp hV hX J (hat 0 (Nat.zero_lt_succ _)) (by omega) _
      (fun v m => by show (thenB Φ C _ (.ret v, m) >>= k2) = _; rw [thenB_ret, ok_bind, hk2]) fun σ1' m1 σ2' m2 J' => ?_
    refine ih (i + 1) J' (fun j hj => ?_) (by omega) k2 hk2 ?_
    · rw [show i + 1 + j = i + (j + 1) by omega]; exact hat (j + 1) (Nat.succ_lt_succ hj)
    · rw [show i + 1 + ies.length = i + (ie :: ies).length by rw [List.length_cons]; omega]; exact hK

end

/-- what the emitted control code needs of the context it runs under (`fp.INTEGER`): sums, differences
and remainders of integers are exact.  (The values are whatever representation `opEval` returns; only
their integer reading `nvInt?` is used — by `range`, by subscripts.)  `intArith_INTEGER` (IntCtx) proves it of
`fp.INTEGER`. -/
structure IntArith (CI : Ctx) : Prop where
  add : ∀ x y a b, nvInt? x = some a → nvInt? y = some b →
    ∃ w, opEval CI .add [cvtReal x, cvtReal y] = .ok w ∧ nvInt? w = some (a + b)
  sub : ∀ x y a b, nvInt? x = some a → nvInt? y = some b →
    ∃ w, opEval CI .sub [cvtReal x, cvtReal y] = .ok w ∧ nvInt? w = some (a - b)
  fmod : ∀ x y (a b : Nat), nvInt? x = some (a : Int) → nvInt? y = some (b : Int) → 0 < b →
    ∃ w, opEval CI .fmod [cvtReal x, cvtReal y] = .ok w ∧ nvInt? w = some ((a % b : Nat) : Int)

/-- `o = idx + z` for each offset name `o` and literal `z`: the index computations at the head of the main loop's body -/
def offsetDefs (idx : String) : List String → List NV → List Stmt
  | o :: os, z :: zs => .assign (.var o) (.op .add [.var idx, .num z]) :: offsetDefs idx os zs
  | _, _ => []

theorem offsets_eval (Φ : Funs) {CI : Ctx} (IA : IntArith CI) (idx : String) (μ : Heap) {w0 : NV} {i : Nat}
    (hw0 : nvInt? w0 = some (i : Int)) :
    ∀ (offs : List String) (lits : List NV) (c : Nat → Nat) (σ : Env), σ.get? idx = some (.num w0) → idx ∉ offs → offs.Nodup →
      offs.length = lits.length → (∀ j (h : j < lits.length), nvInt? lits[j] = some ((c j : Nat) : Int)) →
      ∃ σ', evalBω Φ σ μ CI (offsetDefs idx offs lits) = .ok (.normal σ', μ) ∧
        (∀ z, z ∉ offs → σ'.get? z = σ.get? z) ∧
        (∀ j (h : j < offs.length), ∃ w, σ'.get? offs[j] = some (.num w) ∧ nvInt? w = some ((i + c j : Nat) : Int)) := by
  intro offs
  induction offs with
  | nil =>
    intro lits c σ _ _ _ _ _
    refine ⟨σ, ?_, fun _ _ => rfl, fun j h => absurd h (Nat.not_lt_zero j)⟩
    cases lits <;> simp only [offsetDefs] <;> exact evalBω_nil Φ σ μ CI
  | cons o os ih =>
    intro lits c σ hidx hni hnd hlen hl
    cases lits with
    | nil => cases hlen
    | cons z zs =>
      have hoi : o ≠ idx := fun e => hni (e ▸ List.mem_cons_self)
      obtain ⟨w, hop, hw⟩ := IA.add w0 z i (c 0) hw0 (hl 0 (Nat.zero_lt_succ _))
      have he : evalEω Φ σ μ CI (.op .add [.var idx, .num z]) = .ok (.num w, μ) := by
        rw [evalEω_binop Φ σ μ CI .add (by rw [evalEω_var, hidx]) (evalEω_num Φ σ μ CI z), hop]; rfl
      -- the tail of the lists, with `c` shifted by one: `(z :: zs)[j + 1]` is `zs[j]` by computation
      obtain ⟨σ', h1, h2, h3⟩ := ih zs (fun j => c (j + 1)) (σ.set o (.num w)) ((Env.get?_set_ne _ _ hoi).trans hidx)
        (fun h => hni (List.mem_cons_of_mem _ h)) (List.nodup_cons.1 hnd).2 (Nat.succ.inj hlen)
        (fun j h => hl (j + 1) (Nat.succ_lt_succ h))
      refine ⟨σ', ?_, fun x hx => ?_, fun j hj => ?_⟩
      · simp only [offsetDefs]
        rw [evalBω_assign_var, he]
        exact h1
      · rw [h2 x (fun h => hx (List.mem_cons_of_mem _ h)),
          Env.get?_set_ne _ _ fun (e : o = x) => hx (e ▸ List.mem_cons_self)]
      · cases j with
        | zero =>
          exact ⟨w, by rw [List.getElem_cons_zero, h2 o (List.nodup_cons.1 hnd).1, Env.get?_set_self], by rw [hw, Int.natCast_add]⟩
        | succ j => exact h3 j (Nat.lt_of_succ_lt_succ hj)

/-- the cell `g` of the right heap holds the list `RL` and no live left reference maps to it
(it was allocated by the emitted code only) -/
structure GCell (π : RMap) (D : List Nat) (g : Nat) (RL : List Val) (μ1 μ2 : Heap) : Prop where
  cell : μ2[g]? = some RL
  free : ∀ r, r ∉ D → r < μ1.length → π r ≠ g

theorem GCell.step {π : RMap} {D : List Nat} {g : Nat} {RL : List Val} {μ1 μ2 m1 m2 : Heap}
    (hg : GCell π D g RL μ1 μ2) (hx : ExtP π D μ1 μ2 m1 m2) : GCell π D g RL m1 m2 := by
  have hlt : g < μ2.length := lt_of_getElem?_eq_some hg.cell
  refine ⟨by rw [hx.keep g hlt hg.free]; exact hg.cell, fun r hrd hr => ?_⟩
  rcases Nat.lt_or_ge r μ1.length with h | h
  · exact hg.free r hrd h
  · exact hx.fresh_ne h hlt

/-- the body of the main loop: the offsets under the integer context, then one copy per index -/
def mainBody (CI : Ctx) (p : Pat) (t idx : String) (offs : List String) (lits : List NV) (body : List Stmt) : List Stmt :=
  (match offs with
    | [] => []
    | _ :: _ => [.with (.ctxLit CI) none (offsetDefs idx offs lits)]) ++
  ((idx :: offs).map Expr.var).flatMap (fun ie => copyStmt p t ie body)

theorem mainBody_eval (Φ : Funs) {CI : Ctx} (IA : IntArith CI) (C : Ctx) (p : Pat) (t idx : String) (body : List Stmt)
    (μ : Heap) {w0 : NV} {i : Nat} (hw0 : nvInt? w0 = some (i : Int))
    (offs : List String) (lits : List NV) (σ : Env) (hidx : σ.get? idx = some (.num w0)) (hni : idx ∉ offs)
    (hnd : offs.Nodup) (hlen : offs.length = lits.length)
    (hl : ∀ j (h : j < lits.length), nvInt? lits[j] = some ((1 + j : Nat) : Int)) :
    ∃ σb, evalBω Φ σ μ C (mainBody CI p t idx offs lits body) =
        evalBω Φ σb μ C (((idx :: offs).map Expr.var).flatMap (fun ie => copyStmt p t ie body)) ∧
      (∀ z, z ∉ offs → σb.get? z = σ.get? z) ∧
      (∀ j (h : j < offs.length), ∃ w, σb.get? offs[j] = some (.num w) ∧ nvInt? w = some ((i + (1 + j) : Nat) : Int)) := by
  cases offs with
  | nil =>
    refine ⟨σ, ?_, fun _ _ => rfl, fun j h => absurd h (by simp)⟩
    simp only [mainBody, List.nil_append]
  | cons o os =>
    obtain ⟨σ', h1, h2, h3⟩ := offsets_eval Φ IA idx μ hw0 (o :: os) lits (1 + ·) σ hidx hni hnd hlen hl
    refine ⟨σ', ?_, h2, h3⟩
    simp only [mainBody]
    rw [evalBω_append, evalBω_single, with_ctx_wrap, h1]
    rfl

/-- the emitted main loop over the `range` cell `g` (which holds `base, base + k, …`, `q` entries), from its position
`j`, is the element loop from index `base + k·j`.  Induction on the number `c` of iterations still to go, hence
`∀ c j, j + c = q`; one iteration is `mainBody_eval` (the offsets) then `copies_cont`, which runs with the index names
added to `V` at the values the offsets gave them. -/
theorem mainloop_cont {Ans : M (Outcome × Heap) → M (Outcome × Heap) → Prop} (hA : AnsOK Ans)
    {Φ : Funs} {C : Ctx} {S : List String} {π : RMap} {D : List Nat} {r N : Nat} {t : String} {p : Pat}
    {body : List Stmt} (hreads : ∀ z ∈ readsB body, z ∈ S) (htp : t ∉ bvP p ++ bvB body)
    {V : List String} {σ0 : Env} (hV : ∀ z ∈ V, z ∉ bvP p ++ bvB body)
    {CI : Ctx} (IA : IntArith CI) {idx : String} {offs : List String} {lits : List NV} (base k q : Nat)
    (hk : offs.length + 1 = k) (hlits : offs.length = lits.length)
    (hl : ∀ j (h : j < lits.length), nvInt? lits[j] = some ((1 + j : Nat) : Int))
    (hnd : (idx :: offs).Nodup) (hfreshS : ∀ z ∈ idx :: offs, z ∉ S ∧ z ≠ t)
    (hfreshB : ∀ z ∈ idx :: offs, z ∉ bvP p ++ bvB body) (hVI : ∀ z ∈ V, z ∉ idx :: offs)
    {g : Nat} {RL : List Val} (hRLlen : RL.length = q)
    (hRL : ∀ j, j < q → RL[j]? = some (intVal ((base + k * j : Nat) : Int)))
    (hN : base + k * q ≤ N)
    (k2 : Outcome × Heap → M (Outcome × Heap)) (hk2 : ∀ v m, k2 (.ret v, m) = .ok (.ret v, m))
    (hK : ∀ σ1' m1 σ2' m2, JinvK S π D r N t V σ0 (GCell π D g RL) σ1' m1 σ2' m2 →
        Ans (forLoopω Φ σ1' m1 C r (base + k * q) p body) (k2 (.normal σ2', m2))) :
    ∀ (c j : Nat), j + c = q → ∀ {σ1 : Env} {μ1 : Heap} {σ2 : Env} {μ2 : Heap}, JinvK S π D r N t V σ0 (GCell π D g RL) σ1 μ1 σ2 μ2 →
      Ans (forLoopω Φ σ1 μ1 C r (base + k * j) p body)
        (forLoopω Φ σ2 μ2 C g j (.var idx) (mainBody CI p t idx offs lits body) >>= k2) := by
  intro c
  induction c with
  | zero =>
    intro j hj σ1 μ1 σ2 μ2 J
    have G := J.extra
    obtain rfl : j = q := by omega
    rw [forLoopω_end Φ σ2 μ2 C g j _ _ G.cell (List.getElem?_eq_none (by omega)), ok_bind]
    exact hK σ1 μ1 σ2 μ2 J
  | succ c ih =>
    intro j hj σ1 μ1 σ2 μ2 J
    have G := J.extra
    have hjq : j < q := by omega
    obtain ⟨w0, hv, hw0⟩ := nvInt_intVal ((base + k * j : Nat) : Int)
    rw [forLoopω_bind_eq Φ σ2 μ2 C g j idx _ k2 G.cell (hRL j hjq), hv]
    have hidx := Env.get?_set_self σ2 idx (.num w0)
    obtain ⟨σb, hmb, hb1, hb2⟩ := mainBody_eval Φ IA C p t idx body μ2 hw0 offs lits _ hidx
      (List.nodup_cons.1 hnd).1 (List.nodup_cons.1 hnd).2 hlits hl
    rw [hmb]
    have hσb : ∀ z, z ∉ idx :: offs → σb.get? z = σ2.get? z := fun z hz => by
      rw [hb1 z (fun h => hz (List.mem_cons_of_mem _ h)), Env.get?_set_ne _ _ fun (e : idx = z) => hz (e ▸ List.mem_cons_self)]
    -- within one iteration the index names are kept as well, at the values the offsets gave them
    have Jb : JinvK S π D r N t ((idx :: offs) ++ V) σb (GCell π D g RL) σ1 μ1 σb μ2 :=
      ⟨J.toJinv.congr_right fun z hz => hσb z fun h => hz.elim (hfreshS z h).1 (hfreshS z h).2, fun _ _ => rfl, J.extra⟩
    have hkk : ((idx :: offs).map Expr.var).length = k := by simpa using hk
    refine copies_cont hA hreads htp
      (fun z hz => (List.mem_append.1 hz).elim (hfreshB z) (hV z)) (fun hx h => h.step hx)
      ((idx :: offs).map Expr.var) (base + k * j) Jb ?_ (by
        rw [hkk]
        have h1 : k * (j + 1) ≤ k * q := Nat.mul_le_mul_left _ hjq
        rw [Nat.mul_succ] at h1
        omega) _ (fun v m => by show ((Except.ok (.ret v, m) : M (Outcome × Heap)) >>= k2) = _; rw [ok_bind, hk2]) ?_
    · intro j' hj'
      rw [List.getElem_map]
      cases j' with
      | zero =>
        exact CtlAtom.var (List.mem_append_left _ List.mem_cons_self)
          (by rw [List.getElem_cons_zero, hb1 idx (List.nodup_cons.1 hnd).1]; exact hidx) hw0
      | succ j' =>
        obtain ⟨w, h1, h2⟩ := hb2 j' (by simpa using hj')
        exact CtlAtom.var (List.mem_append_left _ (List.getElem_mem _)) (by simpa using h1) (by rw [h2]; congr 1; omega)
    · intro σ1' m1 σ2' m2 J'
      show Ans _ (forLoopω Φ σ2' m2 C g (j + 1) (.var idx) _ >>= k2)
      rw [show base + k * j + ((idx :: offs).map Expr.var).length = base + k * (j + 1) by rw [hkk, Nat.mul_succ]; omega]
      exact ih (j + 1) (by omega) ⟨J'.toJinv,
        fun z hz => (J'.keep z (List.mem_append_right _ hz)).trans ((hσb z (hVI z hz)).trans (J.keep z hz)), J'.extra⟩

/-- the length `evalE` computes for `range(base, base + k·q, k)` (`evalEω_range`, positive step) is `q` -/
theorem range_count (base k q : Nat) (hk : 0 < k) :
    ((((base + k * q : Nat) : Int) - (base : Int) + (k : Int) - 1) / (k : Int)).toNat = q := by
  have h1 : (((base + k * q : Nat) : Int) - (base : Int) + (k : Int) - 1) = ((k * q + (k - 1) : Nat) : Int) := by
    omega
  rw [h1]
  have h2 : ((k * q + (k - 1) : Nat) : Int) / (k : Int) = (((k * q + (k - 1)) / k : Nat) : Int) :=
    (Int.natCast_ediv _ _).symm
  rw [h2, Int.toNat_natCast, Nat.mul_add_div hk, Nat.div_eq_of_lt (by omega)]
  rfl

theorem range_eval {Φ : Funs} {σ : Env} {ea eb est : Expr} {a b st : Int} (ha : AtomInt Φ σ ea a) (hb : AtomInt Φ σ eb b)
    (hst : AtomInt Φ σ est st) (hpos : 0 < st) (μ : Heap) (C : Ctx) :
    evalEω Φ σ μ C (.range [ea, eb, est]) =
      .ok (.list μ.length, μ ++ [(List.range ((b - a + st - 1) / st).toNat).map (fun (i : Nat) => intVal (a + st * (i : Int)))]) := by
  obtain ⟨wa, ha1, ha2⟩ := ha
  obtain ⟨wb, hb1, hb2⟩ := hb
  obtain ⟨ws, hs1, hs2⟩ := hst
  rw [evalEω_range, evalEsω_cons_pure Φ σ μ C (ha1 μ C), evalEsω_cons_pure Φ σ μ C (hb1 μ C),
    evalEsω_cons_pure Φ σ μ C (hs1 μ C), evalEsω_nil]
  show ((List.mapM _ [Val.num wa, Val.num wb, Val.num ws] >>= _) : M (Val × Heap)) = _
  simp only [List.mapM_cons, List.mapM_nil, asNum, bind, Except.bind, pure, Except.pure, ha2, hb2, hs2]
  rw [if_neg (by omega), if_pos hpos]
  rfl

end Fpy.Xform
