/-
Fast2Sum (Dekker) and the FMA-based 2Mul on the integer model.

All quantities live on one grid (the smaller of the two operand exponents, resp. the sum of the two), so the
operands, their sum or product, the rounded result and the error terms are integers.  For Fast2Sum `N` is "round to
nearest with `p` digits" on such integers, known only through two properties (`fix`, `near`) that
`Spec.roundQuot` has for both nearest modes (proved below for `rndI`); 2Mul holds for `rndI` in EVERY mode.
-/
import Fpy.Proof.RFOrder
namespace Fpy.C20
open Fpy Fpy.Spec

theorem mul_pow_mod (Q k e : Nat) (h : e ≤ k) : (Q * 2 ^ k) % 2 ^ e = 0 := by
  obtain ⟨j, rfl⟩ : ∃ j, k = e + j := ⟨k - e, by omega⟩
  rw [Nat.pow_add, Nat.mul_left_comm]
  exact Nat.mul_mod_right _ _

theorem binade_of_ge (p c : Nat) (h : ¬ c < 2 ^ p) :
    ∃ k, 1 ≤ k ∧ bitLength c = p + k ∧ 2 ^ p * 2 ^ k ≤ 2 * c ∧ c < 2 ^ p * 2 ^ k := by
  have hP : 0 < 2 ^ p := Nat.pow_pos (by decide)
  have hL : p < bitLength c := by have := bitLength_le_iff c p; omega
  obtain ⟨k, hk⟩ : ∃ k, bitLength c = p + k := ⟨bitLength c - p, by omega⟩
  obtain ⟨h1, h2⟩ := (bitLength_eq_iff c (p + k) (by omega)).1 hk
  have e := two_pow_pred (p + k) (by omega)
  rw [Nat.pow_add] at e h2
  exact ⟨k, by omega, hk, by omega, h2⟩

theorem even_mul_pow (x : Int) (j : Nat) (hj : 1 ≤ j) : ∃ m : Int, x * ((2 ^ j : Nat) : Int) = 2 * m :=
  ⟨x * ((2 ^ (j - 1) : Nat) : Int), by rw [two_pow_pred j hj, Int.natCast_mul, Int.mul_left_comm]; rfl⟩

theorem sub_mul_le (G : Nat) (B x : Int) (h : 2 * (B - (G : Int) * x).natAbs ≤ G) :
    (B - (G : Int) * x).natAbs ≤ B.natAbs := by
  by_cases hx : x = 0
  · subst hx; simp
  · -- `|G x| ≥ G`, and `|G x| ≤ |B| + |B - G x|`
    have h1 : G * 1 ≤ G * x.natAbs := Nat.mul_le_mul_left G (Int.natAbs_pos.2 hx)
    have h2 := Int.natAbs_sub_le B (B - (G : Int) * x)
    rw [Int.sub_sub_self, Int.natAbs_mul, Int.natAbs_natCast] at h2
    generalize (B - (G : Int) * x).natAbs = e at *
    generalize B.natAbs = b at *
    omega

/-- a sum of fewer than `p + ja + 1` digits cannot have its last kept digit more than one place above `ja` -/
theorem exp_le_succ (p k ja σ : Nat) (h1 : 2 ^ p * 2 ^ k ≤ 2 * σ) (h2 : σ < 2 * (2 ^ p * 2 ^ ja)) : k ≤ ja + 1 := by
  have e : 2 ^ p * 2 ^ (ja + 2) = 4 * (2 ^ p * 2 ^ ja) := by rw [Nat.pow_add 2 ja 2, ← Nat.mul_assoc, Nat.mul_comm]
  have hlt : 2 ^ p * 2 ^ k < 2 ^ p * 2 ^ (ja + 2) := by omega
  have := (Nat.pow_lt_pow_iff_right (by decide : 1 < 2)).1 (Nat.lt_of_mul_lt_mul_left hlt)
  omega

/-- first step of the Fast2Sum argument: the rounding error of the sum is at most `|B|`.  (`hAl` is `|a0| < 2^p`
multiplied by `2^ja`.) -/
theorem err_le (p : Nat) (A B a0 : Int) (ja : Nat) (hA : A = a0 * ((2 ^ ja : Nat) : Int))
    (hAl : A.natAbs + 2 ^ ja ≤ 2 ^ p * 2 ^ ja) (k : Nat) (hkj : k ≤ ja + 1) (h1 : 2 ^ p * 2 ^ k ≤ 2 * (A + B).natAbs)
    (s q : Int) (hs : s = ((2 ^ k : Nat) : Int) * q) (hd : 2 * (A + B - s).natAbs ≤ 2 ^ k) :
    (A + B - s).natAbs ≤ B.natAbs := by
  by_cases hj : k ≤ ja
  · -- `A` lies on the grid `2^k` of `s`
    obtain ⟨j, rfl⟩ : ∃ j, ja = k + j := ⟨ja - k, by omega⟩
    have e : A + B - s = B - ((2 ^ k : Nat) : Int) * (q - a0 * ((2 ^ j : Nat) : Int)) := by
      clear hd h1 hAl
      rw [hs, hA, Nat.pow_add, Int.natCast_mul, Int.mul_sub, Int.mul_left_comm]; omega
    rw [e] at hd ⊢
    exact sub_mul_le _ _ _ hd
  · -- otherwise `k = ja + 1`: the error is at most `2^ja`, and `|B| ≥ |A + B| - |A| ≥ 2^ja`
    obtain rfl : k = ja + 1 := by omega
    have tri : (A + B).natAbs ≤ A.natAbs + B.natAbs := Int.natAbs_add_le A B
    rw [Nat.pow_succ, ← Nat.mul_assoc] at h1
    rw [Nat.pow_succ] at hd
    generalize (A + B - s).natAbs = ε at *
    generalize (A + B).natAbs = σ at *
    omega

section
variable (p : Nat) (N : Int → Int)
  (fix : ∀ (S q : Int) (k : Nat), S = ((2 ^ k : Nat) : Int) * q → q.natAbs ≤ 2 ^ p → N S = S)
include fix

theorem N_le (S : Int) (h : S.natAbs ≤ 2 ^ p) : N S = S := fix S S 0 (Int.one_mul S).symm h

/-- second step: `s - A` is representable, given the bound `hD` that `err_le` provides -/
theorem diff_repr (A B a0 : Int) (ja : Nat) (hA : A = a0 * ((2 ^ ja : Nat) : Int)) (hB : B.natAbs < 2 ^ p)
    (k : Nat) (hk : 1 ≤ k) (hkj : k ≤ ja + 1)
    (s q : Int) (hs : s = q * ((2 ^ k : Nat) : Int)) (hd : 2 * (A + B - s).natAbs ≤ 2 ^ k)
    (hD : (A + B - s).natAbs ≤ B.natAbs) : N (s - A) = s - A := by
  have tri : (s - A).natAbs ≤ B.natAbs + (A + B - s).natAbs := by
    have e : B - (A + B - s) = s - A := by clear hd hD hB; omega
    have := Int.natAbs_sub_le B (A + B - s)
    rwa [e] at this
  generalize (A + B - s).natAbs = ε at *
  generalize B.natAbs = β at *
  by_cases hj : ja = 0
  · -- the sum has `p + 1` digits, the error is at most 1 and `|s - A| ≤ 2^p`
    obtain rfl : k = 1 := by omega
    exact N_le p N fix _ (by omega)
  · -- both are even, and `|s - A| < 2 · 2^p`
    obtain ⟨m1, e1⟩ := even_mul_pow a0 ja (by omega)
    obtain ⟨m2, e2⟩ := even_mul_pow q k hk
    exact fix _ (m2 - m1) 1 (by omega) (by omega)
end

/-- `N` is known through two properties: it fixes what has `p` digits on some grid `2^k` (`2^p` included: it is
`2^(p-1)` one place up), and in the binade `k` it lands on the grid `2^k` within half a unit -/
theorem fast2sum_int (p : Nat) (N : Int → Int)
    (fix : ∀ (S q : Int) (k : Nat), S = ((2 ^ k : Nat) : Int) * q → q.natAbs ≤ 2 ^ p → N S = S)
    (near : ∀ (S : Int) (k : Nat), 1 ≤ k → bitLength S.natAbs = p + k →
        ∃ q : Int, N S = ((2 ^ k : Nat) : Int) * q ∧ 2 * (S - N S).natAbs ≤ 2 ^ k)
    (A B a0 : Int) (ja : Nat) (hA : A = a0 * ((2 ^ ja : Nat) : Int)) (ha0 : a0.natAbs < 2 ^ p)
    (hB : B.natAbs < 2 ^ p) :
    N (A + B) + N (B - N (N (A + B) - A)) = A + B ∧
    N (N (A + B) - A) = N (A + B) - A ∧ N (B - N (N (A + B) - A)) = A + B - N (A + B) := by
  -- the error `A + B - s` is at most `|B|`; then `z = s - A` and the error itself are representable
  have small : ∀ S : Int, S.natAbs < 2 ^ p → N S = S := fun S h => N_le p N fix S (Nat.le_of_lt h)
  have key : (A + B - N (A + B)).natAbs ≤ B.natAbs ∧ N (N (A + B) - A) = N (A + B) - A := by
    by_cases hS : (A + B).natAbs < 2 ^ p
    · have e : A + B - A = B := by omega
      rw [small _ hS, e, small B hB]; exact ⟨by omega, rfl⟩
    · obtain ⟨k, hk, hbl, h1, h2⟩ := binade_of_ge p _ hS
      have hJ : 0 < 2 ^ ja := Nat.pow_pos (by decide)
      have hAl : A.natAbs + 2 ^ ja ≤ 2 ^ p * 2 ^ ja := by
        have h : (a0.natAbs + 1) * 2 ^ ja ≤ 2 ^ p * 2 ^ ja := Nat.mul_le_mul_right _ ha0
        rw [hA, Int.natAbs_mul, Int.natAbs_natCast]
        rw [Nat.add_mul, Nat.one_mul] at h; exact h
      have hPJ : 2 ^ p ≤ 2 ^ p * 2 ^ ja := Nat.le_mul_of_pos_right _ hJ
      have hkj : k ≤ ja + 1 := by
        have tri := Int.natAbs_add_le A B
        generalize (A + B).natAbs = σ at *
        exact exp_le_succ p k ja σ h1 (by omega)
      obtain ⟨q, hq, hd⟩ := near (A + B) k hk hbl
      have hD := err_le p A B a0 ja hA hAl k hkj h1 _ q hq hd
      exact ⟨hD, diff_repr p N fix A B a0 ja hA hB k hk hkj _ q (by rw [hq, Int.mul_comm]) hd hD⟩
  obtain ⟨hD, hZ⟩ := key
  have hT : N (B - (N (A + B) - A)) = A + B - N (A + B) := by
    rw [show B - (N (A + B) - A) = A + B - N (A + B) by omega]
    exact small _ (by omega)
  rw [hZ, hT]
  exact ⟨by omega, rfl, rfl⟩

/-- round the integer `S` to `p` significant digits under mode `rm` -/
def rndI (p : Nat) (rm : RM) (S : Int) : Int :=
  if S.natAbs < 2 ^ p then S
  else
    (if S < 0 then -1 else 1) *
      ((roundQuot rm (decide (S < 0)) S.natAbs (bitLength S.natAbs - p) * 2 ^ (bitLength S.natAbs - p) : Nat) : Int)

theorem rndI_small (p : Nat) (rm : RM) (S : Int) (h : S.natAbs < 2 ^ p) : rndI p rm S = S := by
  unfold rndI; simp only [h, if_true]

theorem rndI_binade (p : Nat) (rm : RM) (S : Int) (k : Nat) (hk : bitLength S.natAbs = p + k) (hk1 : 1 ≤ k) :
    rndI p rm S =
      (if S < 0 then -1 else 1) * ((roundQuot rm (decide (S < 0)) S.natAbs k * 2 ^ k : Nat) : Int) := by
  have hnot : ¬ S.natAbs < 2 ^ p := by have := bitLength_le_iff S.natAbs p; omega
  unfold rndI; simp only [hnot, if_false, hk, Nat.add_sub_cancel_left]

theorem sign_mul_natAbs (S : Int) : (if S < 0 then -1 else 1) * (S.natAbs : Int) = S := by
  split <;> omega

theorem natAbs_sub_sign (S : Int) (n : Nat) :
    (S - (if S < 0 then -1 else 1) * (n : Int)).natAbs = ((S.natAbs : Int) - n).natAbs := by
  split
  · rw [Int.ofNat_natAbs_of_nonpos (by omega), Int.neg_mul, Int.one_mul, Int.sub_neg, ← Int.natAbs_neg, Int.neg_add,
      ← Int.sub_eq_add_neg]
  · rw [Int.natAbs_of_nonneg (by omega), Int.one_mul]

theorem rndI_exact (p : Nat) (rm : RM) (S : Int) (h : S.natAbs % 2 ^ (bitLength S.natAbs - p) = 0) :
    rndI p rm S = S := by
  unfold rndI
  split
  · rfl
  · rw [roundQuot_exact rm _ _ _ h, Nat.div_mul_cancel (Nat.dvd_of_mod_eq_zero h), sign_mul_natAbs]

theorem rndI_near (p : Nat) (rm : RM) (hrm : rm = .rne ∨ rm = .rna) (S : Int) (k : Nat) (hk : 1 ≤ k)
    (hbl : bitLength S.natAbs = p + k) :
    ∃ q : Int, rndI p rm S = ((2 ^ k : Nat) : Int) * q ∧ 2 * (S - rndI p rm S).natAbs ≤ 2 ^ k := by
  have hn := roundQuot_nearest rm hrm (decide (S < 0)) S.natAbs k
  rw [rndI_binade p rm S k hbl hk, natAbs_sub_sign]
  refine ⟨(if S < 0 then -1 else 1) * (roundQuot rm (decide (S < 0)) S.natAbs k : Int), ?_, by omega⟩
  rw [Int.natCast_mul, ← Int.mul_assoc, Int.mul_comm (2 ^ k : Nat)]

/-- what has `p` digits on some grid `2^k` is kept; `|q| = 2^p` is `2^(p-1)` one place up, which is where `1 ≤ p` is used -/
theorem rndI_fix (p : Nat) (hp : 1 ≤ p) (rm : RM) (S q : Int) (k : Nat) (h : S = ((2 ^ k : Nat) : Int) * q)
    (hq : q.natAbs ≤ 2 ^ p) : rndI p rm S = S := by
  by_cases hs : S.natAbs < 2 ^ p
  · exact rndI_small p rm S hs
  · apply rndI_exact
    have hab : S.natAbs = q.natAbs * 2 ^ k := by rw [h, Int.natAbs_mul, Int.natAbs_natCast, Nat.mul_comm]
    have hq0 : q.natAbs ≠ 0 := fun h0 => hs (by rw [hab, h0, Nat.zero_mul]; exact Nat.pow_pos (by decide))
    rw [hab, bitLength_shift _ k hq0]
    by_cases hQp : q.natAbs < 2 ^ p
    · have := (bitLength_le_iff _ p).2 hQp
      exact mul_pow_mod _ k _ (by omega)
    · obtain e : q.natAbs = 2 ^ p := by omega
      have hb : bitLength (2 ^ p) = p + 1 := by
        rw [bitLength_eq_iff _ (p + 1) (by omega), Nat.add_sub_cancel, Nat.pow_succ]; omega
      rw [e, hb, ← Nat.pow_add]
      exact Nat.mod_eq_zero_of_dvd (Nat.pow_dvd_pow 2 (by omega))

/-- both nearest modes; `s = RN(A+B)`, `z = RN(s−A)`, `t = RN(B−z)`; the hypotheses on `A`, `B` are the two operands on
their common grid, the exponent of `a` not below that of `b` -/
theorem fast2sum_rndI (p : Nat) (hp : 1 ≤ p) (rm : RM) (hrm : rm = .rne ∨ rm = .rna)
    (A B a0 : Int) (ja : Nat) (hA : A = a0 * ((2 ^ ja : Nat) : Int)) (ha0 : a0.natAbs < 2 ^ p)
    (hB : B.natAbs < 2 ^ p) :
    rndI p rm (A + B) + rndI p rm (B - rndI p rm (rndI p rm (A + B) - A)) = A + B ∧
    rndI p rm (rndI p rm (A + B) - A) = rndI p rm (A + B) - A ∧
    rndI p rm (B - rndI p rm (rndI p rm (A + B) - A)) = A + B - rndI p rm (A + B) :=
  fast2sum_int p (rndI p rm) (rndI_fix p hp rm) (rndI_near p rm hrm) A B a0 ja hA ha0 hB

theorem rndI_big (p : Nat) (rm : RM) (S : Int) (k : Nat) (hk : bitLength S.natAbs = p + k) (hk1 : 1 ≤ k) :
    ∃ Q : Nat, rndI p rm S = (if S < 0 then -1 else 1) * ((Q * 2 ^ k : Nat) : Int) ∧ Q ≤ 2 ^ p ∧
      ((S.natAbs : Int) - (Q * 2 ^ k : Nat)).natAbs < 2 ^ k := by
  have hc : S.natAbs < 2 ^ p * 2 ^ k := by
    rw [← Nat.pow_add]; exact (bitLength_le_iff _ _).1 (by omega)
  have hq : S.natAbs / 2 ^ k < 2 ^ p := (Nat.div_lt_iff_lt_mul (Nat.pow_pos (by decide))).2 hc
  have hw := roundQuot_within rm (decide (S < 0)) S.natAbs k
  exact ⟨roundQuot rm (decide (S < 0)) S.natAbs k, rndI_binade p rm S k hk hk1, roundQuot_le_pow _ _ _ _ _ hq, by omega⟩

/-- any mode: a rounded integer is representable — rounding its negation (under any mode) is exact -/
theorem rndI_repr_neg (p : Nat) (hp : 1 ≤ p) (rm rm' : RM) (S : Int) :
    rndI p rm' (-(rndI p rm S)) = -(rndI p rm S) := by
  by_cases hs : S.natAbs < 2 ^ p
  · rw [rndI_small p rm S hs]; exact rndI_small p rm' _ (by omega)
  · obtain ⟨k, hk1, hk, _, _⟩ := binade_of_ge p _ hs
    obtain ⟨Q, hR, hQ, _⟩ := rndI_big p rm S k hk hk1
    refine rndI_fix p hp rm' _ (-((if S < 0 then -1 else 1) * (Q : Int))) k ?_ ?_
    · rw [hR, Int.natCast_mul, Int.mul_neg, Int.mul_comm (Q : Int), Int.mul_left_comm ((2 ^ k : Nat) : Int)]
    · rw [Int.natAbs_neg, Int.natAbs_mul, Int.natAbs_natCast]
      split <;> simpa using hQ

/-- the rounding error of a product of two `p`-digit significands has fewer than `p + 1` digits -/
theorem rndI_mul_err (p : Nat) (rm : RM) (S : Int) (hS : S.natAbs < 2 ^ p * 2 ^ p) :
    (S - rndI p rm S).natAbs < 2 ^ p := by
  by_cases hs : S.natAbs < 2 ^ p
  · rw [rndI_small p rm S hs]; have : 0 < 2 ^ p := Nat.pow_pos (by decide); omega
  · obtain ⟨k, hk1, hk, hlo, _⟩ := binade_of_ge p _ hs
    have hkp : 2 ^ k ≤ 2 ^ p := by
      have : 2 ^ p * 2 ^ k < 2 ^ p * 2 ^ (p + 1) := by rw [Nat.pow_succ, ← Nat.mul_assoc]; omega
      have := (Nat.pow_lt_pow_iff_right (by decide : 1 < 2)).1 (Nat.lt_of_mul_lt_mul_left this)
      exact Nat.pow_le_pow_right (by decide) (by omega)
    obtain ⟨Q, hR, _, hd⟩ := rndI_big p rm S k hk hk1
    rw [hR, natAbs_sub_sign]
    omega

/-- every rounding mode `∘`: `R = ∘(S)`, `T = ∘(S − R)` -/
theorem fast2mul_rndI (p : Nat) (hp : 1 ≤ p) (rm : RM) (S : Int) (hS : S.natAbs < 2 ^ p * 2 ^ p) :
    rndI p rm (-(rndI p rm S)) = -(rndI p rm S) ∧
    rndI p rm (S + rndI p rm (-(rndI p rm S))) = S - rndI p rm S ∧
    rndI p rm S + rndI p rm (S + rndI p rm (-(rndI p rm S))) = S := by
  have h1 := rndI_repr_neg p hp rm rm S
  have h2 : rndI p rm (S + rndI p rm (-(rndI p rm S))) = S - rndI p rm S := by
    rw [h1]
    have : S + -rndI p rm S = S - rndI p rm S := by omega
    rw [this]
    exact rndI_small p rm _ (rndI_mul_err p rm S hS)
  exact ⟨h1, h2, by rw [h2]; omega⟩

end Fpy.C20
