/-
C10, context level: a bounded context's `_round_at` against its unbounded counterpart — the comparison
`unfold_overflow` emits and the probes it writes, the infinity rule `unfold_special` may shed, the sign
restoration of `unfold_neg_zero`.  Contexts are compared through the normal form of `Proof/CtxCore`: one
`RealFloat.round`, then `Ctx.post`.  Last, one context against another: `rescale_fixed` (the format moved by a power
of two) and the overflow rule of the `MPBFixedContext` that `float_to_fixed` emits for a bounded source.
-/
import Fpy.Proof.Lower
import Fpy.Proof.CtxCore
namespace Fpy.C10
open Fpy Fpy.Spec

/-! `mpbOverflow` / `mpbfixOverflow` of `Model/Lower` are the shared arm `ovfResult`, i.e. `Ctx.overflowed` -/

theorem mpbOverflow_eq (c : MPBParams) (sx sy : Bool) :
    mpbOverflow c sx sy =
      ovfResult c.rm c.ov c.o sx sy (·.withSign sy) ⟨.fin (if sy then c.negMax else c.posMax), {}⟩ (.error .assertion) := by
  unfold mpbOverflow ovfResult; cases c.ov <;> rfl

theorem mpbfixOverflow_eq (c : MPBFixParams) (sx sy : Bool) :
    mpbfixOverflow c sx sy = ovfResult c.rm c.ov c.o sx sy id (c.rangeEnd sy) (.error .assertion) := by
  unfold mpbfixOverflow ovfResult; cases c.ov <;> rfl

theorem overflowed_mpb (c : MPBParams) (xs : Bool) (y : RF) :
    (Ctx.mpb c).overflowed xs y = mpbOverflow c xs y.s := (mpbOverflow_eq c xs y.s).symm

/-- `mpbfixOverflow` has no WRAP arm -/
theorem overflowed_mpbfix (c : MPBFixParams) (hw : c.ov ≠ .wrap) (xs : Bool) (y : RF) :
    (Ctx.mpbfix c).overflowed xs y = mpbfixOverflow c xs y.s := by
  rw [mpbfixOverflow_eq]
  show ovfResult c.rm c.ov c.o xs y.s id (c.rangeEnd y.s) _ = _
  unfold ovfResult
  revert hw; cases c.ov <;> intro hw <;> first | rfl | exact absurd rfl hw

theorem mpbfix_round (c : MPBFixParams) {x : RF} (hx : x.c ≠ 0) (r : Nat) :
    mpbfixRoundAt c (.fin x) none false r =
      match x.round none (some c.nmin) c.rm c.k r false with
      | .error e => .error e
      | .ok (y, fl) => (Ctx.mpbfix c).post x.s y fl :=
  Ctx.roundAtCore_fin (C := .mpbfix c) rfl hx r

theorem mpbfix_zero (c : MPBFixParams) {x : RF} (hx : x.c = 0) (n : Option Int) (ex : Bool) (r : Nat) :
    mpbfixRoundAt c (.fin x) n ex r = .ok ⟨.fin ⟨x.s && c.negZero, 0, 0⟩, {}⟩ :=
  (Ctx.roundAtCore_zero_at (C := .mpbfix c) rfl hx n ex r).trans (by simp only [Ctx.dropsNegZero, Bool.not_not])

/-- what `unfold_overflow` puts after the unbounded rounding, with the context's own overflow arm (flags kept) -/
def ovfPostR (posMax negMax : RF) (arm : Bool → Except Err Res) (a : Except Err Res) : Except Err Res :=
  match a with
  | .error e => .error e
  | .ok r =>
    match r.v with
    | .fin t => if t.gt posMax then arm t.s else if t.lt negMax then arm t.s else .ok r
    | _ => .ok r

/-- the same with two constants, values only: the shape `unfoldOverflowProg` and `chainFloat` share -/
def ovfPost (posMax negMax : RF) (vP vN : Except Err FV) (a : Except Err Res) : Except Err FV :=
  match a with
  | .error e => .error e
  | .ok r =>
    match r.v with
    | .fin t => if t.gt posMax then vP else if t.lt negMax then vN else .ok r.v
    | v => .ok v

theorem ovfPostR_fin (pos neg : RF) (arm : Bool → Except Err Res) (t : RF) (fl : Flags) :
    ovfPostR pos neg arm (.ok ⟨.fin t, fl⟩) =
      if t.gt pos then arm t.s else if t.lt neg then arm t.s else .ok ⟨.fin t, fl⟩ := rfl

theorem inRange_congr {C : Ctx} {y y' : RF} (hs : y.s = y'.s) (he : y.eqV y') : C.inRange y = C.inRange y' := by
  unfold Ctx.inRange
  cases C.range with
  | none => rfl
  | some b => simp only [hs, RF.lt_congr_left y y' _ he, RF.gt_congr_left y y' _ he]

theorem post_obsEq {C C' : Ctx} {xs : Bool} {y y' : RF} {fl fl' : Flags}
    (hys : y.s = y'.s) (hin : C.inRange y = C'.inRange y') (hd : C.dropsNegZero = false) (hd' : C'.dropsNegZero = false)
    (hval : C.inRange y = true → y.eqV y' ∧ fl.inexact = fl'.inexact ∧ fl.overflow = fl'.overflow)
    (harm : C.inRange y = false → obsEq (C.overflowed xs y) (C'.overflowed xs y')) :
    obsEq (C.post xs y fl) (C'.post xs y' fl') := by
  unfold Ctx.post
  rw [← hin, hd, hd', RF.dropNegZero_false, RF.dropNegZero_false]
  cases h : C.inRange y
  · exact harm h
  · exact ⟨⟨hys, (hval h).1⟩, (hval h).2⟩

/-- **`float_to_fixed` between contexts**: a float context `C` and a fixed-point context `F` placed at the position
the float rounding chooses for `x` answer alike on `x` as soon as their post-steps do on the two roundings, which
denote one number (`float_fixed_round`) -/
theorem float_ctx_as_fixed {C F : Ctx} {p : Nat} {N : Option Int} {rm : RM} {x : RF}
    (hC : C.core = some (some p, N, rm, some 0)) (hF : F.core = some (none, some (floatPos x p N), rm, some 0))
    (hx : x.c ≠ 0) (hp : 1 ≤ p)
    (hpost : ∀ y fl y' fl', x.round none (some (floatPos x p N)) rm = .ok (y', fl') → y.s = y'.s → y.eqV y' →
      fl.inexact = fl'.inexact → fl.overflow = fl'.overflow → obsEq (C.post x.s y fl) (F.post x.s y' fl')) :
    obsEq (C.roundAtCore (.fin x) none false 0) (F.roundAtCore (.fin x) none false 0) := by
  obtain ⟨y, fl, y', fl', h1, h2, hs, hs', he, hi, ho, ho'⟩ := float_fixed_round x p N rm hx hp
  rw [Ctx.roundAtCore_fin hC hx, Ctx.roundAtCore_fin hF hx, h1, h2]
  exact hpost y fl y' fl' h2 (hs.trans hs'.symm) he hi (ho.trans ho'.symm)

/-- A bounded context `C` is its unbounded counterpart `U` followed by the comparison with the bounds, at every
position, draw and `exact`.  The emitted test is two-sided where the context's is split by sign (`emitted_test`), and
`U` may have made a zero positive: a zero is never past a bound, so both are invisible. -/
theorem bounded_eq_clamp {U C : Ctx} {P : Option Nat} {N : Option Int} {rm : RM} {k : Option Nat}
    (hc : C.core = some (P, N, rm, k)) (hu : U.core = C.core) (hur : U.range = none)
    (hd : U.dropsNegZero = C.dropsNegZero) {lo hi : RF} (hr : C.range = some (lo, hi))
    (hhi : hi.c = 0 ∨ hi.s = false) (hlo : lo.c = 0 ∨ lo.s = true) {x : RF} (hx : x.c ≠ 0)
    (arm : Bool → Except Err Res) (harm : ∀ y, C.overflowed x.s y = arm y.s) (n : Option Int) (ex : Bool) (r : Nat) :
    C.roundAtCore (.fin x) n ex r =
      ovfPostR hi lo (fun s => if ex then .error .valueError else arm s) (U.roundAtCore (.fin x) n ex r) := by
  rw [Ctx.roundAtCore_fin_at hc hx, Ctx.roundAtCore_fin_at (hu.trans hc) hx]
  cases x.round P (Ctx.posAt N n) rm k r ex with
  | error e => rfl
  | ok yf =>
    obtain ⟨y, fl⟩ := yf
    have hU := Ctx.inRange_of_range_none hur y
    simp only [hU, Bool.not_true, Bool.and_false, Bool.false_eq_true, if_false]
    rw [Ctx.post_in hU, hd, ovfPostR_fin]
    by_cases hz : y.c = 0
    · have hz' : (y.dropNegZero C.dropsNegZero).c = 0 := (RF.dropNegZero_spec y _).1.trans hz
      have hC := Ctx.inRange_of hr (lt_false_of_signs y lo (Or.inl hz) hlo) (gt_false_of_signs y hi (Or.inl hz) hhi)
      rw [hC, Ctx.post_in hC, gt_false_of_signs _ hi (Or.inl hz') hhi, lt_false_of_signs _ lo (Or.inl hz') hlo]
      cases ex <;> rfl
    · have hy : y.dropNegZero C.dropsNegZero = y := by unfold RF.dropNegZero; simp [hz]
      unfold Ctx.post Ctx.inRange
      rw [hr]
      simp only [hy, emitted_test y hi lo hhi hlo, harm]
      cases ex <;> cases y.gt hi <;> cases y.lt lo <;> rfl

theorem mpb_unfold_arm (c : MPBParams)
    (hpos : c.posMax.c = 0 ∨ c.posMax.s = false) (hneg : c.negMax.c = 0 ∨ c.negMax.s = true)
    (x : RF) (hx : x.c ≠ 0) :
    mpbRoundAt c (.fin x) none false 0 =
      ovfPostR c.posMax c.negMax (mpbOverflow c x.s) ((unboundedFloat c).roundAtCore (.fin x) none false 0) :=
  bounded_eq_clamp (C := .mpb c) (U := unboundedFloat c) (hc := rfl) (hu := rfl) (hur := rfl) (hd := rfl) (hr := rfl)
    hpos hneg hx _ (overflowed_mpb c x.s) none false 0

theorem mpbfix_unfold_arm (c : MPBFixParams) (hw : c.ov ≠ .wrap)
    (hpos : c.posMax.c = 0 ∨ c.posMax.s = false) (hneg : c.negMax.c = 0 ∨ c.negMax.s = true)
    (x : RF) (hx : x.c ≠ 0) :
    mpbfixRoundAt c (.fin x) none false 0 =
      ovfPostR c.posMax c.negMax (mpbfixOverflow c x.s) ((unboundedFixed c).roundAtCore (.fin x) none false 0) :=
  bounded_eq_clamp (C := .mpbfix c) (U := unboundedFixed c) (hc := rfl) (hu := rfl) (hur := rfl) (hd := rfl) (hr := rfl)
    hpos hneg hx _ (overflowed_mpbfix c hw x.s) none false 0

/-- a rounded value with the operand's sign (or zero) picks the constant of the operand's sign: the emitted
constants `arm false false`, `arm true true` are all the block needs -/
theorem valOf_ovfPostR (pos neg : RF) (hp : pos.c = 0 ∨ pos.s = false) (hn : neg.c = 0 ∨ neg.s = true)
    (arm : Bool → Bool → Except Err Res) (sx : Bool) (a : Except Err Res)
    (hs : ∀ r t, a = .ok r → r.v = .fin t → t.s = sx ∨ t.c = 0) :
    valOf (ovfPostR pos neg (arm sx) a) = ovfPost pos neg (valOf (arm false false)) (valOf (arm true true)) a := by
  cases a with
  | error e => rfl
  | ok r =>
    obtain ⟨v, fl⟩ := r
    cases v with
    | nan s => rfl
    | inf s => rfl
    | fin t =>
      have ht := hs _ t rfl rfl
      unfold ovfPostR ovfPost
      simp only
      by_cases h1 : t.gt pos = true
      · obtain ⟨hc, hts⟩ := pos_of_gt t pos hp h1
        have hsx : sx = false := by rcases ht with h | h; rw [← h, hts]; exact absurd h hc
        simp only [h1, if_true, hts, hsx]
      · by_cases h2 : t.lt neg = true
        · obtain ⟨hc, hts⟩ := neg_of_lt t neg hn h2
          have hsx : sx = true := by rcases ht with h | h; rw [← h, hts]; exact absurd h hc
          simp only [h1, h2, if_true, Bool.false_eq_true, if_false, hts, hsx]
        · simp only [h1, h2, Bool.false_eq_true, if_false]; rfl

/-- the comparisons look at the number only -/
theorem ovfPost_congr (posMax negMax : RF) (vP vN : Except Err FV) (a b : Except Err Res) (h : obsEq a b) :
    obsEqV (ovfPost posMax negMax vP vN a) (ovfPost posMax negMax vP vN b) := by
  cases a <;> cases b <;> try exact h.elim
  · exact h
  · rename_i r r'
    obtain ⟨v, fl⟩ := r
    obtain ⟨v', fl'⟩ := r'
    have hv : sameFV v v' := h.1
    cases v <;> cases v' <;> try exact hv.elim
    · rename_i t t'
      unfold ovfPost
      simp only [RF.gt_congr_left t t' posMax hv.2, RF.lt_congr_left t t' negMax hv.2]
      split
      · exact obsEqV_refl _
      · split
        · exact obsEqV_refl _
        · exact hv
    · exact hv
    · exact hv

/-- what an unbounded context returns has the operand's sign, or is a zero it made positive -/
theorem unbounded_sign {U : Ctx} {P : Option Nat} {N : Option Int} {rm : RM}
    (hc : U.core = some (P, N, rm, some 0)) (hur : U.range = none) {x : RF} (hx : x.c ≠ 0)
    (hround : ∀ y fl, x.round P N rm = .ok (y, fl) → y.s = x.s) (r : Res) (t : RF)
    (h : U.roundAtCore (.fin x) none false 0 = .ok r) (hv : r.v = .fin t) : t.s = x.s ∨ t.c = 0 := by
  obtain ⟨y, fl, hr, ⟨-, rfl⟩ | ⟨hout, -⟩⟩ := Ctx.roundAtCore_fin_inv hc hx h
  · cases hv
    rw [Ctx.posAt_none] at hr
    obtain ⟨hcc, hs, -⟩ := RF.dropNegZero_spec y U.dropsNegZero
    rcases hs with hs | hs
    · exact Or.inl (hs.trans (hround y fl hr))
    · exact Or.inr (hcc.trans hs.1)
  · rw [Ctx.inRange_of_range_none hur y] at hout; cases hout

theorem probe_test (pos neg : RF) (s : Bool) (k : Nat) (hk1 : 1 ≤ k) (hc : (if s then neg else pos).c ≠ 0)
    (hs : (if s then neg else pos).s = s) :
    (if s then (shiftRF (if s then neg else pos) k).lt neg else (shiftRF (if s then neg else pos) k).gt pos) = true := by
  have h := shift_past_self _ k hk1 hc
  rw [hs] at h
  cases s <;> simp only [Bool.false_eq_true, if_false, if_true] at h ⊢ <;> exact h

/-- the probe is sound for any `k ≥ 1`; the transform asks at `k = 1` and `k = 64` -/
theorem probe_float (c : MPBParams) (hk : c.k = some 0) (s : Bool) (k : Nat) (hk1 : 1 ≤ k)
    (hb : BoundOk c.p c.nmin (if s then c.negMax else c.posMax)) (hs : (if s then c.negMax else c.posMax).s = s) :
    probeFloat c s k = mpbOverflow c s s := by
  obtain ⟨hc, hd, hn⟩ := hb
  obtain ⟨fl, hr, _⟩ := round_float_representable (shiftRF (if s then c.negMax else c.posMax) k) c.p c.nmin c.rm hc
    (Nat.le_trans (bitLength_pos hc) hd) hd (by show c.nmin < _ + (k : Int); omega)
  have hout : (Ctx.mpb c).inRange (shiftRF (if s then c.negMax else c.posMax) k) = false := by
    show (!(if (shiftRF _ k).s then _ else _)) = false
    rw [show (shiftRF _ k).s = s from hs, probe_test c.posMax c.negMax s k hk1 hc hs]; rfl
  exact (Ctx.roundAtCore_out (C := .mpb c) (x := shiftRF _ k) rfl hc none 0 (by rw [hk]; exact hr) hout).trans
    ((overflowed_mpb c _ _).trans (by rw [show (shiftRF _ k).s = s from hs]))

theorem probe_fixed (c : MPBFixParams) (hk : c.k = some 0) (hw : c.ov ≠ .wrap) (s : Bool) (k : Nat) (hk1 : 1 ≤ k)
    (hb : BoundOkFix c.nmin (if s then c.negMax else c.posMax)) (hs : (if s then c.negMax else c.posMax).s = s) :
    probeFixed c s k = mpbfixOverflow c s s := by
  obtain ⟨hc, hn⟩ := hb
  obtain ⟨fl, hr, _⟩ := round_fixed_representable (shiftRF (if s then c.negMax else c.posMax) k) c.nmin c.rm
    (by show _ + (k : Int) > c.nmin; omega)
  have hout : (Ctx.mpbfix c).inRange (shiftRF (if s then c.negMax else c.posMax) k) = false := by
    show (!(if (shiftRF _ k).s then _ else _)) = false
    rw [show (shiftRF _ k).s = s from hs, probe_test c.posMax c.negMax s k hk1 hc hs]; rfl
  exact (Ctx.roundAtCore_out (C := .mpbfix c) (x := shiftRF _ k) rfl hc none 0 (by rw [hk]; exact hr) hout).trans
    ((overflowed_mpbfix c hw _ _).trans (by rw [show (shiftRF _ k).s = s from hs]))

/-- a format whose overflow cannot reach the infinity rule: the condition `_shedable` tests -/
theorem reachesInf_false (ov : OV) (rm : RM) (o : Opts)
    (h : (ov == .overflow && (overflowToInfinity rm false || overflowToInfinity rm true) &&
      (o.enableInf || o.infValue.isSome)) = false) (sy : Bool) (hov : ov = .overflow)
    (ht : overflowToInfinity rm sy = true) : o.enableInf = false ∧ o.infValue = none := by
  have ht' : (overflowToInfinity rm false || overflowToInfinity rm true) = true := by cases sy <;> simp [ht]
  rw [hov, ht'] at h
  cases he : o.enableInf <;> cases hi : o.infValue <;> simp [he, hi] at h ⊢

theorem ovfResult_shed (rm : RM) (ov : OV) (o : Opts) (nan inf : Bool)
    (hinf : inf = true → (ov == .overflow && (overflowToInfinity rm false || overflowToInfinity rm true) &&
      (o.enableInf || o.infValue.isSome)) = false) (xs ys : Bool) (sub : FV → FV) (sat : Res) (wrap : Except Err Res) :
    ovfResult rm ov (shedOpts o nan inf) xs ys sub sat wrap = ovfResult rm ov o xs ys sub sat wrap := by
  cases inf with
  | false => rfl
  | true =>
    unfold ovfResult
    cases hov : ov <;> try rfl
    cases ht : overflowToInfinity rm ys <;> try rfl
    obtain ⟨h1, h2⟩ := reachesInf_false ov rm o (hinf rfl) ys hov ht
    simp only [h1, h2, shedOpts, if_true]

/-- `if t == 0: copysign(t, x) else t` on a result -/
def fixZero (x : FV) (r : Res) : Res := if r.v.isZero then { r with v := copysignFV r.v x } else r

/-- the negative end of the range is a non-zero value, or no overflow lands on it (`ASSERT` raises; `OVERFLOW`
with a direction that rounds a negative overflow away from zero goes to the infinity rule) -/
def NegEndOk (c : MPBFixParams) : Prop :=
  c.negMax.c ≠ 0 ∨ c.ov = .assert ∨ (c.ov = .overflow ∧ overflowToInfinity c.rm true = true)

theorem fixZero_of (x : FV) (r : Res) (h : r.v.isZero = false ∨ r.v.withSign x.sign = r.v) : fixZero x r = r := by
  unfold fixZero copysignFV
  rcases h with h | h
  · simp [h]
  · rw [h]; split <;> rfl

theorem fixZero_rangeEnd (c : MPBFixParams) (hns : c.negMax.c = 0 ∨ c.negMax.s = true) (hps : c.posMax.s = false)
    (x : RF) (hnz : x.s = true → c.negMax.c ≠ 0) :
    fixZero (.fin x) (setOvf (c.rangeEnd x.s)) = setOvf (c.rangeEnd x.s) := by
  apply fixZero_of
  unfold MPBFixParams.rangeEnd
  cases hs : x.s
  · refine Or.inr ?_
    simp only [Bool.false_eq_true, if_false, setOvf, FV.sign, hs]
    show FV.fin { c.posMax with s := false } = FV.fin c.posMax
    rw [← hps]
  · have hc := hnz hs
    have hs' : c.negMax.s = true := hns.resolve_left hc
    refine Or.inl ?_
    simp [hc, hs', setOvf, FV.isZero]

/-- the sign restoration leaves every overflow outcome alone (substitutes are not zeros, a negative overflow never
lands on a zero range end, a zero positive bound is `+0` and the operand is positive) -/
theorem fixZero_overflow (c : MPBFixParams) (hsub : subsNotZero c.o = true)
    (hns : c.negMax.c = 0 ∨ c.negMax.s = true) (hend : NegEndOk c)
    (hps : c.posMax.s = false) (x : RF) (r : Res)
    (h : mpbfixOverflow c x.s x.s = .ok r) : fixZero (.fin x) r = r := by
  rw [mpbfixOverflow_eq] at h
  rcases ovfResult_arms h with ⟨-, -, ⟨-, e⟩ | ⟨hen, iv, hn, e⟩⟩ | ⟨hov, e⟩ | ⟨-, e⟩ <;> cases e
  · exact fixZero_of _ _ (Or.inl rfl)
  · have : iv.isZero = false := by simp [subsNotZero, hen, hn] at hsub; exact hsub.2
    exact fixZero_of _ _ (Or.inl this)
  · refine fixZero_rangeEnd c hns hps x fun hs => ?_
    rcases hend with h1 | h1 | h1
    · exact h1
    · rcases hov with h2 | h2
      · rw [h1] at h2; cases h2
      · rw [h1] at h2; cases h2.1
    · rcases hov with h2 | h2
      · rw [h1.1] at h2; cases h2
      · rw [hs, h1.2] at h2; cases h2.2

theorem shiftFV_nar (v : FV) (k : Int) (h : v.isNar = true) : shiftFV v k = v := by
  cases v <;> simp [shiftFV, FV.isNar] at *

theorem fixOrdinal_shift (nmin : Int) (x : RF) (k : Int) : fixOrdinal (nmin + k) (shiftRF x k) = fixOrdinal nmin x := by
  unfold fixOrdinal shiftRF
  have : x.exp + k - (nmin + k + 1) = x.exp - (nmin + 1) := by omega
  simp only [this]

theorem rangeEnd_shift (c : MPBFixParams) (k : Int) (s : Bool) :
    ∃ a b, (rescaleFix c k).rangeEnd s = ⟨.fin a, {}⟩ ∧ c.rangeEnd s = ⟨.fin b, {}⟩ ∧ b.s = (shiftRF a (-k)).s ∧ b.eqV (shiftRF a (-k)) := by
  unfold MPBFixParams.rangeEnd rescaleFix
  cases s
  · exact ⟨_, _, rfl, rfl, rfl, by rw [shift_shift]; exact RF.eqV_refl _⟩
  · simp only [if_true]
    have hs : (shiftRF c.negMax k).c = c.negMax.c ∧ (shiftRF c.negMax k).s = c.negMax.s := ⟨rfl, rfl⟩
    simp only [hs.1, hs.2]
    split
    · exact ⟨_, _, rfl, rfl, rfl, RF.eqV_zero _ _ rfl rfl⟩
    · exact ⟨_, _, rfl, rfl, rfl, by rw [shift_shift]; exact RF.eqV_refl _⟩

theorem rescale_subst (ov : Option FV) (f : Flags) (k : Int) : (∀ w, ov = some w → w.isNar = true) →
    obsEq (match ov with | none => .error .valueError | some v => .ok ⟨v, f⟩)
      (shiftRes (match ov with | none => .error .valueError | some v => .ok ⟨v, f⟩) (-k)) := by
  intro h
  cases ov with
  | none => exact obsEq_refl _
  | some w => simp only [shiftRes, shiftFV_nar w (-k) (h w rfl)]; exact obsEq_refl _

theorem rescale_arm (c : MPBFixParams) (k : Int) (hiv : ∀ w, c.o.infValue = some w → w.isNar = true)
    (sx : Bool) (xr : RF) :
    obsEq ((Ctx.mpbfix c).overflowed sx xr)
      (shiftRes ((Ctx.mpbfix (rescaleFix c k)).overflowed sx (shiftRF xr k)) (-k)) := by
  have hend : obsEq (.ok (setOvf (c.rangeEnd xr.s))) (shiftRes (.ok (setOvf ((rescaleFix c k).rangeEnd xr.s))) (-k)) := by
    obtain ⟨a, b, ha, hb, hsab, hab⟩ := rangeEnd_shift c k xr.s
    rw [ha, hb]
    exact obsEq_ok _ _ _ (sameFV_fin _ _ hsab hab)
  show obsEq (ovfResult c.rm c.ov c.o sx xr.s id (c.rangeEnd xr.s) (.ok (setOvf ⟨mpbfixWrapped c xr, {}⟩)))
    (shiftRes (ovfResult c.rm c.ov c.o sx xr.s id ((rescaleFix c k).rangeEnd xr.s)
      (.ok (setOvf ⟨mpbfixWrapped (rescaleFix c k) (shiftRF xr k), {}⟩))) (-k))
  unfold ovfResult
  cases c.ov with
  | overflow =>
    simp only
    split
    · split
      · exact obsEq_refl _
      · exact rescale_subst c.o.infValue { overflow := true, inexact := true } k hiv
    · exact hend
  | saturate => exact hend
  | wrap =>
    simp only [mpbfixWrapped, show (rescaleFix c k).nmin = c.nmin + k from rfl,
      show (rescaleFix c k).posMax = shiftRF c.posMax k from rfl,
      show (rescaleFix c k).negMax = shiftRF c.negMax k from rfl, fixOrdinal_shift]
    split
    · exact obsEq_ok _ _ _ (sameFV_fin _ _ rfl (RF.eqV_zero _ _ rfl rfl))
    · simp only [shiftRes, shiftFV, setOvf, shiftRF]
      have : c.nmin + k + 1 + -k = c.nmin + 1 := by omega
      rw [this]
      exact obsEq_refl _
  | assert => exact obsEq_refl _

theorem post_rescale (c : MPBFixParams) (k : Int) (hiv : ∀ w, c.o.infValue = some w → w.isNar = true)
    (xs : Bool) (y : RF) (fl : Flags) :
    obsEq ((Ctx.mpbfix c).post xs y fl) (shiftRes ((Ctx.mpbfix (rescaleFix c k)).post xs (shiftRF y k) fl) (-k)) := by
  have hin : (Ctx.mpbfix (rescaleFix c k)).inRange (shiftRF y k) = (Ctx.mpbfix c).inRange y := by
    show (!(if y.s then (shiftRF y k).lt (shiftRF c.negMax k) else (shiftRF y k).gt (shiftRF c.posMax k))) = _
    rw [lt_shift, gt_shift]; rfl
  unfold Ctx.post
  rw [hin]
  cases (Ctx.mpbfix c).inRange y
  · rw [if_neg Bool.false_ne_true, if_neg Bool.false_ne_true]
    exact rescale_arm c k hiv xs y
  · have : shiftRF ((shiftRF y k).dropNegZero (!c.negZero)) (-k) = y.dropNegZero (!c.negZero) := by
      unfold RF.dropNegZero
      show shiftRF (if (decide (y.c = 0) && y.s && !c.negZero) = true then _ else _) (-k) = _
      split
      · simp [shiftRF, Int.add_neg_cancel_right]
      · exact shift_shift y k
    simp only [if_true, shiftRes, shiftFV]
    exact obsEq_ok _ _ _ (this ▸ sameFV_refl _)

/-- what an accepted policy says the source returned for an overflow of sign `s` (the sign of a NaN is not read) -/
def Policy.value (c : MPBParams) : Policy → Bool → FV
  | .infinite, s => .inf s
  | .nanOnOverflow, _ => .nan false
  | .saturating, s => .fin (if s then c.negMax else c.posMax)

theorem policyFrom_inv (c : MPBParams) (P N : Except Err Res) (pol : Policy) (h : policyFrom c P N = some pol) (s : Bool) :
    ∃ v f, (if s then N else P) = .ok ⟨v, f⟩ ∧ sameFV v (pol.value c s) := by
  revert h
  unfold policyFrom
  split
  · intro h; cases h; cases s <;> exact ⟨_, _, rfl, rfl⟩
  · intro h; cases h; cases s <;> exact ⟨_, _, rfl, trivial⟩
  · split
    · rename_i hab
      intro h; cases h
      obtain ⟨ha, hb⟩ := hab; subst ha; subst hb
      cases s <;> exact ⟨_, _, rfl, sameFV_refl _⟩
    · intro h; cases h
  · intro h; cases h

theorem mpbOverflow_ok (c : MPBParams) (sx sy : Bool) (v : FV) (f : Flags) (h : mpbOverflow c sx sy = .ok ⟨v, f⟩) :
    f.inexact = true ∧ f.overflow = true ∧
      (v = .fin (if sy then c.negMax else c.posMax) ∨ overflowToInfinity c.rm sy = true) := by
  rw [mpbOverflow_eq] at h
  rcases ovfResult_arms h with ⟨-, ht, ⟨-, e⟩ | ⟨-, iv, -, e⟩⟩ | ⟨-, e⟩ | ⟨-, e⟩ <;> cases e
  · exact ⟨rfl, rfl, Or.inr ht⟩
  · exact ⟨rfl, rfl, Or.inr ht⟩
  · exact ⟨rfl, rfl, Or.inl rfl⟩

theorem f2fTarget_overflow (c : MPBParams) (pol : Policy) (nz : Bool) (n : Int) (hpc : c.posMax.c ≠ 0)
    (hps : c.posMax.s = false) (hm : c.negMax = c.posMax.neg) (s : Bool) :
    mpbfixOverflow (f2fTarget c pol nz n) s s =
      .ok (setOvf ⟨if overflowToInfinity c.rm s then pol.value c s else .fin (if s then c.negMax else c.posMax), {}⟩) := by
  have hend : (f2fTarget c pol nz n).rangeEnd s = ⟨.fin (if s then c.negMax else c.posMax), {}⟩ := by
    have h1 : (f2fTarget c pol nz n).negMax = c.posMax.neg := rfl
    have h2 : c.posMax.neg.c = c.posMax.c := rfl
    have h3 : c.posMax.neg.s = true := by unfold RF.neg; simp [hps]
    unfold MPBFixParams.rangeEnd
    cases s <;> simp [h1, h2, h3, hpc, hm] <;> rfl
  unfold mpbfixOverflow
  rw [hend]
  unfold f2fTarget Policy.value
  cases pol <;> cases overflowToInfinity c.rm s <;> simp

theorem negMax_mirror (c : MPBParams) (hpos : BoundOk c.p c.nmin c.posMax) (hps : c.posMax.s = false)
    (hm : c.negMax = c.posMax.neg) : BoundOk c.p c.nmin c.negMax ∧ c.negMax.s = true := by
  rw [hm]
  exact ⟨hpos, by unfold RF.neg; simp [hps]⟩

theorem f2fTarget_subs (c : MPBParams) (pol : Policy) (nz : Bool) (n : Int) :
    (f2fTarget c pol nz n).o.nanValue = none ∧
    ((f2fTarget c pol nz n).o.infValue = none ∨ (f2fTarget c pol nz n).o.infValue = some (.nan false)) := by
  cases pol
  · exact ⟨rfl, Or.inl rfl⟩
  · exact ⟨rfl, Or.inl rfl⟩
  · exact ⟨rfl, Or.inr rfl⟩

theorem neg_e (b : RF) : b.neg.e = b.e := rfl

end Fpy.C10
