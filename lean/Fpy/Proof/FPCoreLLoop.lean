/-
C12, the compiler model with loops — the loop-like statements: one-armed `if`, `while`, `for x in range(round(n))`.
What they share (`LoopCtx`): the carried variables `M`, the body compiled with the continuation `carryRet M`, the
relation `CarryRel` kept from iteration to iteration.  Each `*_core` runs the source statement and gives, for every
FPCore environment in that relation, the convergence of the compiled loop.
-/
import Fpy.Proof.FPCoreLMain
namespace Fpy.C12
open Fpy Fpy.Lang

/-- `evalE_cond_inv` for a condition of the subset: it leaves the heap as it is -/
theorem lcond_inv {α : Type} {Φ : Funs} {f : Nat} {σ : Env} {μ : Heap} {C : Ctx} {c : LExpr} (X Y : Heap → M α) {r : α}
    (h : (do let (v, μ') ← evalE Φ f σ μ C c.toLang
             if ← asBool v then X μ' else Y μ') = .ok r) :
    ∃ b, evalE Φ f σ μ C c.toLang = .ok (.bool b, μ) ∧ (if b then X μ else Y μ) = .ok r := by
  obtain ⟨b, μ1, h1, h⟩ := evalE_cond_inv h
  cases (lexpr_sound Φ f c σ μ C _ μ1 h1).1
  exact ⟨b, h1, h⟩

theorem nvInt_of_asIndex {r : NV} {n : Nat} (h : asIndex (.num r) = .ok n) : nvInt? r = some (n : Int) := by
  unfold asIndex at h
  simp only [asNum, bind, Except.bind] at h
  cases hi : nvInt? r with
  | none => rw [hi] at h; cases h
  | some i =>
    rw [hi] at h
    simp only at h
    split at h
    · cases h
    · next hneg =>
      simp only [Except.ok.injEq] at h
      congr 1
      omega

/-- `range(a)` for an argument that gives the integer `b ≥ 0` -/
theorem evalE_range1 (Φ : Funs) (f : Nat) (σ : Env) (μ μ' : Heap) (C : Ctx) (a : Expr) (r : NV) (b : Nat)
    (ha : evalE Φ (f + 1) σ μ C a = .ok (.num r, μ')) (hb : nvInt? r = some (b : Int)) :
    evalE Φ (f + 3) σ μ C (.range [a]) = .ok (.list μ'.length, μ' ++ [rangeVals b]) := by
  rw [evalE_range, evalEs_cons, ha]
  show (do let (vs, μ2) ← evalEs Φ (f + 1) σ μ' C []; _) = _
  rw [evalEs_nil]
  simp only [pure, Except.pure, List.mapM_cons, List.mapM_nil, bind, Except.bind, asNum, hb, alloc]
  simp [rangeVals]

theorem evalE_rangeN (Φ : Funs) (f : Nat) (σ : Env) (μ : Heap) (C : Ctx) (n : Nat) (r : NV)
    (hr : opEval C .round [cvtReal (.q (n : Int) 1)] = .ok r) (hidx : asIndex (.num r) = .ok n) :
    evalE Φ (f + 5) σ μ C (.range [.op .round [.num (.q (n : Int) 1)]]) = .ok (.list μ.length, μ ++ [rangeVals n]) := by
  -- 5: range → evalEs → round → evalEs → num
  refine evalE_range1 Φ (f + 2) σ μ μ C _ r n ?_ (nvInt_of_asIndex hidx)
  rw [evalE_op, evalEs_cons, evalE_num]
  simp only [bind, Except.bind]
  rw [evalEs_nil]
  simp only [pure, Except.pure, List.mapM_cons, List.mapM_nil, bind, Except.bind, asNum, List.map_cons, List.map_nil, hr]

theorem evalE_range_inv (Φ : Funs) (f : Nat) (σ : Env) (μ : Heap) (C : Ctx) (n : Nat) (r : NV) (iv : Val) (μ1 : Heap)
    (hr : opEval C .round [cvtReal (.q (n : Int) 1)] = .ok r) (hidx : asIndex (.num r) = .ok n)
    (hev : evalE Φ f σ μ C (.range [.op .round [.num (.q (n : Int) 1)]]) = .ok (iv, μ1)) :
    iv = .list μ.length ∧ μ1 = μ ++ [rangeVals n] := by
  have h1 : evalE Φ (f + 5) σ μ C _ = .ok (iv, μ1) := Fpy.Xform.evalE_fuel_mono (Nat.le_add_right f 5) hev (by simp)
  rw [evalE_rangeN Φ f σ μ C n r hr hidx] at h1
  cases h1
  exact ⟨rfl, rfl⟩

theorem rangeVals_get (n i : Nat) : (rangeVals n)[i]? = if i < n then some (intVal (Int.ofNat i)) else none := by
  by_cases h : i < n
  · simp [rangeVals, h]
  · simp [rangeVals, h]

theorem range_drop (n i : Nat) (h : i < n) : (List.range n).drop i = i :: (List.range n).drop (i + 1) := by
  rw [List.drop_eq_getElem_cons (by simpa using h)]
  simp

theorem range_drop_ge (n i : Nat) (h : ¬ i < n) : (List.range n).drop i = [] := by
  apply List.drop_eq_nil_of_le
  simp; omega

theorem carrier_ne_it_k (M : List String) (hMT : ∀ x, x ∈ M → isTmpL x = false) : carrier M ≠ "%it" ∧ carrier M ≠ "%k" := by
  match M with
  | [] => simp [carrier]
  | [x] =>
    have := isTmpL_ne (hMT x (by simp))
    exact ⟨this.2.1, this.2.2.1⟩
  | x :: x2 :: rest => simp [carrier]

/-- what the three loop-like statements know while they run: the variables defined before (`G`), the carried variables
`M`, the names `S` on which the FPCore environment stands for the source state, the condition `c`, the compiled
continuation `k`, the properties in force and the literals the compiled shape writes -/
structure LoopCtx (G M S : List String) (c : LExpr) (k : FExpr) (P : Props) (C : Ctx) (r0 : NV) : Prop where
  gNT : ∀ y, y ∈ G → isTmpL y = false
  mG : ∀ x, x ∈ M → x ∈ G
  mS : ∀ x, x ∈ M → x ∈ S
  sG : ∀ y, y ∈ S → isTmpL y = false → y ∈ G
  cS : ∀ x, x ∈ c.vars → x ∈ S
  cG : ∀ x, x ∈ c.vars → x ∈ G
  kS : ∀ x, x ∈ fvF k → x ∈ S
  ctx : P.toCtx = .ok C
  zero : opEval C .round [cvtReal (.q 0 1)] = .ok r0
  lits : CtxLits C M.length
  litsI : LitsP (P.update intProps) M.length

section
variable {G M S : List String} {c : LExpr} {k : FExpr} {P : Props} {C : Ctx} {r0 : NV} (L : LoopCtx G M S c k P C r0)
include L

theorem LoopCtx.mNT : ∀ x, x ∈ M → isTmpL x = false := fun x hx => L.gNT x (L.mG x hx)

theorem loop_exit {ρ1 σ' : Env} {v : Val} (hrel : CarryRel M S ρ1 σ') (hb : Bound G σ') (hw : KHyp (AgreeL (fvF k)) P k σ' v) :
    Conv ρ1 P (carryIn M k) v :=
  conv_carryIn L.ctx hrel L.lits L.mNT (fun x hx => hb x (L.mG x hx)) (fun ρ2 hA2 => hw ρ2 (hA2.mono L.kS))

theorem loop_cond (Φ : Funs) {ρ1 σ : Env} {μ μ1 : Heap} {f : Nat} {cv : Val} (hrel : CarryRel M S ρ1 σ)
    (hev : evalE Φ f σ μ C c.toLang = .ok (cv, μ1)) : Conv ρ1 P (carryCond M c) cv :=
  conv_carryCond L.ctx Φ hrel L.litsI L.cS (fun x hx => L.gNT x (L.cG x hx)) hev

theorem loop_step {A : List String} (hmut : ∀ y, y ∈ A → y ∈ G → y ∈ M)
    {ρ1 σ σb : Env} (hrel : CarryRel M S ρ1 σ) (hbb : Bound G σb) (hkeep : ∀ x, x ∉ A → σb.get? x = σ.get? x) :
    CarryRel M S (ρ1.set (carrier M) (carried M σb r0)) σb :=
  CarryRel.step hrel.agree (fun x hx => hbb x (L.mG x hx))
    (fun y hy ht hyM => hkeep y (fun ha => hyM (hmut y ha (L.sG y hy ht))))

end

/-- `k0`, `val`: the body of a loop-like statement hands back `carryRet M`, a branch of an `if` hands back `ifEnd ch` -/
theorem BlockSim.run {G : List String} {body : List LStmt} {k0 B : FExpr} (hS : BlockSim G body (some k0) B)
    {Φ : Funs} {g : Nat} {σ : Env} {μ μ' : Heap} {C : Ctx} {o : Outcome} {P : Props} {val : Env → Val}
    (hev : evalB Φ g σ μ C (LStmt.toLangs body) = .ok (o, μ')) (hG : ∀ y, y ∈ G → isTmpL y = false) (hb : Bound G σ)
    (hP : P.toCtx = .ok C) (hl : LStmt.litsL G P body)
    (hval : ∀ σb ρ', Bound (LStmt.gammaL G body) σb → AgreeL (fvF k0) ρ' σb → Conv ρ' P k0 (val σb)) :
    HeapExt μ μ' ∧ ∃ σb, o = .normal σb ∧ Bound (LStmt.gammaL G body) σb ∧
      (∀ x, x ∉ LStmt.asgL body → σb.get? x = σ.get? x) ∧
      ∀ ρ2, AgreeL (fvF B) ρ2 σ → Conv ρ2 P B (val σb) := by
  obtain ⟨hext, hran, hsim⟩ := hS Φ g σ μ C o μ' P hev hG hb hP hl
  obtain ⟨σb, rfl, hbnd, hkeep⟩ := hran.of_some
  exact ⟨hext, σb, rfl, hbnd, hkeep, fun ρ2 hA => (hsim ρ2 hA).normal_elim (fun ρ' hA' => hval σb ρ' hbnd hA')⟩

section
variable (Φ : Funs) {G M S : List String} {c : LExpr} {k : FExpr} {P : Props} {C : Ctx} {r0 : NV} (L : LoopCtx G M S c k P C r0)
include L

/-- one pass of the body, compiled where `G' ⊇ G` is defined (`x :: G` in a `for`): from an environment that carries
`M` for the state before, `carryIn M B` gives what is carried after -/
theorem loop_body {G' S' : List String} {body : List LStmt} {B : FExpr} (hS : BlockSim G' body (some (carryRet M)) B)
    (hl : LStmt.litsL G' P body) (hBS : ∀ y, y ∈ fvF B → y ∈ S') (hGG : ∀ y, y ∈ G → y ∈ G')
    (hG' : ∀ y, y ∈ G' → isTmpL y = false) {g : Nat} {σ : Env} {μ μ' : Heap} {o : Outcome}
    (hev : evalB Φ g σ μ C (LStmt.toLangs body) = .ok (o, μ')) (hb : Bound G' σ) :
    HeapExt μ μ' ∧ ∃ σb, o = .normal σb ∧ Bound G σb ∧ (∀ x, x ∉ LStmt.asgL body → σb.get? x = σ.get? x) ∧
      ∀ ρ1, CarryRel M S' ρ1 σ → Conv ρ1 P (carryIn M B) (carried M σb r0) := by
  have hGg : ∀ y, y ∈ G → y ∈ LStmt.gammaL G' body := fun y hy => gammaL_mono body G' y (hGG y hy)
  obtain ⟨hext, σb, rfl, hbnd, hkeep, hrunB⟩ := hS.run hev hG' hb L.ctx hl
    (fun σb ρ' hbnd hA' => conv_carryRet L.ctx L.zero hA' L.mNT (fun y hy => hbnd y (hGg y (L.mG y hy))))
  exact ⟨hext, σb, rfl, fun y hy => hbnd y (hGg y hy), hkeep, fun ρ1 hrel =>
    conv_carryIn L.ctx hrel L.lits L.mNT (fun y hy => hb y (hGG y (L.mG y hy))) (fun ρ2 hA2 => hrunB ρ2 (hA2.mono hBS))⟩

theorem while_core {body : List LStmt} {B : FExpr}
    (hS : BlockSim G body (some (carryRet M)) B)
    (hl : LStmt.litsL G P body) (hBS : ∀ x, x ∈ fvF B → x ∈ S) (hmut : ∀ y, y ∈ LStmt.asgL body → y ∈ G → y ∈ M) :
    ∀ g (σ : Env) (μ : Heap) (o : Outcome) (μ' : Heap),
      evalS Φ g σ μ C (.while c.toLang (LStmt.toLangs body)) = .ok (o, μ') → Bound G σ →
      HeapExt μ μ' ∧ ∃ σ', o = .normal σ' ∧ Bound G σ' ∧ (∀ x, x ∉ LStmt.asgL body → σ'.get? x = σ.get? x) ∧
        ∀ ρ1, CarryRel M S ρ1 σ → ∀ v, KHyp (AgreeL (fvF k)) P k σ' v →
          ConvW ρ1 P (carryCond M c) [(carrier M, carryInit M, carryIn M B)] (carryIn M k) v := by
  intro g
  induction g with
  | zero => intro σ μ o μ' hev; simp [evalS] at hev
  | succ g ih =>
    intro σ μ o μ' hev hb
    rw [evalS_while] at hev
    obtain ⟨b, hcv, hrun⟩ := lcond_inv
      (fun μ1 => do
        let (o, μ'') ← evalB Φ g σ μ1 C (LStmt.toLangs body)
        match o with
        | .ret r => pure (.ret r, μ'')
        | .normal σ' => evalS Φ g σ' μ'' C (.while c.toLang (LStmt.toLangs body)))
      (fun μ1 => pure (.normal σ, μ1)) hev
    cases b with
    | false =>
      simp only [Bool.false_eq_true, if_false, pure, Except.pure, Except.ok.injEq, Prod.mk.injEq] at hrun
      obtain ⟨rfl, rfl⟩ := hrun
      exact ⟨HeapExt.refl _, σ, rfl, hb, fun _ _ => rfl, fun ρ1 hrel v hw =>
        convW_exit (loop_cond L Φ hrel hcv) (loop_exit L hrel hb hw)⟩
    | true =>
      simp only [if_true] at hrun
      obtain ⟨⟨o1, μ1⟩, h1, hrun⟩ := bind_ok hrun
      dsimp only at hrun
      obtain ⟨hext, σb, rfl, hbb, hkeep, cB⟩ := loop_body Φ L hS hl hBS (fun _ h => h) L.gNT h1 hb
      simp only at hrun
      obtain ⟨hext2, σ', rfl, hb', hkeep2, hconv⟩ := ih σb μ1 o μ' hrun hbb
      refine ⟨hext.trans hext2, σ', rfl, hb', fun x hx => by rw [hkeep2 x hx, hkeep x hx], fun ρ1 hrel v hw => ?_⟩
      exact convW_step (loop_cond L Φ hrel hcv) (cB ρ1 hrel) (hconv _ (loop_step L hmut hrel hbb hkeep) v hw)

theorem if1_core {t : List LStmt} {B : FExpr}
    (hS : BlockSim G t (some (carryRet M)) B)
    (hl : LStmt.litsL G P t) (hBS : ∀ x, x ∈ fvF B → x ∈ S) (hmut : ∀ y, y ∈ LStmt.asgL t → y ∈ G → y ∈ M)
    {f : Nat} {σ : Env} {μ μ' : Heap} {o : Outcome}
    (hev : evalS Φ (f + 1) σ μ C (.if1 c.toLang (LStmt.toLangs t)) = .ok (o, μ')) (hb : Bound G σ) :
    HeapExt μ μ' ∧ ∃ σ', o = .normal σ' ∧ Bound G σ' ∧ (∀ x, x ∉ LStmt.asgL t → σ'.get? x = σ.get? x) ∧
      ∀ ρ1, CarryRel M S ρ1 σ → ∀ v, KHyp (AgreeL (fvF k)) P k σ' v →
        Conv ρ1 P (bind1 (carrier M) (.ite (carryCond M c) (carryIn M B) (carryInit M)) (carryIn M k)) v := by
  have hbM : Bound M σ := fun x hx => hb x (L.mG x hx)
  rw [evalS_if1] at hev
  obtain ⟨b, hcv, hrun⟩ := lcond_inv (fun μ1 => evalB Φ f σ μ1 C (LStmt.toLangs t)) (fun μ1 => pure (.normal σ, μ1)) hev
  cases b with
  | false =>
    simp only [Bool.false_eq_true, if_false, pure, Except.pure, Except.ok.injEq, Prod.mk.injEq] at hrun
    obtain ⟨rfl, rfl⟩ := hrun
    refine ⟨HeapExt.refl _, σ, rfl, hb, fun _ _ => rfl, fun ρ1 hrel v hw => ?_⟩
    refine conv_let1 (conv_ite (loop_cond L Φ hrel hcv) (by simpa using conv_carryInit L.ctx hrel L.zero L.mS L.mNT hbM)) ?_
    exact loop_exit L (hrel.set_carrier hbM) hb hw
  | true =>
    simp only [if_true] at hrun
    obtain ⟨hext, σb, rfl, hbb, hkeep, cB⟩ := loop_body Φ L hS hl hBS (fun _ h => h) L.gNT hrun hb
    refine ⟨hext, σb, rfl, hbb, hkeep, fun ρ1 hrel v hw => ?_⟩
    refine conv_let1 (conv_ite (loop_cond L Φ hrel hcv) (by simpa using cB ρ1 hrel)) ?_
    exact loop_exit L (loop_step L hmut hrel hbb hkeep) hbb hw

theorem for_core {x : String} {n r : Nat} {body : List LStmt} {B : FExpr} (hxt : isTmpL x = false) (hxG : x ∉ G)
    (hS : BlockSim (x :: G) body (some (carryRet M)) B)
    (hl : LStmt.litsL (x :: G) P body)
    (hBS : ∀ y, y ∈ fvF B → y ∈ x :: S) (hmut : ∀ y, y ∈ LStmt.asgL body → y ∈ G → y ∈ M) :
    ∀ g (i : Nat) (σ : Env) (μ : Heap) (o : Outcome) (μ' : Heap),
      Lang.forLoop Φ g σ μ C r i (.var x) (LStmt.toLangs body) = .ok (o, μ') → μ[r]? = some (rangeVals n) → Bound G σ →
      HeapExt μ μ' ∧ ∃ σ', o = .normal σ' ∧ Bound G σ' ∧ (∀ y, y ∉ x :: LStmt.asgL body → σ'.get? y = σ.get? y) ∧
        ∀ ρ1, CarryRel M S ρ1 σ → ρ1.get? "%it" = some (.tuple (rangeVals n)) → ∀ v, KHyp (AgreeL (fvF k)) P k σ' v →
          ConvF ρ1 P "%k" (((List.range n).drop i).map fun j => [j])
            [(carrier M, carryInit M, bind1 x (.ref (.var "%it") [.var "%k"]) (carryIn M B))] (carryIn M k) v := by
  have hxM : x ∉ M := fun h => hxG (L.mG x h)
  obtain ⟨hx1, hx2, hx3, hx4, hx5⟩ := isTmpL_ne hxt
  intro g
  induction g with
  | zero => intro i σ μ o μ' hev; simp [Lang.forLoop] at hev
  | succ g ih =>
    intro i σ μ o μ' hev hμ hb
    rw [lforLoop_succ] at hev
    simp only [heapGet, hμ, bind, Except.bind, rangeVals_get] at hev
    by_cases hin : i < n
    · simp only [hin, if_true] at hev
      cases g with
      | zero => simp [bindPat] at hev
      | succ g2 =>
        rw [bindPat_var] at hev
        simp only at hev
        cases h1 : evalB Φ (g2 + 1) (σ.set x (intVal (Int.ofNat i))) μ C (LStmt.toLangs body) with
        | error err => rw [h1] at hev; cases hev
        | ok r1 =>
          obtain ⟨o1, μ1⟩ := r1
          rw [h1] at hev
          simp only at hev
          have hbx : Bound (x :: G) (σ.set x (intVal (Int.ofNat i))) := hb.cons_set x _
          have hGx : ∀ y, y ∈ x :: G → isTmpL y = false :=
            fun y hy => (List.mem_cons.1 hy).elim (fun e => e ▸ hxt) (L.gNT y)
          obtain ⟨hext, σb, rfl, hbb, hkeep, cB⟩ :=
            loop_body Φ L hS hl hBS (fun _ h => List.mem_cons_of_mem _ h) hGx h1 hbx
          simp only at hev
          obtain ⟨hext2, σ', rfl, hb', hkeep2, hconv⟩ := ih (i + 1) σb μ1 o μ' hev (hext r _ hμ) hbb
          have hkeepG : ∀ y, y ∉ x :: LStmt.asgL body → σb.get? y = σ.get? y := by
            intro y hy
            simp only [List.mem_cons, not_or] at hy
            rw [hkeep y hy.2, get?_set_ne hy.1]
          refine ⟨hext.trans hext2, σ', rfl, hb', fun y hy => by rw [hkeep2 y hy, hkeepG y hy], fun ρ1 hrel hit v hw => ?_⟩
          rw [range_drop n i hin, List.map_cons]
          have hrelk := hrel.set_tmp (t := "%k") (intVal (Int.ofNat i)) (by decide) (by decide)
          have hrelx := hrelk.set_src (intVal (Int.ofNat i)) hxM (Ne.symm hx1)
          have cref : Conv (ρ1.set "%k" (intVal (Int.ofNat i))) P (.ref (.var "%it") [.var "%k"]) (intVal (Int.ofNat i)) :=
            conv_ref_var (by rw [get?_set_ne (by decide)]; exact hit) (get?_set_self _ _ _)
              (by rw [rangeVals_get]; simp [hin])
          have hmutx : ∀ y, y ∈ x :: LStmt.asgL body → y ∈ G → y ∈ M :=
            fun y hy hyG => hmut y ((List.mem_cons.1 hy).resolve_left fun e => hxG (e ▸ hyG)) hyG
          -- the body runs where `x` is bound (`hrelx`); the next round starts from the relation without it (`hrelk`): `x ∉ S`
          -- (`sG`, `hxG`), so `CarryRel M S` does not see the target
          refine convF_step (conv_let1 cref (cB _ hrelx)) (hconv _ (loop_step L hmutx hrelk hbb hkeepG) ?_ v hw)
          rw [get?_set_ne (fun e => (carrier_ne_it_k M L.mNT).1 e.symm), get?_set_ne (by decide)]
          exact hit
    · simp only [hin, if_false, pure, Except.pure, Except.ok.injEq, Prod.mk.injEq] at hev
      obtain ⟨rfl, rfl⟩ := hev
      refine ⟨HeapExt.refl _, σ, rfl, hb, fun _ _ => rfl, fun ρ1 hrel hit v hw => ?_⟩
      rw [range_drop_ge n i hin]
      exact convF_done (loop_exit L hrel hb hw)

end

end Fpy.C12
