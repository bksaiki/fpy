/-
Helper lemmas for C14: soundness of `AbstractFormat`'s operators (`+`, `-`, unary `-`, `abs`, `|`, `<=`, `*`)
as statements about the integer view `MemAt` of a member; Props/C14 picks the scale and treats the
special values.  For the product, `mul_fin` at the end already picks the scales (one per factor) and speaks of
`finMem`.
-/
import Fpy.Proof.AbsFmt
import Fpy.Proof.Except
namespace Fpy
open RF
namespace AbsFmt

theorem expMin_some {a b : Option Int} {e : Int} (h : expMin a b = some e) :
    ∃ ea eb, a = some ea ∧ b = some eb ∧ e = min ea eb := by
  cases a <;> cases b <;> simp [expMin] at h
  exact ⟨_, _, rfl, rfl, h.symm⟩

theorem expMin_weaken (p q : Option Int) : ExpLe (expMin p q) p ∧ ExpLe (expMin p q) q := by
  refine ⟨fun e' h => ?_, fun e' h => ?_⟩ <;> obtain ⟨ea, eb, hp, hq, he⟩ := expMin_some h
  · exact ⟨ea, hp, he ▸ Int.min_le_left ..⟩
  · exact ⟨eb, hq, he ▸ Int.min_le_right ..⟩

theorem le_expMin {g : Int} {p q : Option Int} (hp : ∀ e, p = some e → g ≤ e) (hq : ∀ e, q = some e → g ≤ e)
    (e : Int) (h : expMin p q = some e) : g ≤ e := by
  obtain ⟨ea, eb, hea, heb, rfl⟩ := expMin_some h
  exact Int.le_min.2 ⟨hp ea hea, hq eb heb⟩

theorem precMax_some {p q : Option Nat} {r : Nat} (h : precMax p q = some r) :
    ∃ a b, p = some a ∧ q = some b ∧ r = max a b := by
  cases p <;> cases q <;> simp [precMax] at h
  exact ⟨_, _, rfl, rfl, h.symm⟩

theorem precMax_weaken (p q : Option Nat) : PrecLe p (precMax p q) ∧ PrecLe q (precMax p q) := by
  refine ⟨fun q' h => ?_, fun q' h => ?_⟩ <;> obtain ⟨a, b, hp, hq, hr⟩ := precMax_some h
  · exact ⟨a, hp, hr ▸ Nat.le_max_left ..⟩
  · exact ⟨b, hq, hr ▸ Nat.le_max_right ..⟩

theorem expGt_false {a b : Option Int} (h : expGt b a = false) : ExpLe b a := by
  intro eb hb
  cases a <;> cases b <;> simp [expGt] at h hb
  subst hb
  exact ⟨_, rfl, h⟩

theorem precAdd_some {p q : Option Nat} {r : Nat} (h : precAdd p q = some r) :
    ∃ a b, p = some a ∧ q = some b ∧ r = a + b := by
  cases p <;> cases q <;> simp [precAdd] at h
  exact ⟨_, _, rfl, rfl, h.symm⟩

theorem expAdd_some {p q : Option Int} {r : Int} (h : expAdd p q = some r) :
    ∃ a b, p = some a ∧ q = some b ∧ r = a + b := by
  cases p <;> cases q <;> simp [expAdd] at h
  exact ⟨_, _, rfl, rfl, h.symm⟩

theorem sumPrec_sound {pos neg : Bnd} {E : Option Int} {prec : Option Nat} {g R : Int}
    (h : sumPrec pos neg E = .ok prec) (hp : pos.okAt g) (hn : neg.okAt g) (hg : ∀ e, E = some e → g ≤ e)
    (hub : pos.side false g R) (hlb : neg.side true g R) (hm : ∀ e, E = some e → IMul e g R) : IW prec E g R := by
  unfold sumPrec at h
  split at h
  · -- finite bounds and exponent: `|R| ≤ max(pos, |neg|)`, which is what gets normalised
    rename_i P N e
    split at h
    · cases h
    · rename_i mb hmb
      cases h
      have hM := max2_sc P N.abs g hp (abs_okAt hn)
      have habs := abs_sc_ge N g
      have hub : R ≤ P.sc g := hub
      have hlb : -R ≤ -N.sc g := hlb
      exact IW_of_normalize hmb hM.1 (hg e rfl) (hm e rfl) (by omega) (by omega) (Nat.le_max_left ..)
  · cases h
    cases E with
    | none => exact IW_free g R
    | some e =>
      obtain ⟨k, hk⟩ := hm e rfl
      exact IW_of_mul none e g R k (hg e rfl) hk nofun

/-- for any format `c` whose bounds, exponent and precision are computed as `__add__` does:
`__sub__` computes them so from `a` and `-b`, guarding against a `nan` bound -/
theorem MemAt.sum {a b c : AbsFmt} {g X Y : Int} (ha : MemAt a g X) (hb : MemAt b g Y)
    (hbnd : ∀ s, (a.bnd s).add (b.bnd s) ≠ .nan → c.bnd s = (a.bnd s).add (b.bnd s))
    (hexp : c.exp = expMin a.exp b.exp) (hprec : sumPrec c.pos c.neg c.exp = .ok c.prec) :
    MemAt c g (X + Y) := by
  have hs : ∀ s, (c.bnd s).okAt g ∧ (c.bnd s).side s g (X + Y) := fun s => by
    have := Bnd.add_side (ha.ok s) (hb.ok s) (ha.side s) (hb.side s)
    rwa [← hbnd s (Bnd.side_ne_nan this.2)] at this
  have hg : ∀ e, c.exp = some e → g ≤ e := fun e he => le_expMin ha.exp hb.exp e (hexp ▸ he)
  refine ⟨fun s => (hs s).1, fun s => (hs s).2,
    sumPrec_sound hprec (hs false).1 (hs true).1 hg (hs false).2 (hs true).2 fun e he => ?_, hg⟩
  obtain ⟨ea, eb, hea, heb, hmin⟩ := expMin_some (hexp ▸ he)
  exact IMul_add (IMul_weaken (ha.imul hea) (hg e he) (by omega)) (IMul_weaken (hb.imul heb) (hg e he) (by omega))

/-- the special-value half of `__add__` (and of `__sub__`, which computes the same flags from `a` and `-b`): an operand
is an infinity or NaN, and only such operands need be members -/
theorem add_special {a b c : AbsFmt} (hpi : c.posInf = (a.posInf || b.posInf)) (hni : c.negInf = (a.negInf || b.negInf))
    (hnan : c.nan = (a.nan || b.nan || (a.posInf && b.negInf) || (a.negInf && b.posInf))) {x y : FV}
    (hx : x.isNar = true → γ a x) (hy : y.isNar = true → γ b y) (hxy : x.isNar = true ∨ y.isNar = true) :
    γ c (x.add y) := by
  cases x with
  | nan s =>
    have : (FV.nan s).add y = .nan false := by cases y <;> rfl
    have hx := hx rfl
    rw [this]; simp only [γ] at hx ⊢; simp [hnan, hx]
  | inf s =>
    have hx := hx rfl
    cases y with
    | nan t => have hy := hy rfl; simp only [FV.add, γ] at hy ⊢; simp [hnan, hy]
    | fin q => cases s <;> simp only [FV.add, γ] at hx ⊢ <;> simp [hpi, hni, hx]
    | inf t =>
      have hy := hy rfl
      cases s <;> cases t <;> simp only [FV.add, γ] at hx hy ⊢ <;> simp [hpi, hni, hnan, hx, hy]
  | fin p =>
    cases y with
    | nan t => have hy := hy rfl; simp only [FV.add, γ] at hy ⊢; simp [hnan, hy]
    | inf t => have hy := hy rfl; cases t <;> simp only [FV.add, γ] at hy ⊢ <;> simp [hpi, hni, hy]
    | fin q => rcases hxy with h | h <;> cases h

/-- negation of an infinity or NaN: the flags of `__neg__` are exact (the sign of zero is where it is not, F29) -/
theorem neg_special {a : AbsFmt} {x : FV} (hx : γ a x) (h : x.neg.isNar = true) : γ a.neg' x.neg := by
  cases x with
  | fin p => cases h
  | inf s => cases s <;> exact hx
  | nan s => exact hx

theorem MemAt.neg {a : AbsFmt} {g X : Int} (h : MemAt a g X) : MemAt a.neg' g (-X) :=
  -- `__neg__` swaps the two bounds
  have e : ∀ s, a.neg'.bnd s = (a.bnd !s).neg := fun s => by cases s <;> rfl
  ⟨fun s => e s ▸ Bnd.neg_okAt (h.ok !s), fun s => e s ▸ Bnd.neg_side (h.side !s), IW_neg h.iw, h.exp⟩

/-- `Z` is `|X|` -/
theorem MemAt.abs {a : AbsFmt} {g X Z : Int} (h : MemAt a g X) (hZ : Z = X ∨ Z = -X) (h0 : 0 ≤ Z) :
    MemAt a.abs' g Z := by
  refine ⟨fun s => ?_, fun s => ?_, ?_, h.exp⟩
  · cases s
    · exact Bnd.outer_okAt (s := false) (h.ok false) (Bnd.neg_okAt (h.ok true))
    · exact Or.inl rfl
  · cases s
    · exact Bnd.outer_side (s := false) (h.ok false) (Bnd.neg_okAt (h.ok true)) (Bnd.side_ne_nan (h.side false))
        (hZ.elim (fun e => Or.inl (e ▸ h.side false)) fun e => Or.inr (e ▸ Bnd.neg_side (s := false) (h.side true)))
    · exact Bnd.fin_zero_side (Int.neg_nonpos_of_nonneg h0)
  · rcases hZ with rfl | rfl
    · exact h.iw
    · exact IW_neg h.iw

theorem MemAt.union {a b : AbsFmt} {g X : Int} (h : MemAt a g X ∨ MemAt b g X) (hga : g ≤ a.lvl) (hgb : g ≤ b.lvl)
    (hn : ∀ s, a.bnd s ≠ .nan) : MemAt (a.union b) g X := by
  have e : ∀ s, (a.union b).bnd s = Bnd.outer s (a.bnd s) (b.bnd s) := fun s => by cases s <;> rfl
  refine ⟨fun s => e s ▸ Bnd.outer_okAt (okAt_of_le_lvl hga s) (okAt_of_le_lvl hgb s),
    fun s => e s ▸ Bnd.outer_side (okAt_of_le_lvl hga s) (okAt_of_le_lvl hgb s) (hn s) (h.imp (·.side s) (·.side s)), ?_,
    le_expMin (le_of_le_lvl hga) (le_of_le_lvl hgb)⟩
  rcases h with m | m
  · exact IW_weaken m.iw (precMax_weaken ..).1 (expMin_weaken ..).1
  · exact IW_weaken m.iw (precMax_weaken ..).2 (expMin_weaken ..).2

theorem cutoff_sc (ea g : Int) (pb : Nat) :
    (⟨false, ea, 2 ^ pb⟩ : RF).sc g = 2 ^ pb * 2 ^ (ea - g).toNat := by
  unfold sc; simp [Int.natCast_pow]

theorem isFloat_false {b : Bnd} (h : b.isFloat = false) : ∃ p, b = .fin p := by
  cases b
  · exact ⟨_, rfl⟩
  all_goals cases h

/-- a multiple of `2^ea` within the cutoff `±2^pb · 2^ea` has `pb` digits: fewer than `2^pb` units of
`2^ea`, or it is the cutoff itself — one digit, `pb` places up -/
theorem IW_of_le_cutoff {pb : Nat} {ea g X : Int} (hpb : pb ≠ 0) (hg : g ≤ ea) (hX : IMul ea g X)
    (h1 : X ≤ 2 ^ pb * 2 ^ (ea - g).toNat) (h2 : -X ≤ 2 ^ pb * 2 ^ (ea - g).toNat) :
    IW (some pb) (some ea) g X := by
  have hexp : (ea + pb - g).toNat = pb + (ea - g).toNat := by
    rw [Int.add_comm, Int.add_sub_assoc, Int.toNat_add (Int.natCast_nonneg _) (Int.sub_nonneg_of_le hg), Int.toNat_natCast]
  obtain ⟨k, rfl⟩ := hX
  have hkle : k.natAbs ≤ 2 ^ pb := natAbs_le_of_mul_le (pw_pos (ea - g).toNat) (by push_cast; omega)
  by_cases hlt : k.natAbs < 2 ^ pb
  · exact IW_of_mul (some pb) ea g _ k hg rfl (fun p hp => by cases hp; exact hlt)
  · refine ⟨1, ea + pb, Int.le_trans hg (Int.le_add_of_nonneg_right (Int.natCast_nonneg pb)), ?_, fun p hp => ?_,
      fun e' he' => ?_⟩
    · rw [natAbs_mul_pow, Nat.le_antisymm hkle (Nat.le_of_not_lt hlt), Nat.one_mul, hexp, Nat.pow_add]
    · cases hp
      exact Nat.one_lt_two_pow hpb
    · cases he'
      exact Int.le_add_of_nonneg_right (Int.natCast_nonneg pb)

/-- a bound that passed `_is_contained_in`'s test against the cutoff `2^pb · 2^ea` is finite and at most the cutoff -/
theorem le_cutoff {b : Bnd} {pb : Nat} {ea g Y : Int} (hg : g ≤ ea) (hok : b.okAt g) (hs : b.side false g Y)
    (h : ¬ (b.isFloat || Bnd.gt b (.fin ⟨false, ea, 2 ^ pb⟩)) = true) : Y ≤ 2 ^ pb * 2 ^ (ea - g).toNat := by
  obtain ⟨hf, hgt⟩ := Bool.or_eq_false_iff.1 (Bool.eq_false_iff.2 h)
  obtain ⟨P, rfl⟩ := isFloat_false hf
  have hle : P.sc g ≤ _ := Bnd.leS_of_not_beyond (s := false) (u := .fin ⟨false, ea, 2 ^ pb⟩) (Or.inr hg) hok nofun nofun hgt
  rw [cutoff_sc] at hle
  exact Int.le_trans hs hle

/-- the precision test of `_is_contained_in`, once entered, is sound -/
theorem precFits_sound {a : AbsFmt} {pb : Nat} (hpb : pb ≠ 0) {g X : Int} (hm : MemAt a g X)
    (hfit : precFits a pb = true)
    (E' : Option Int) (hE : ExpLe E' a.exp) : IW (some pb) E' g X := by
  unfold precFits at hfit
  split at hfit
  · -- `a` has more digits than `pb`: the test passed because `a.pos` and `|a.neg|` are within the cutoff, so `±X` are
    split at hfit
    · cases hfit
    · rename_i ea hae
      simp only at hfit
      split at hfit
      · cases hfit
      · rename_i h1
        split at hfit
        · cases hfit
        · rename_i h2
          have hg : g ≤ ea := hm.exp ea hae
          exact IW_weaken (IW_of_le_cutoff hpb hg (hm.imul hae) (le_cutoff hg (hm.ok false) (hm.side false) h1)
              (le_cutoff hg (Bnd.abs_okAt (hm.ok true)) (Bnd.abs_side_neg (hm.side true)) (Bnd.abs_isFloat a.neg ▸ h2)))
            (PrecLe.refl _) (hae ▸ hE)
  · rename_i hgt
    refine IW_weaken hm.iw (fun q' hq' => ?_) hE
    cases hq'
    cases hp : a.prec with
    | none => rw [hp] at hgt; exact absurd rfl hgt
    | some pa => rw [hp] at hgt; exact ⟨pa, rfl, Nat.le_of_not_lt fun h => hgt (decide_eq_true h)⟩

/-- the special-value test of `_is_contained_in`: whatever special value `a` has, `b` has -/
theorem specials_sound {a b : AbsFmt} (h : specialsContainedIn a b = true) :
    (a.posInf = true → b.posInf = true) ∧ (a.negInf = true → b.negInf = true) ∧ (a.nan = true → b.nan = true) ∧
    (a.negZero = true → b.negZero = true) := by
  simp only [specialsContainedIn, Bool.not_eq_true', Bool.or_eq_false_iff, Bool.and_eq_false_imp, Bool.not_eq_false'] at h
  exact ⟨h.1.1.1, h.1.1.2, h.1.2, h.2⟩

theorem le_unfold {a b : AbsFmt} (h : a.le b = true) :
    specialsContainedIn a b = true ∧ expGt b.exp a.exp = false ∧
      (∀ s, Bnd.beyond (!s) (b.bnd s) (a.bnd s) = false) ∧ (∀ pb, b.prec = some pb → precFits a pb = true) := by
  unfold AbsFmt.le at h
  cases h1 : specialsContainedIn a b <;> simp [h1] at h
  cases h2 : expGt b.exp a.exp <;> simp [h2] at h
  cases h3 : Bnd.lt b.pos a.pos <;> simp [h3] at h
  cases h4 : Bnd.gt b.neg a.neg <;> simp [h4] at h
  refine ⟨rfl, rfl, fun s => by cases s; exact h3; exact h4, fun pb hpb => ?_⟩
  rw [hpb] at h; exact h

theorem MemAt.le {a b : AbsFmt} (hb : b.WF) (h : a.le b = true) {g X : Int} (hm : MemAt a g X)
    (hgb : g ≤ b.lvl) : MemAt b g X := by
  obtain ⟨_, hexp, hbnd, hprec⟩ := le_unfold h
  have ob := okAt_of_le_lvl hgb
  -- `b`'s bound is not nearer than `a`'s, on either side
  refine ⟨ob, fun s => (Bnd.leS_flip (Bnd.leS_of_not_beyond (hm.ok s) (ob s) (Bnd.side_ne_nan (hm.side s))
    (wf_ne_nan hb s) (hbnd s))).side (hm.side s), ?_, le_of_le_lvl hgb⟩
  cases hbprec : b.prec with
  | none => exact IW_weaken hm.iw nofun (expGt_false hexp)
  | some pb =>
    exact precFits_sound (fun h0 => hb.2.2 (by rw [hbprec, h0])) hm (hprec pb hbprec) b.exp (expGt_false hexp)

end AbsFmt

namespace Bnd

theorem mul_okAt (u v : Bnd) (g1 g2 : Int) (hu : u.okAt g1) (hv : v.okAt g2) : (u.mul v).okAt (g1 + g2) := by
  have hz : (Bnd.fin (RF.ofInt 0)).okAt (g1 + g2) := Or.inl rfl
  cases u with
  | nan =>
    cases v with
    | fin q => simp only [Bnd.mul]; split <;> first | exact hz | trivial
    | inf t => trivial
    | nan => trivial
  | inf s =>
    cases v with
    | fin q => simp only [Bnd.mul]; split <;> first | exact hz | trivial
    | inf t => trivial
    | nan => trivial
  | fin p =>
    cases v with
    | fin q => exact (mul_sc p q g1 g2 hu hv).1
    | inf t => simp only [Bnd.mul]; split <;> first | exact hz | trivial
    | nan => simp only [Bnd.mul]; split <;> first | exact hz | trivial

theorem zero_or_sign {p : RF} {g X : Int} {s : Bool} (h0 : 0 ≤ toSide s X) (h : toSide s X ≤ toSide s (p.sc g)) :
    (p.c = 0 ∧ toSide s X = 0) ∨ (p.c ≠ 0 ∧ p.s = s) := by
  by_cases hc : p.c = 0
  · rw [sc_zero p g hc, toSide_zero] at h
    exact Or.inl ⟨hc, Int.le_antisymm h h0⟩
  · exact Or.inr ⟨hc, s_eq_of_toSide_nonneg hc (Int.le_trans h0 h)⟩

/-- all sign cases of `_bound_product` at once; a zero bound times an unbounded one is the exact bound zero -/
theorem mul_side {s t : Bool} {u v : Bnd} {g1 g2 X Y : Int} (hu : u.okAt g1) (hv : v.okAt g2)
    (hX : 0 ≤ toSide s X) (hY : 0 ≤ toSide t Y) (h1 : u.side s g1 X) (h2 : v.side t g2 Y) :
    (u.mul v).side (s != t) (g1 + g2) (X * Y) := by
  cases u with
  | nan => exact h1.elim
  | fin p =>
    cases v with
    | nan => exact h2.elim
    | fin q =>
      show toSide (s != t) (X * Y) ≤ toSide (s != t) ((p.mul q).sc (g1 + g2))
      rw [(mul_sc p q g1 g2 hu hv).2, toSide_mul, toSide_mul]
      exact Int.mul_le_mul h1 h2 hY (Int.le_trans hX h1)
    | inf b =>
      cases h2
      rcases zero_or_sign hX h1 with ⟨hc, h0⟩ | ⟨hc, hs⟩
      · simp only [Bnd.mul, if_pos hc]
        exact fin_zero_side (by rw [toSide_mul, h0, Int.zero_mul]; exact Int.le_refl 0)
      · simp only [Bnd.mul, if_neg hc]
        exact congrArg (· != t) hs
  | inf a =>
    cases h1
    cases v with
    | nan => exact h2.elim
    | inf b => cases h2; rfl
    | fin q =>
      rcases zero_or_sign hY h2 with ⟨hc, h0⟩ | ⟨hc, hs⟩
      · simp only [Bnd.mul, if_pos hc]
        exact fin_zero_side (by rw [toSide_mul, h0, Int.mul_zero]; exact Int.le_refl 0)
      · simp only [Bnd.mul, if_neg hc]
        show (q.s != s) = (s != t)
        rw [hs]; cases s <;> cases t <;> rfl

theorem mul_side_far {s t : Bool} {u v : Bnd} {g1 g2 X Y : Int} (hu : u.okAt g1) (hv : v.okAt g2)
    (hX : 0 ≤ toSide s X) (hY : 0 ≤ toSide t Y) (h1 : u.side s g1 X) (h2 : v.side (!t) g2 0) :
    (u.mul v).side (s != !t) (g1 + g2) (X * Y) := by
  have := mul_side hu hv hX (Int.le_of_eq (toSide_zero _).symm) h1 h2
  refine side_mono this ?_
  rw [toSide_mul, toSide_mul, toSide_zero, Int.mul_zero, toSide_not, Int.mul_neg]
  exact Int.neg_nonpos_of_nonneg (Int.mul_nonneg hX hY)

theorem max2_nan_left (v : Bnd) : Bnd.max2 .nan v = .nan := by
  unfold Bnd.max2; cases v <;> rfl

theorem min2_nan_left (v : Bnd) : Bnd.min2 .nan v = .nan := by
  unfold Bnd.min2; cases v <;> rfl

end Bnd

namespace AbsFmt

theorem bound_fin {a : AbsFmt} {B : RF} {g X : Int} (hB : a.bound = .fin B) (hm : MemAt a g X) :
    B.okAt g ∧ X ≤ B.sc g ∧ -X ≤ B.sc g := by
  have oa := Bnd.abs_okAt (hm.ok true)
  have nn := Bnd.side_ne_nan (hm.side false)
  have ok := Bnd.outer_okAt (s := false) (hm.ok false) oa
  have h1 := Bnd.outer_side (s := false) (hm.ok false) oa nn (Or.inl (hm.side false))
  have h2 := Bnd.outer_side (s := false) (hm.ok false) oa nn (Or.inr (Bnd.abs_side_neg (hm.side true)))
  rw [show Bnd.outer false (a.bnd false) (a.bnd true).abs = a.bound from rfl, hB] at ok h1 h2
  exact ⟨ok, h1, h2⟩

theorem maxval_sound {B : RF} {e : Int} {n : Nat} {g X : Int} (h : maxvalPrecision B e = .ok n)
    (hB : B.okAt g) (hg : g ≤ e) (hX : IMul e g X) (h1 : X ≤ B.sc g) (h2 : -X ≤ B.sc g) :
    IW (some n) (some e) g X := by
  unfold maxvalPrecision at h
  split at h
  · cases h
  · rename_i y hy
    cases h
    exact IW_of_normalize hy hB hg hX h1 h2 (Nat.le_refl _)

theorem effPrec_sound {a : AbsFmt} {p : Option Nat} (h : a.effectivePrec = .ok p) {g X : Int}
    (hm : MemAt a g X) : IW p a.exp g X := by
  have hw := hm.iw
  -- the branches that measure the bound
  have key : ∀ B e q, a.bound = .fin B → a.exp = some e → (maxvalPrecision B e).map some = .ok q → IW q a.exp g X := by
    intro B e q hbound hexp hq
    cases hmv : maxvalPrecision B e with
    | error err => rw [hmv] at hq; cases hq
    | ok n =>
      rw [hmv] at hq; cases hq
      obtain ⟨hBok, h1, h2⟩ := bound_fin hbound hm
      exact hexp ▸ maxval_sound hmv hBok (hm.exp e hexp) (hm.imul hexp) h1 h2
  unfold effectivePrec at h
  split at h
  · cases h
  · rename_i B e hprec hbound hexp
    exact key B e p hbound hexp h
  · rename_i p0 B e hprec hbound hexp
    split at h
    · exact key B e p hbound hexp h
    · cases h; rw [← hprec]; exact hw
  · cases h; exact hw

/-- the digits `__mul__` allows a product: the sum of the factors' digits, or the other factor's when one
factor has a single digit (is a power of two) -/
theorem mul_digits {ps po : Option Nat} {m1 m2 r : Nat} (h1 : ∀ p, ps = some p → m1 < 2 ^ p)
    (h2 : ∀ p, po = some p → m2 < 2 ^ p) (hm1 : m1 ≠ 0) (hm2 : m2 ≠ 0)
    (hr : (if ps == some 1 || po == some 1 then precMax ps po else precMax (precAdd ps po) (some 1)) = some r) :
    m1 * m2 < 2 ^ r := by
  by_cases hone : (ps == some 1 || po == some 1) = true
  · rw [if_pos hone] at hr
    obtain ⟨a, b, hps, hpo, hmax⟩ := precMax_some hr
    have ha := h1 a hps
    have hb := h2 b hpo
    rw [Bool.or_eq_true, beq_iff_eq, beq_iff_eq, hps, hpo] at hone
    rcases hone with h | h
    · cases h
      rw [Nat.le_antisymm (Nat.le_of_lt_succ ha) (Nat.pos_of_ne_zero hm1), Nat.one_mul]
      exact Nat.lt_of_lt_of_le hb (Nat.pow_le_pow_right (by decide) (hmax ▸ Nat.le_max_right ..))
    · cases h
      rw [Nat.le_antisymm (Nat.le_of_lt_succ hb) (Nat.pos_of_ne_zero hm2), Nat.mul_one]
      exact Nat.lt_of_lt_of_le ha (Nat.pow_le_pow_right (by decide) (hmax ▸ Nat.le_max_left ..))
  · rw [if_neg hone] at hr
    obtain ⟨s, one, hs, _, hmax⟩ := precMax_some hr
    obtain ⟨a, b, hps, hpo, hsum⟩ := precAdd_some hs
    have := Nat.mul_lt_mul'' (h1 a hps) (h2 b hpo)
    rw [← Nat.pow_add, ← hsum] at this
    exact Nat.lt_of_lt_of_le this (Nat.pow_le_pow_right (by decide) (hmax ▸ Nat.le_max_left ..))

theorem mul_prec_sound (ps po : Option Nat) (Ea Eb : Option Int) (g1 g2 X Y : Int) (hX : X ≠ 0) (hY : Y ≠ 0)
    (h1 : IW ps Ea g1 X) (h2 : IW po Eb g2 Y) :
    IW (if ps == some 1 || po == some 1 then precMax ps po else precMax (precAdd ps po) (some 1))
      (expAdd Ea Eb) (g1 + g2) (X * Y) := by
  obtain ⟨m1, e1, hg1, hm1, hp1, hE1⟩ := h1
  obtain ⟨m2, e2, hg2, hm2, hp2, hE2⟩ := h2
  have hm1ne : m1 ≠ 0 := fun h => hX (Int.natAbs_eq_zero.1 (by rw [hm1, h, Nat.zero_mul]))
  have hm2ne : m2 ≠ 0 := fun h => hY (Int.natAbs_eq_zero.1 (by rw [hm2, h, Nat.zero_mul]))
  refine ⟨m1 * m2, e1 + e2, Int.add_le_add hg1 hg2, ?_, fun r => mul_digits hp1 hp2 hm1ne hm2ne, fun E hE => ?_⟩
  · rw [Int.natAbs_mul, hm1, hm2, two_pow_add hg1 hg2]
    exact Nat.mul_mul_mul_comm ..
  · obtain ⟨ea, eb, hea, heb, hsum⟩ := expAdd_some hE
    exact hsum ▸ Int.add_le_add (hE1 ea hea) (hE2 eb heb)

theorem MemAt.mul {a b c : AbsFmt} (ha : a.WF) (hb : b.WF) (h : a.mul b = .ok c) {g1 g2 X Y : Int}
    (hx : MemAt a g1 X) (hy : MemAt b g2 Y) (hX : X ≠ 0) (hY : Y ≠ 0) : MemAt c (g1 + g2) (X * Y) := by
  obtain ⟨ps, hps, h⟩ := bind_ok h
  obtain ⟨po, hpo, hc⟩ := bind_ok h
  have hc := Except.ok.inj hc
  -- the bound of side `r` is the outermost of the two corners whose sides multiply to `r`
  have e : ∀ r, c.bnd r = Bnd.outer r ((a.bnd false).mul (b.bnd r)) ((a.bnd true).mul (b.bnd !r)) := fun r => by
    rw [← hc]; cases r <;> rfl
  have oc : ∀ s t, ((a.bnd s).mul (b.bnd t)).okAt (g1 + g2) := fun s t => Bnd.mul_okAt _ _ g1 g2 (hx.ok s) (hy.ok t)
  -- zero lies within every corner (on the side the signs give): the repaired bound product is never `nan`
  have zero : ∀ s t, ((a.bnd s).mul (b.bnd t)).side (s != t) (g1 + g2) (0 * 0) := fun s t =>
    Bnd.mul_side (hx.ok s) (hy.ok t) (Int.le_of_eq (toSide_zero s).symm) (Int.le_of_eq (toSide_zero t).symm)
      (wf_side ha s g1) (wf_side hb t g2)
  -- with `s`, `t` the sides of zero `X`, `Y` lie on: the corner on the same sides bounds `X·Y` on
  -- side `s xor t`, the corner with `b`'s other bound (which is beyond zero) on the other side
  have key : ∀ s t, 0 ≤ toSide s X → 0 ≤ toSide t Y →
      ((a.bnd s).mul (b.bnd t)).side (s != t) (g1 + g2) (X * Y) ∧
      ((a.bnd s).mul (b.bnd !t)).side (s != !t) (g1 + g2) (X * Y) := fun s t hsX htY =>
    ⟨Bnd.mul_side (hx.ok s) (hy.ok t) hsX htY (hx.side s) (hy.side t),
     Bnd.mul_side_far (hx.ok s) (hy.ok !t) hsX htY (hx.side s) (wf_side hb (!t) g2)⟩
  have corner : ∀ r, ((a.bnd false).mul (b.bnd r)).side r (g1 + g2) (X * Y) ∨
      ((a.bnd true).mul (b.bnd !r)).side r (g1 + g2) (X * Y) := by
    obtain ⟨s, hs⟩ := toSide_nonneg X
    obtain ⟨t, ht⟩ := toSide_nonneg Y
    have := key s t hs ht
    cases s <;> cases t <;> intro r <;> cases r
    · exact Or.inl this.1
    · exact Or.inl this.2
    · exact Or.inl this.2
    · exact Or.inl this.1
    · exact Or.inr this.2
    · exact Or.inr this.1
    · exact Or.inr this.1
    · exact Or.inr this.2
  refine ⟨fun r => ?_, fun r => ?_, ?_, ?_⟩
  · rw [e r]; exact Bnd.outer_okAt (oc false r) (oc true !r)
  · rw [e r]; exact Bnd.outer_side (oc false r) (oc true !r) (Bnd.side_ne_nan (zero false r)) (corner r)
  · rw [← hc]
    exact mul_prec_sound ps po a.exp b.exp g1 g2 X Y hX hY (effPrec_sound hps hx) (effPrec_sound hpo hy)
  · rw [← hc]; intro E hE
    obtain ⟨ea, eb, hea, heb, rfl⟩ := expAdd_some hE
    exact Int.add_le_add (hx.exp ea hea) (hy.exp eb heb)

/-- **product of finite members** — provided a `-0` product is covered by the computed
`has_neg_zero`. -/
theorem mul_fin (a b c : AbsFmt) (ha : a.WF) (hb : b.WF) (h : a.mul b = .ok c)
    (x y : RF) (hx : a.finMem x) (hy : b.finMem y)
    (hz : (x.mul y).c = 0 → (x.mul y).s = true → (a.negZero || b.negZero) = true) :
    c.finMem (x.mul y) := by
  by_cases hrc : (x.mul y).c = 0
  · obtain ⟨_, _, h⟩ := bind_ok h
    obtain ⟨_, _, hc⟩ := bind_ok h
    cases hc
    exact (finMem_zero _ _ hrc).2 (hz hrc)
  · obtain ⟨hxc, hyc⟩ := mul_c_ne hrc
    have hgx := Int.min_le_left x.exp a.lvl
    have hgy := Int.min_le_left y.exp b.lvl
    have hprod := mul_sc x y _ _ (Or.inr hgx) (Or.inr hgy)
    have hm := MemAt.mul ha hb h (memAt_of_finMem_ne hx hxc hgx (Int.min_le_right ..))
      (memAt_of_finMem_ne hy hyc hgy (Int.min_le_right ..)) (fun h0 => hxc ((sc_eq_zero_iff x _).1 h0))
      (fun h0 => hyc ((sc_eq_zero_iff y _).1 h0))
    rw [← hprod.2] at hm
    exact hm.finMem hprod.1 fun h => absurd h hrc

end AbsFmt
end Fpy
