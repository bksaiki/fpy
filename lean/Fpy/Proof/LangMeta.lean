/-
Fuel monotonicity of the evaluator `Fpy.Lang.evalE … evalB` (Model/Lang/Core.lean): a result other than `.outOfFuel`
obtained with fuel `f` is obtained with every fuel `f' ≥ f`.  It is the fundamental theorem (LangLR) at the identity
relation `eqLR`, with the fuels compared by `MK.le`; `Le` ("ran out of fuel, or equal") is what that says of two runs.
-/
import Fpy.Proof.LangLR
namespace Fpy.Xform
open Fpy Fpy.Lang

def Le {α : Type} (a b : M α) : Prop := a = .error .outOfFuel ∨ a = b

theorem Le.refl {α : Type} (a : M α) : Le a a := .inr rfl
theorem Le.oof {α : Type} (b : M α) : Le (.error .outOfFuel) b := .inl rfl

theorem Le.trans {α : Type} {a b c : M α} (h1 : Le a b) (h2 : Le b c) : Le a c := by
  rcases h1 with h1 | h1
  · exact .inl h1
  · subst h1; exact h2

theorem Le.bind {α β : Type} {a a' : M α} {f f' : α → M β} (h : Le a a') (hf : ∀ x, Le (f x) (f' x)) :
    Le (a >>= f) (a' >>= f') := by
  rcases h with h | h
  · subst h; exact Le.oof _
  · subst h
    cases a with
    | error e => exact .inr rfl
    | ok x => exact hf x

theorem Le.emap {α β : Type} {a a' : M α} (g : α → β) (h : Le a a') : Le (Except.map g a) (Except.map g a') := by
  rcases h with h | h
  · subst h; exact Le.oof _
  · subst h; exact .inr rfl

theorem Le.map {α β : Type} {a a' : M α} (g : α → β) (h : Le a a') : Le (g <$> a) (g <$> a') := Le.emap g h

theorem Le.stable {α : Type} {a b r : M α} (h : Le a b) (ha : a = r) (hr : r ≠ .error .outOfFuel) : b = r := by
  rcases h with h | h
  · exact absurd (ha ▸ h) hr
  · exact h ▸ ha

structure MonoAt (Φ : Funs) (n m : Nat) : Prop where
  evalE : ∀ σ μ C e, Le (evalE Φ n σ μ C e) (evalE Φ m σ μ C e)
  evalEs : ∀ σ μ C es, Le (evalEs Φ n σ μ C es) (evalEs Φ m σ μ C es)
  evalChain : ∀ σ μ C a ops es, Le (evalChain Φ n σ μ C a ops es) (evalChain Φ m σ μ C a ops es)
  evalAnd : ∀ σ μ C es, Le (evalAnd Φ n σ μ C es) (evalAnd Φ m σ μ C es)
  evalOr : ∀ σ μ C es, Le (evalOr Φ n σ μ C es) (evalOr Φ m σ μ C es)
  evalComp : ∀ σ μ C ps its elt, Le (evalComp Φ n σ μ C ps its elt) (evalComp Φ m σ μ C ps its elt)
  compLoop : ∀ σ μ C r i p ps its elt, Le (compLoop Φ n σ μ C r i p ps its elt) (compLoop Φ m σ μ C r i p ps its elt)
  evalS : ∀ σ μ C s, Le (evalS Φ n σ μ C s) (evalS Φ m σ μ C s)
  forLoop : ∀ σ μ C r i p body, Le (forLoop Φ n σ μ C r i p body) (forLoop Φ m σ μ C r i p body)
  evalB : ∀ σ μ C ss, Le (evalB Φ n σ μ C ss) (evalB Φ m σ μ C ss)

def eqLR : LR where
  W := Unit
  Fut _ _ := True
  VR _ := Eq
  LocR _ := Eq
  ER _ := Eq
  HR _ := Eq
  frefl _ := trivial
  ftrans _ _ := trivial
  vmono _ h := h
  lmono _ h := h
  emono _ h := h
  inv := by
    rintro _ v _ rfl
    cases v with
    | tuple vs => exact .inr (.inl ⟨vs, vs, rfl, rfl, all2_eq.2 rfl⟩)
    | list r => exact .inr (.inr ⟨r, r, rfl, rfl, rfl⟩)
    | _ => exact .inl ⟨rfl, rfl⟩
  flat _ := rfl
  tup h := by rw [all2_eq.1 h]
  get := by rintro _ σ _ rfl x; exact .diag fun _ _ => rfl
  set x := by rintro rfl rfl; rfl
  enil _ := rfl
  load := by rintro _ μ _ r _ rfl rfl; exact .diag fun _ _ => all2_eq.2 rfl
  alloc := by
    rintro _ μ _ l _ rfl hl
    rw [all2_eq.1 hl]
    exact ⟨(), trivial, rfl, rfl⟩
  store := by
    rintro _ μ _ r _ l0 _ l _ rfl rfl _ _ hl _ _
    rw [all2_eq.1 hl]
    exact ⟨(), trivial, rfl⟩

theorem eqLR_res_eq {α : Type} {Q : Unit → α → α → Prop} (hQ : ∀ x y, Q () x y → x = y) {a b : M (α × Heap)}
    (h : RelM (eqLR.Res Q ()) a b) : a = b := by
  refine RelM.eq_iff.1 (h.imp ?_)
  rintro ⟨x, m1⟩ ⟨y, m2⟩ ⟨_, _, hq, hm⟩
  rw [hQ x y hq, show m1 = m2 from hm]

theorem monoAt (Φ : Funs) (n m : Nat) (h : n ≤ m) : MonoAt Φ n m := by
  have F := fund .le eqLR Φ n m h
  have conv : ∀ {α : Type} {Q : Unit → α → α → Prop} (_ : ∀ x y, Q () x y → x = y) {a b : M (α × Heap)},
      MK.le.MR (eqLR.Res Q ()) a b → Le a b := fun hQ _ _ hab => hab.imp id (eqLR_res_eq hQ)
  have hO : ∀ o1 o2, eqLR.OR () o1 o2 → o1 = o2 := fun _ _ ho =>
    ho.elim (P := Eq) (fun _ _ h => congrArg _ h) fun _ _ h => congrArg _ h
  exact
   ⟨fun σ μ C e => conv (fun _ _ h => h) (F.evalE (N := .diag eqLR) (w := ()) rfl rfl C (.refl e)),
    fun σ μ C es => conv (fun _ _ h => all2_eq.1 h) (F.evalEs (N := .diag eqLR) (w := ()) rfl rfl C (SimEs.refl es)),
    fun σ μ C a ops es => conv (fun _ _ h => h) (F.evalChain (N := .diag eqLR) (w := ()) rfl rfl C ops (SimEs.refl es) rfl),
    fun σ μ C es => conv (fun _ _ h => h) (F.evalAnd (N := .diag eqLR) (w := ()) rfl rfl C (SimEs.refl es)),
    fun σ μ C es => conv (fun _ _ h => h) (F.evalOr (N := .diag eqLR) (w := ()) rfl rfl C (SimEs.refl es)),
    fun σ μ C ps its elt => conv (fun _ _ h => all2_eq.1 h)
      (F.evalComp (N := .diag eqLR) (w := ()) rfl rfl C (SimPs.refl ps) (SimEs.refl its) (.refl elt)),
    fun σ μ C r i p ps its elt => conv (fun _ _ h => all2_eq.1 h)
      (F.compLoop (N := .diag eqLR) (w := ()) rfl rfl C i (.refl p) (SimPs.refl ps) (SimEs.refl its) (.refl elt) rfl),
    fun σ μ C s => conv hO (F.evalS (N := .diag eqLR) (w := ()) rfl rfl C (.refl s)),
    fun σ μ C r i p body => conv hO (F.forLoop (N := .diag eqLR) (w := ()) rfl rfl C i (.refl p) (SimB.refl body) rfl),
    fun σ μ C ss => conv hO (F.evalB (N := .diag eqLR) (w := ()) rfl rfl C (SimB.refl ss))⟩

theorem valEq_mono_le (μ : Heap) {n m : Nat} (h : n ≤ m) (a b : Val) : Le (valEq μ n a b) (valEq μ m a b) :=
  (LR.valEq_rel (L := eqLR) .le (w := ()) rfl n m h a a b b rfl rfl).imp id RelM.eq_iff.1

theorem bindPat_mono_le {n m : Nat} (h : n ≤ m) (p : Pat) (v : Val) (σ : Env) : Le (bindPat n p v σ) (bindPat m p v σ) :=
  (LR.bindPat_rel (L := eqLR) .le (.diag eqLR) (w := ()) n m h v v σ σ (.refl p) rfl rfl).imp id RelM.eq_iff.1

theorem evalE_fuel_mono {Φ : Funs} {f f' : Nat} (hf : f ≤ f') {σ} {μ} {C} {e} {res}
    (h : evalE Φ f σ μ C e = res) (hr : res ≠ .error .outOfFuel) : evalE Φ f' σ μ C e = res :=
  ((monoAt Φ f f' hf).evalE _ _ _ _).stable h hr

theorem evalEs_fuel_mono {Φ : Funs} {f f' : Nat} (hf : f ≤ f') {σ} {μ} {C} {es} {res}
    (h : evalEs Φ f σ μ C es = res) (hr : res ≠ .error .outOfFuel) : evalEs Φ f' σ μ C es = res :=
  ((monoAt Φ f f' hf).evalEs _ _ _ _).stable h hr

theorem evalChain_fuel_mono {Φ : Funs} {f f' : Nat} (hf : f ≤ f') {σ} {μ} {C} {a} {ops} {es} {res}
    (h : evalChain Φ f σ μ C a ops es = res) (hr : res ≠ .error .outOfFuel) : evalChain Φ f' σ μ C a ops es = res :=
  ((monoAt Φ f f' hf).evalChain _ _ _ _ _ _).stable h hr

theorem evalAnd_fuel_mono {Φ : Funs} {f f' : Nat} (hf : f ≤ f') {σ} {μ} {C} {es} {res}
    (h : evalAnd Φ f σ μ C es = res) (hr : res ≠ .error .outOfFuel) : evalAnd Φ f' σ μ C es = res :=
  ((monoAt Φ f f' hf).evalAnd _ _ _ _).stable h hr

theorem evalOr_fuel_mono {Φ : Funs} {f f' : Nat} (hf : f ≤ f') {σ} {μ} {C} {es} {res}
    (h : evalOr Φ f σ μ C es = res) (hr : res ≠ .error .outOfFuel) : evalOr Φ f' σ μ C es = res :=
  ((monoAt Φ f f' hf).evalOr _ _ _ _).stable h hr

theorem evalComp_fuel_mono {Φ : Funs} {f f' : Nat} (hf : f ≤ f') {σ} {μ} {C} {ps} {its} {elt} {res}
    (h : evalComp Φ f σ μ C ps its elt = res) (hr : res ≠ .error .outOfFuel) : evalComp Φ f' σ μ C ps its elt = res :=
  ((monoAt Φ f f' hf).evalComp _ _ _ _ _ _).stable h hr

theorem compLoop_fuel_mono {Φ : Funs} {f f' : Nat} (hf : f ≤ f') {σ} {μ} {C} {r} {i} {p} {ps} {its} {elt} {res}
    (h : compLoop Φ f σ μ C r i p ps its elt = res) (hr : res ≠ .error .outOfFuel) : compLoop Φ f' σ μ C r i p ps its elt = res :=
  ((monoAt Φ f f' hf).compLoop _ _ _ _ _ _ _ _ _).stable h hr

theorem evalS_fuel_mono {Φ : Funs} {f f' : Nat} (hf : f ≤ f') {σ} {μ} {C} {s} {res}
    (h : evalS Φ f σ μ C s = res) (hr : res ≠ .error .outOfFuel) : evalS Φ f' σ μ C s = res :=
  ((monoAt Φ f f' hf).evalS _ _ _ _).stable h hr

theorem forLoop_fuel_mono {Φ : Funs} {f f' : Nat} (hf : f ≤ f') {σ} {μ} {C} {r} {i} {p} {body} {res}
    (h : forLoop Φ f σ μ C r i p body = res) (hr : res ≠ .error .outOfFuel) : forLoop Φ f' σ μ C r i p body = res :=
  ((monoAt Φ f f' hf).forLoop _ _ _ _ _ _ _).stable h hr

theorem evalB_fuel_mono {Φ : Funs} {f f' : Nat} (hf : f ≤ f') {σ} {μ} {C} {ss} {res}
    (h : evalB Φ f σ μ C ss = res) (hr : res ≠ .error .outOfFuel) : evalB Φ f' σ μ C ss = res :=
  ((monoAt Φ f f' hf).evalB _ _ _ _).stable h hr

end Fpy.Xform
