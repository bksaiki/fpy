/-
C16, common part: `RealFloat.compare` as the order of the real numbers.  `Spec.units` is `RF.sc` of
`Proof/RFOrder` (`units_eq_sc`), so the order theory is the one proved there; here only its C16 spellings, and
shifts of a significand that lose no digit.
-/
import Fpy.Proof.RFOrder
import Fpy.Model.Enc
import Fpy.Spec.Layout
namespace Fpy
open Fpy.Enc Fpy.Spec

theorem two_pow_mul_or (i a b : Nat) (h : b < 2 ^ i) : 2 ^ i * a ||| b = 2 ^ i * a + b :=
  (Nat.two_pow_add_eq_or_of_lt h a).symm

theorem two_pow_or (i b : Nat) (h : b < 2 ^ i) : 2 ^ i ||| b = 2 ^ i + b := by
  simpa using two_pow_mul_or i 1 b h

/-- the functions of the formats open with `if !ok then <refusal> else …`: a result that is not the refusal passed the test -/
theorem guard_passed {α : Type} {g : Bool} {a x y : α} (h : (if (!g) = true then a else x) = y) (hne : a ≠ y) : g = true := by
  cases g
  · exact absurd h hne
  · rfl

theorem divmod_code {A : Nat} (hA : 0 < A) (e r : Nat) (hr : r < A) :
    (A * e + r) / A = e ∧ (A * e + r) % A = r :=
  ⟨by rw [Nat.mul_add_div hA, Nat.div_eq_of_lt hr, Nat.add_zero], by rw [Nat.mul_add_mod, Nat.mod_eq_of_lt hr]⟩

theorem bitLength_mono {a b : Nat} (h : a ≤ b) : bitLength a ≤ bitLength b := bitLength_le_of_le h

theorem units_eq_sc (x : RF) (m : Int) : units x m = x.sc m := by
  rw [RF.sc_eq_mag]; unfold units; cases x.s <;> simp [mag, RF.mag]

theorem mag_ne_zero {x : RF} (h : x.c ≠ 0) (m : Int) : mag x m ≠ 0 := Nat.ne_of_gt (RF.mag_pos x m h)

theorem units_zero {x : RF} (h : x.c = 0) (m : Int) : units x m = 0 := by
  rw [units_eq_sc, RF.sc_zero x m h]

theorem sameValue_zero {x y : RF} (hx : x.c = 0) (hy : y.c = 0) : sameValue x y := by
  unfold sameValue; rw [units_zero hx, units_zero hy]

theorem sameValue_symm {x y : RF} (h : sameValue x y) : sameValue y x := by
  unfold sameValue at *; rw [Int.min_comm]; exact h.symm

theorem le_iff_units_common (x y : RF) (m : Int) (hx : m ≤ x.exp) (hy : m ≤ y.exp) :
    x.le y = true ↔ units x m ≤ units y m := by
  unfold RF.le
  rw [RF.compare_spec x y m (.inr hx) (.inr hy), units_eq_sc, units_eq_sc]
  simp [Int.compare_eq_gt]

theorem le_iff_units (x y : RF) : x.le y = true ↔ units x (min x.exp y.exp) ≤ units y (min x.exp y.exp) :=
  le_iff_units_common x y _ (Int.min_le_left ..) (Int.min_le_right ..)

theorem lt_iff_units (x y : RF) : x.lt y = true ↔ units x (min x.exp y.exp) < units y (min x.exp y.exp) := by
  rw [units_eq_sc, units_eq_sc]
  exact RF.lt_iff x y _ (RF.okAt_min_left x y) (RF.okAt_min_right x y)

theorem le_pos_iff (x y : RF) (hx : x.c ≠ 0) (hy : y.c ≠ 0) (hxs : x.s = false) (hys : y.s = false) :
    x.le y = true ↔ mag x (min x.exp y.exp) ≤ mag y (min x.exp y.exp) := by
  rw [le_iff_units]; unfold units; rw [hxs, hys]; simp

theorem le_neg_iff (x y : RF) (hx : x.c ≠ 0) (hy : y.c ≠ 0) (hxs : x.s = true) (hys : y.s = true) :
    x.le y = true ↔ mag y (min x.exp y.exp) ≤ mag x (min x.exp y.exp) := by
  rw [le_iff_units]; unfold units; rw [hxs, hys]; simp

theorem sameValue_iff_common (x y : RF) (m : Int) (hx : m ≤ x.exp) (hy : m ≤ y.exp) :
    sameValue x y ↔ units x m = units y m := by
  unfold sameValue; simp only [units_eq_sc]
  exact RF.eqV_iff x y m (.inr hx) (.inr hy)

theorem ltValue_iff_common (x y : RF) (m : Int) (hx : m ≤ x.exp) (hy : m ≤ y.exp) :
    ltValue x y ↔ units x m < units y m := by
  unfold ltValue; simp only [units_eq_sc]
  exact RF.lt_level x y _ m (RF.okAt_min_left x y) (RF.okAt_min_right x y) (.inr hx) (.inr hy)

/-- "the ordinal is the value", for the fixed-point and the float ordinals: `u`, `v` count `x`, `y` in units of `2^e0` -/
theorem ord_scheme (e0 : Int) (x y : RF) (u v : Int)
    (hu : ∀ m, m ≤ x.exp → m ≤ e0 → units x m = u * ((2 ^ (e0 - m).toNat : Nat) : Int))
    (hv : ∀ m, m ≤ y.exp → m ≤ e0 → units y m = v * ((2 ^ (e0 - m).toNat : Nat) : Int)) :
    (u < v ↔ ltValue x y) ∧ (u = v ↔ sameValue x y) := by
  obtain ⟨m, hx, hy, he⟩ : ∃ m, m ≤ x.exp ∧ m ≤ y.exp ∧ m ≤ e0 := ⟨min (min x.exp y.exp) e0, by omega⟩
  have hpos := Int.natCast_pos.2 (Nat.two_pow_pos (e0 - m).toNat)
  rw [ltValue_iff_common x y m hx hy, sameValue_iff_common x y m hx hy, hu m hx he, hv m hy he]
  exact ⟨(Int.mul_lt_mul_right hpos).symm, (Int.mul_eq_mul_right_iff (Int.ne_of_gt hpos)).symm⟩

theorem normGo_shiftBy (x : RF) (T : Int) (hdiv : x.c % 2 ^ (T - x.exp).toNat = 0) :
    x.normGo T = some ⟨x.s, T, shiftBy x.c (x.exp - T)⟩ := by
  unfold RF.normGo shiftBy
  by_cases h0 : x.exp - T = 0
  · rw [if_pos h0, if_neg (by omega), if_neg (by omega)]
  · rw [if_neg h0]
    by_cases h1 : x.exp - T > 0
    · rw [if_pos h1, if_pos h1]
    · have h2 : x.exp - T < 0 := by omega
      have e : (-(x.exp - T)).toNat = (T - x.exp).toNat := by omega
      rw [if_neg h1, if_neg h1, if_pos h2, e, hdiv]; rfl

theorem units_shiftBy (s : Bool) (exp target : Int) (c : Nat) (m : Int) (hm1 : m ≤ exp) (hm2 : m ≤ target)
    (hdiv : c % 2 ^ (target - exp).toNat = 0) :
    units ⟨s, target, shiftBy c (exp - target)⟩ m = units ⟨s, exp, c⟩ m := by
  have h := RF.normGo_spec ⟨s, exp, c⟩ _ target (normGo_shiftBy ⟨s, exp, c⟩ target hdiv)
  rw [units_eq_sc, units_eq_sc]
  exact (RF.eqV_iff _ _ m (.inr hm2) (.inr hm1)).1 h.2.2

/-- moving a value to the exponent `T` keeps it when no digit is lost -/
theorem sameValue_shiftBy (x : RF) (T : Int) (hdiv : x.c % 2 ^ (T - x.exp).toNat = 0) :
    sameValue x ⟨x.s, T, shiftBy x.c (x.exp - T)⟩ :=
  (units_shiftBy x.s x.exp T x.c _ (Int.min_le_left ..) (Int.min_le_right ..) hdiv).symm

theorem mag_shiftBy (s : Bool) (exp target : Int) (c : Nat) (m : Int) (hm1 : m ≤ exp) (hm2 : m ≤ target)
    (hdiv : c % 2 ^ (target - exp).toNat = 0) :
    mag ⟨s, target, shiftBy c (exp - target)⟩ m = mag ⟨s, exp, c⟩ m :=
  Int.ofNat.inj (units_shiftBy false exp target c m hm1 hm2 hdiv)

theorem shiftBy_spec (exp T : Int) (c : Nat) (hc : c ≠ 0) (hdiv : c % 2 ^ (T - exp).toNat = 0) :
    shiftBy c (exp - T) ≠ 0 ∧ T + (bitLength (shiftBy c (exp - T)) : Int) = exp + bitLength c := by
  have hm := mag_shiftBy false exp T c (min exp T) (by omega) (by omega) hdiv
  have hne : shiftBy c (exp - T) ≠ 0 := by
    intro h0
    rw [h0] at hm
    exact mag_ne_zero (x := ⟨false, exp, c⟩) hc _ (by rw [← hm]; unfold mag; simp)
  have b1 : (bitLength (mag ⟨false, T, shiftBy c (exp - T)⟩ (min exp T)) : Int) = _ :=
    RF.e_eq_bitLength_mag _ _ hne (by simp only; omega)
  have b2 : (bitLength (mag ⟨false, exp, c⟩ (min exp T)) : Int) = _ := RF.e_eq_bitLength_mag _ _ hc (by simp only; omega)
  rw [hm] at b1
  simp only [RF.e, RF.p] at b1 b2
  exact ⟨hne, by omega⟩

/-- the two-armed `off ≥ 0` shift as `FixedFormat.encode` and `SMFixedFormat.encode` write it -/
theorem ite_nonneg_eq_shiftBy (c : Nat) (off : Int) :
    (if off ≥ 0 then c * 2 ^ off.toNat else c / 2 ^ (-off).toNat) = shiftBy c off := by
  unfold shiftBy
  by_cases h1 : off > 0
  · have : off ≥ 0 := by omega
    simp [h1, this]
  · by_cases h2 : off < 0
    · have : ¬ off ≥ 0 := by omega
      simp [h1, h2, this]
    · have : off = 0 := by omega
      subst this; simp

theorem shiftBy_zero (c : Nat) : shiftBy c 0 = c := by unfold shiftBy; simp

theorem fixOrdinal_eq (nmin : Int) (x : RF) :
    fixOrdinal nmin x = if x.c = 0 then 0 else
      (if x.s then -(shiftBy x.c (x.exp - (nmin + 1)) : Int) else (shiftBy x.c (x.exp - (nmin + 1)) : Int)) := by
  unfold fixOrdinal shiftBy; rfl

/-- `_to_ordinal` of the fixed-point formats counts the value in units of the spacing `2^(nmin+1)` (C16 reads it
on `units`, C01 on `RF.val`: `fixOrdinal_val` in Proof/RoundValCtx) -/
theorem fixOrdinal_units (nmin : Int) (x : RF) (hr : x.isMoreSignificant nmin = true) (m : Int)
    (h1 : m ≤ x.exp) (h2 : m ≤ nmin + 1) :
    units x m = fixOrdinal nmin x * ((2 ^ (nmin + 1 - m).toNat : Nat) : Int) := by
  rw [fixOrdinal_eq]
  by_cases hc : x.c = 0
  · simp [hc, units_zero hc]
  · simp only [hc, if_false]
    have hu := units_shiftBy x.s x.exp (nmin + 1) x.c m h1 h2 (isMoreSignificant_div hr)
    have : units x m = units ⟨x.s, x.exp, x.c⟩ m := rfl
    rw [this, ← hu]
    unfold units mag
    simp only
    cases x.s <;> simp [Int.natCast_mul, Int.neg_mul]

end Fpy
