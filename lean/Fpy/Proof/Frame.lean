/-
C18 — the frame property of the core-language evaluator, for EVERY function table:

  if every list reference in the environment is at or above `n`, and every heap cell at or above `n`
  references only cells at or above `n`, then evaluation leaves the first `n` cells of the heap exactly as
  they were, and whatever it returns or binds references only cells at or above `n`.

A program has no way to name a cell it was not handed: expressions contain no references, list
constructors allocate at the end, an indexed assignment writes a cell reached from a variable.
Proof: the fundamental theorem of the evaluator (LangLR) at the instance `frLR`, a relation on the diagonal: a value is
related to itself when its references are at or above `n`, a heap when it extends the initial one above `n` (`Ext`).
-/
import Fpy.Proof.Boundary
import Fpy.Proof.LangLR
namespace Fpy.C18
open Fpy Fpy.Lang Fpy.Xform

def OutOK (n : Nat) : Outcome → Prop
  | .ret v => VGe n v
  | .normal σ => EOK n σ

def DV (n : Nat) (v v' : Val) : Prop := v = v' ∧ VGe n v

theorem all2_diag {n : Nat} {vs ws : List Val} : All2 (DV n) vs ws ↔ vs = ws ∧ VGeL n vs := by
  rw [vgeL_iff]; exact All2.diag

def frLR (n : Nat) (μ0 : Heap) : LR where
  W := Unit
  Fut _ _ := True
  VR _ := DV n
  LocR _ r r' := r = r' ∧ n ≤ r
  ER _ σ σ' := σ = σ' ∧ EOK n σ
  HR _ μ μ' := μ = μ' ∧ Ext n μ0 μ
  frefl _ := trivial
  ftrans _ _ := trivial
  vmono _ h := h
  lmono _ h := h
  emono _ h := h
  inv := by
    rintro _ v _ ⟨rfl, hv⟩
    cases v with
    | tuple vs => exact .inr (.inl ⟨vs, vs, rfl, rfl, all2_diag.2 ⟨rfl, hv⟩⟩)
    | list r => exact .inr (.inr ⟨r, r, rfl, rfl, rfl, hv⟩)
    | _ => exact .inl ⟨rfl, rfl⟩
  flat := by intro _ v h; cases v <;> first | exact ⟨rfl, trivial⟩ | cases h
  tup h := by obtain ⟨rfl, h'⟩ := all2_diag.1 h; exact ⟨rfl, h'⟩
  get := by rintro _ σ _ ⟨rfl, hσ⟩ x; exact .diag fun v hx => ⟨rfl, eok_get hσ hx⟩
  set x := by rintro ⟨rfl, hσ⟩ ⟨rfl, hv⟩; exact ⟨rfl, eok_set hσ hv⟩
  enil _ := ⟨rfl, eok_nil n⟩
  load := by
    rintro _ μ _ r _ ⟨rfl, hμ⟩ ⟨rfl, hr⟩
    exact .diag fun l hg => all2_diag.2 ⟨rfl, hok_get hμ.1 hr hg⟩
  alloc := by
    rintro _ μ _ l _ ⟨rfl, hμ⟩ hl
    obtain ⟨rfl, hl'⟩ := all2_diag.1 hl
    obtain ⟨he, hv⟩ := ext_alloc hμ.1 hl'
    exact ⟨(), trivial, ⟨rfl, ext_trans hμ he⟩, rfl, hv⟩
  store := by
    rintro _ μ _ r _ l0 _ l _ ⟨rfl, hμ⟩ ⟨rfl, hr⟩ _ _ hl _ _
    obtain ⟨rfl, hl'⟩ := all2_diag.1 hl
    exact ⟨(), trivial, rfl, ext_trans hμ (ext_set hμ.1 hr hl')⟩

theorem evalFrame (Φ : Funs) (fuel n : Nat) (σ : Env) (μ : Heap) (C : Ctx) (body : List Stmt) (hσ : EOK n σ) (hμ : HOK n μ) :
    Fr n μ (OutOK n) (evalB Φ fuel σ μ C body) := by
  intro a μ' e
  have h := (fund .sym (frLR n μ) Φ fuel fuel rfl).evalB (N := .diag _) (w := ()) ⟨rfl, hσ⟩ ⟨rfl, ext_refl hμ⟩ C (SimB.refl body)
  rw [e] at h
  -- `h` unfolds to `∃ w', True ∧ OR w' a a ∧ (μ' = μ' ∧ Ext n μ μ')`, and `OR w' a a` to `a = a ∧ OutOK n a`, by cases on `a`
  obtain ⟨_, _, ho, _, hx⟩ := h
  exact ⟨hx, ho.elim (P := fun a _ => OutOK n a) (fun _ _ h => h.2) fun _ _ h => h.2⟩

/-- how `callEntry` reads the outcome of a body: only a `ret` comes back.  Not generalizing, so that the `match` is
the one `callEntry` has (by default it would take `hx`, which mentions `x`, into its motive). -/
theorem Fr.entry {n : Nat} {μ : Heap} {x : M (Outcome × Heap)} (hx : Fr n μ (OutOK n) x) :
    Fr n μ (VGe n) (match (generalizing := false) x with
      | .error e => .error e
      | .ok (.ret v, μ') => .ok (v, μ')
      | .ok (.normal _, _) => .error .assertion) := by
  match x, hx with
  | .error _, _ => exact .err
  | .ok (.ret v, μ'), hx => exact fun _ _ e => by cases e; exact hx (.ret v) μ' rfl
  | .ok (.normal _, _), _ => exact .err

theorem callEntry_frame {Φ : Funs} {fuel n : Nat} {f : String} {vs : List Val} {μ : Heap} {ctx : Option Ctx}
    (hv : VGeL n vs) (hμ : HOK n μ) : Fr n μ (VGe n) (callEntry Φ fuel f vs μ ctx) := by
  unfold callEntry
  cases Φ.find? f with
  | none => exact .err
  | some fd =>
    exact .ite (fun _ => .err) fun _ =>
      .entry (evalFrame Φ fuel n _ μ _ fd.body (eok_bindParams fd.params vs [] (eok_nil n) hv) hμ)

/-- shared core of `args_untouched` and `result_fresh` (there `n = μ.length`) -/
theorem callBoundary_frame (π : Policy) (Φ : Funs) (fuel : Nat) (f : String) (args : List Val) {n : Nat} {μ : Heap}
    (hμ : HOK n μ) (ctx : Option Ctx) : Fr n μ (VGe n) (callBoundary π Φ fuel f args μ ctx) :=
  ((copy_frame μ n fuel).2 args μ hμ).bind fun _ _ hvs h1 =>
    (callEntry_frame hvs h1).bind fun _ _ hw h2 => exit_frame π h2 hw

end Fpy.C18
