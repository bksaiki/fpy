/-
`bitLength` against powers of two; the bit-level rounding core of the model (`_round_increment`, `split`,
`_round_at`) computes the arithmetic specification `Spec.roundQuot`; the float shape is the fixed shape followed by
`RF.carry`; `round` is `_round_at` at the position `roundPos`, and a `round` that returns, stochastic or not, ends in
one `_round_at` (`RF.round_ok`).  At the end the four arms of `RealFloat.__add__` (`RF.add_cases`, `RF.add_neg_zero`).
-/
import Fpy.Proof.RoundQuot
namespace Fpy
open Fpy.Spec

theorem bitLength_le_iff (c k : Nat) : bitLength c ≤ k ↔ c < 2 ^ k := by
  unfold bitLength
  by_cases h : c = 0
  · simp [h, Nat.pow_pos]
  · simp only [h, if_false]
    rw [← Nat.log2_lt h]; omega

theorem bitLength_eq_iff (c k : Nat) (hk : 1 ≤ k) : bitLength c = k ↔ 2 ^ (k - 1) ≤ c ∧ c < 2 ^ k := by
  unfold bitLength
  by_cases h : c = 0
  · subst h
    have : 0 < 2 ^ (k - 1) := Nat.pow_pos (by decide)
    simp; omega
  · simp only [h, if_false]
    have := Nat.log2_eq_iff (n := c) (k := k - 1) h
    rw [Nat.sub_add_cancel hk] at this
    rw [← this]; omega

theorem bitLength_zero : bitLength 0 = 0 := by unfold bitLength; simp

theorem bitLength_pos {c : Nat} (h : c ≠ 0) : 1 ≤ bitLength c := by
  unfold bitLength; simp [h]

theorem ne_zero_of_bitLength {c : Nat} (h : 1 ≤ bitLength c) : c ≠ 0 :=
  fun h0 => by rw [h0, bitLength_zero] at h; omega

theorem two_pow_pred (p : Nat) (hp : 1 ≤ p) : 2 ^ p = 2 * 2 ^ (p - 1) := by
  obtain ⟨k, rfl⟩ : ∃ k, p = k + 1 := ⟨p - 1, by omega⟩
  rw [Nat.add_sub_cancel, Nat.pow_succ, Nat.mul_comm]

theorem lt_two_pow_bitLength (c : Nat) : c < 2 ^ bitLength c := (bitLength_le_iff c _).1 (Nat.le_refl _)

theorem two_pow_le_of_bitLength {c : Nat} (h : c ≠ 0) : 2 ^ (bitLength c - 1) ≤ c :=
  ((bitLength_eq_iff c (bitLength c) (bitLength_pos h)).1 rfl).1

theorem bitLength_le_of_le {a b : Nat} (h : a ≤ b) : bitLength a ≤ bitLength b :=
  (bitLength_le_iff a _).2 (Nat.lt_of_le_of_lt h (lt_two_pow_bitLength b))

theorem lt_of_bitLength_lt {a b : Nat} (h : bitLength a < bitLength b) : a < b :=
  Nat.lt_of_not_le fun hle => Nat.lt_irrefl _ (Nat.lt_of_lt_of_le h (bitLength_le_of_le hle))

theorem bitLength_shift (c k : Nat) (h : c ≠ 0) : bitLength (c * 2 ^ k) = bitLength c + k := by
  have hb := bitLength_pos h
  rw [bitLength_eq_iff _ _ (by omega)]
  have e1 : bitLength c + k - 1 = (bitLength c - 1) + k := by omega
  rw [e1, Nat.pow_add, Nat.pow_add]
  exact ⟨Nat.mul_le_mul_right _ (two_pow_le_of_bitLength h),
    Nat.mul_lt_mul_of_lt_of_le (lt_two_pow_bitLength c) (Nat.le_refl _) (Nat.pow_pos (by decide))⟩

theorem div_pow_lt_of_bitLength (c p k : Nat) (h : bitLength c ≤ p + k) : c / 2 ^ k < 2 ^ p := by
  have h3 := (bitLength_le_iff c (p + k)).1 h
  rw [Nat.pow_add] at h3
  exact (Nat.div_lt_iff_lt_mul (Nat.pow_pos (by decide))).2 h3

theorem bitLength_div_pow (c j q : Nat) (hq : 1 ≤ q) (h : bitLength c = q + j) : bitLength (c / 2 ^ j) = q := by
  have hJ : 0 < 2 ^ j := Nat.pow_pos (by decide)
  obtain ⟨h1, h2⟩ := (bitLength_eq_iff c (q + j) (by omega)).1 h
  apply (bitLength_eq_iff _ q hq).2
  constructor
  · apply (Nat.le_div_iff_mul_le hJ).2
    rw [← Nat.pow_add]
    have : q - 1 + j = q + j - 1 := by omega
    rw [this]; exact h1
  · apply (Nat.div_lt_iff_lt_mul hJ).2
    rw [← Nat.pow_add]; exact h2

theorem bitLength_double_succ (c W : Nat) (hW : 1 ≤ W) (h : bitLength c = W) : bitLength (2 * c + 1) = W + 1 := by
  obtain ⟨h1, h2⟩ := (bitLength_eq_iff c W hW).1 h
  apply (bitLength_eq_iff _ (W + 1) (by omega)).2
  have e : W + 1 - 1 = W := by omega
  rw [e]
  have hp := two_pow_pred W hW
  constructor
  · omega
  · rw [Nat.pow_succ]; omega

/-- The left side is, verbatim, the `let (halfBit, lowerBits) := …` of `RF.roundIncrement`, so that `simp only` rewrites
with it once the definition is unfolded.  With all `k` digits present (`lost.e = n`) the top bit is `2^(k-1) ≤ r` and the
rest is `r - 2^(k-1)`; with fewer the code answers `(false, true)`, and so does the right side, since `r < 2^(k-1)`. -/
theorem halfLower_spec (s : Bool) (exp n : Int) (r k : Nat) (hk1 : 1 ≤ k) (hkn : (k : Int) = n + 1 - exp)
    (hm : r < 2 ^ k) :
    (if RF.e ⟨s, exp, r⟩ = n then
        (r / 2 ^ (RF.p ⟨s, exp, r⟩ - 1) != 0, r % 2 ^ (RF.p ⟨s, exp, r⟩ - 1) != 0)
      else (false, true))
    = (decide (2 ^ (k - 1) ≤ r), decide (r ≠ 2 ^ (k - 1))) := by
  have he : (RF.e ⟨s, exp, r⟩ = n) ↔ bitLength r = k := by
    show exp + (bitLength r : Int) - 1 = n ↔ _
    omega
  obtain ⟨H, hH⟩ : ∃ H, 2 ^ (k - 1) = H := ⟨_, rfl⟩
  have hpow : 2 ^ k = 2 * H := hH ▸ two_pow_pred k hk1
  by_cases hfull : bitLength r = k
  · have h1 : H ≤ r := hH ▸ ((bitLength_eq_iff r k hk1).1 hfull).1
    have hdiv : r / H = 1 := Nat.div_eq_of_lt_le (by omega) (by omega)
    have hmod : r % H = r - H := by rw [Nat.mod_eq_sub_mod h1, Nat.mod_eq_of_lt (by omega)]
    rw [if_pos (he.2 hfull), show RF.p ⟨s, exp, r⟩ = k from hfull, hH, hdiv, hmod]
    refine Prod.ext (by simp [h1]) ?_
    show (r - H != 0) = decide (r ≠ H)
    rw [Bool.eq_iff_iff]; simp; omega
  · have hlt : r < H := hH ▸ (bitLength_le_iff r (k - 1)).1 (by have := (bitLength_le_iff r k).2 hm; omega)
    rw [if_neg (mt he.1 hfull), hH]
    refine Prod.ext ?_ ?_ <;> simp <;> omega

theorem roundIncrement_incr (kept : RF) (exp n : Int) (r k : Nat) (rm : RM) (hk1 : 1 ≤ k)
    (hkn : (k : Int) = n + 1 - exp) (hm : r < 2 ^ k) :
    kept.roundIncrement ⟨kept.s, exp, r⟩ n rm = incrOf (rm.toDirection kept.s) kept r (2 ^ k) := by
  unfold RF.roundIncrement incrOf
  simp only [halfLower_spec kept.s exp n r k hk1 hkn hm]
  rw [two_pow_pred k hk1]
  generalize 2 ^ (k - 1) = H
  obtain ⟨nearest, dir⟩ := rm.toDirection kept.s
  cases nearest
  · simp
  · by_cases h2 : r = H
    · simp [h2]
    · have h3 : 2 * r ≠ 2 * H := by omega
      by_cases h1 : H ≤ r <;> simp [h1, h2, h3] <;> omega

theorem roundIncrement_spec (s : Bool) (exp n : Int) (c : Nat) (rm : RM)
    (hle : exp ≤ n) (hr : c % 2 ^ (n + 1 - exp).toNat ≠ 0) :
    RF.roundIncrement ⟨s, n + 1, c / 2 ^ (n + 1 - exp).toNat⟩ ⟨s, exp, c % 2 ^ (n + 1 - exp).toNat⟩ n rm
      = decide (roundQuot rm s c (n + 1 - exp).toNat = c / 2 ^ (n + 1 - exp).toNat + 1) := by
  generalize hk : (n + 1 - exp).toNat = k at *
  rw [roundIncrement_incr ⟨s, n + 1, c / 2 ^ k⟩ exp n _ k rm (by omega) (by omega) (Nat.mod_lt _ (Nat.pow_pos (by decide))),
    ← roundQuotG_pow, roundQuotG_incr rm ⟨s, n + 1, c / 2 ^ k⟩ c (2 ^ k) rfl hr]
  cases incrOf (rm.toDirection s) ⟨s, n + 1, c / 2 ^ k⟩ (c % 2 ^ k) (2 ^ k) <;> simp

theorem split_spec (x : RF) (n : Int) (hc : x.c ≠ 0) (hle : x.exp ≤ n) :
    x.split n = (⟨x.s, n + 1, x.c / 2 ^ (n + 1 - x.exp).toNat⟩, ⟨x.s, x.exp, x.c % 2 ^ (n + 1 - x.exp).toNat⟩) := by
  unfold RF.split
  simp only [hc, if_false]
  by_cases h1 : n ≥ x.e
  · simp only [h1, if_true]
    have hlt : x.c < 2 ^ (n + 1 - x.exp).toNat := by
      apply (bitLength_le_iff _ _).1
      unfold RF.e RF.p at h1; omega
    rw [Nat.div_eq_of_lt hlt, Nat.mod_eq_of_lt hlt]
  · have h2 : ¬ n < x.exp := by omega
    simp only [h1, h2, if_false]
    congr 2
    omega

theorem RF.split_cases (x : RF) (n : Int) :
    (x.c = 0 ∧ x.split n = (⟨x.s, n + 1, 0⟩, ⟨x.s, n, 0⟩)) ∨
    (x.c ≠ 0 ∧ n < x.exp ∧ x.split n = (x, ⟨x.s, n, 0⟩)) ∨
    (x.c ≠ 0 ∧ x.exp ≤ n ∧ x.split n =
      (⟨x.s, n + 1, x.c / 2 ^ (n + 1 - x.exp).toNat⟩, ⟨x.s, x.exp, x.c % 2 ^ (n + 1 - x.exp).toNat⟩)) := by
  by_cases h0 : x.c = 0
  · exact Or.inl ⟨h0, by simp [RF.split, h0]⟩
  · by_cases h1 : n < x.exp
    · have hb := bitLength_pos h0
      have h2 : ¬ n ≥ x.e := by simp only [RF.e, RF.p]; omega
      exact Or.inr (Or.inl ⟨h0, h1, by simp [RF.split, h0, h1, h2]⟩)
    · exact Or.inr (Or.inr ⟨h0, by omega, split_spec x n h0 (by omega)⟩)

theorem roundAtCore_fixed (x : RF) (n : Int) (rm : RM) (hle : x.exp ≤ n) :
    x.roundAtCore none n none rm false =
      .ok (⟨x.s, n + 1, roundQuot rm x.s x.c (n + 1 - x.exp).toNat⟩,
           { inexact := decide (x.c % 2 ^ (n + 1 - x.exp).toNat ≠ 0) }) := by
  unfold RF.roundAtCore
  have h0 : ¬ (x.exp > n) := by omega
  by_cases hc : x.c = 0
  · rw [roundQuot_exact rm x.s x.c _ (by rw [hc]; exact Nat.zero_mod _)]
    simp [h0, RF.split, hc]
  simp only [h0, decide_false, Bool.false_and, Bool.false_eq_true, if_false, split_spec x n hc hle]
  by_cases hr : x.c % 2 ^ (n + 1 - x.exp).toNat = 0
  · simp [hr, roundQuot_exact]
  · simp only [hr, if_false, roundIncrement_spec x.s x.exp n x.c rm hle hr]
    rcases roundQuot_neighbour rm x.s x.c (n + 1 - x.exp).toNat with h | h <;> simp [h] <;> exact hr

/-- all digits above `n`: the fast path -/
theorem roundAtCore_above (x : RF) (n : Int) (rm : RM) (exact : Bool) (h : x.exp > n) :
    x.roundAtCore none n none rm exact = .ok (x, {}) := by
  unfold RF.roundAtCore
  simp [h]

theorem roundAtCore_none (x : RF) (n : Int) (rm : RM) :
    x.roundAtCore none n none rm false =
      .ok (if x.exp > n then (x, {})
           else (⟨x.s, n + 1, roundQuot rm x.s x.c (n + 1 - x.exp).toNat⟩,
                 { inexact := decide (x.c % 2 ^ (n + 1 - x.exp).toNat ≠ 0) })) := by
  by_cases h0 : x.exp > n
  · rw [if_pos h0, roundAtCore_above x n rm false h0]
  · rw [if_neg h0, roundAtCore_fixed x n rm (by omega)]

theorem quot_lt_pow (x : RF) (p k : Nat) (n : Int) (hk : (k : Int) = n + 1 - x.exp) (hn : x.e - p ≤ n) :
    x.c / 2 ^ k < 2 ^ p :=
  div_pow_lt_of_bitLength x.c p k (by unfold RF.e RF.p at hn; omega)

/-- `_round_at`'s re-normalisation of a carry into the next binade -/
def RF.carry (y : RF) (p : Nat) : RF :=
  if bitLength y.c > p then { y with c := y.c / 2, exp := y.exp + 1 } else y

theorem RF.carry_of_le {y : RF} {p : Nat} (h : bitLength y.c ≤ p) : y.carry p = y := by
  unfold RF.carry; rw [if_neg (by omega)]

/-- `y.c ≤ 2^p`: only `2^p` itself carries; the magnitude in units of `2^y.exp` is kept -/
theorem RF.carry_spec (y : RF) (p : Nat) (hp : 1 ≤ p) (hy : y.c ≤ 2 ^ p) :
    (y.carry p).s = y.s ∧ bitLength (y.carry p).c ≤ p ∧ y.exp ≤ (y.carry p).exp ∧
    (y.carry p).c * 2 ^ ((y.carry p).exp - y.exp).toNat = y.c := by
  unfold RF.carry
  by_cases h : bitLength y.c > p
  · have h2p : y.c = 2 ^ p := by
      have := mt (bitLength_le_iff y.c p).2 (by omega); omega
    have hh := two_pow_pred p hp
    have hpos : 0 < 2 ^ (p - 1) := Nat.pow_pos (by decide)
    rw [if_pos h, h2p, hh, Nat.mul_div_cancel_left _ (by decide : 0 < 2)]
    refine ⟨rfl, (bitLength_le_iff (2 ^ (p - 1)) p).2 (by omega), by simp only; omega, ?_⟩
    simp only [show (y.exp + 1 - y.exp).toNat = 1 by omega]; omega
  · rw [if_neg h]
    exact ⟨rfl, by omega, Int.le_refl _, by simp only [Int.sub_self, Int.toNat_zero, Nat.pow_zero, Nat.mul_one]⟩

/-- **The float shape is the fixed shape followed by `carry`** (`hn`: what `_round_params` guarantees).  Nothing about
the mode is used: both calls split at the same place and ask `_round_increment` the same question.  `_round_at` never
sets `overflow` (the contexts do, `Ctx.post`); the conjuncts are carried so that `Res.agree` follows without unfolding
again.  For every `p`, `n`, `emin` and `exact` that fact is `C01v.roundAtCore_overflow`, above `Proof/Exact`. -/
theorem roundAtCore_some (x : RF) (p : Nat) (n : Int) (emin : Option Int) (rm : RM) (hc : x.c ≠ 0)
    (hn : x.e - p ≤ n) :
    ∃ y fl, x.roundAtCore none n none rm false = .ok (y, fl) ∧ fl.overflow = false ∧ y.c ≤ 2 ^ p ∧
      ∃ fl', x.roundAtCore (some p) n emin rm false = .ok (y.carry p, fl') ∧
        fl'.inexact = fl.inexact ∧ fl'.overflow = false := by
  unfold RF.roundAtCore
  by_cases h0 : x.exp > n
  · have hfit : x.p ≤ p := by unfold RF.e at hn; omega
    simp only [h0, hfit, decide_true, Bool.and_self, if_true]
    refine ⟨_, _, rfl, rfl, Nat.le_of_lt ((bitLength_le_iff _ p).1 hfit), ?_⟩
    rw [RF.carry_of_le hfit]; exact ⟨_, rfl, rfl, rfl⟩
  · have hle : x.exp ≤ n := by omega
    simp only [h0, decide_false, Bool.false_and, Bool.false_eq_true, if_false, split_spec x n hc hle]
    generalize hk : (n + 1 - x.exp).toNat = k
    have hlt := quot_lt_pow x p k n (by omega) hn
    have hq : bitLength (x.c / 2 ^ k) ≤ p := (bitLength_le_iff _ p).2 hlt
    by_cases hr : x.c % 2 ^ k = 0
    · simp only [hr, if_true]
      refine ⟨_, _, rfl, rfl, Nat.le_of_lt hlt, ?_⟩
      rw [RF.carry_of_le hq]; exact ⟨_, rfl, rfl, rfl⟩
    · simp only [hr, if_false]
      cases RF.roundIncrement ⟨x.s, n + 1, x.c / 2 ^ k⟩ ⟨x.s, x.exp, x.c % 2 ^ k⟩ n rm
      · simp only [Bool.false_eq_true, if_false]
        refine ⟨_, _, rfl, rfl, Nat.le_of_lt hlt, ?_⟩
        rw [RF.carry_of_le hq]; exact ⟨_, rfl, rfl, rfl⟩
      · simp only [if_true]
        refine ⟨_, _, rfl, rfl, hlt, ?_⟩
        unfold RF.carry
        by_cases hcarry : bitLength (x.c / 2 ^ k + 1) > p <;> simp only [hcarry, if_true, if_false] <;>
          exact ⟨_, rfl, rfl, rfl⟩

/-- The magnitude is in units of `2^(n+1)`: a carry into the next binade is the same real number re-normalised. -/
theorem roundAtCore_prec (x : RF) (p : Nat) (n : Int) (emin : Option Int) (rm : RM)
    (hc : x.c ≠ 0) (hp : 1 ≤ p) (hn : x.e - p ≤ n) :
    ∃ y fl, x.roundAtCore (some p) n emin rm false = .ok (y, fl) ∧ y.s = x.s ∧ bitLength y.c ≤ p ∧ y.exp > n ∧
      (x.exp > n → y = x ∧ fl.inexact = false) ∧
      (x.exp ≤ n →
        y.c * 2 ^ (y.exp - (n + 1)).toNat = roundQuot rm x.s x.c (n + 1 - x.exp).toNat ∧
        fl.inexact = decide (x.c % 2 ^ (n + 1 - x.exp).toNat ≠ 0)) := by
  obtain ⟨y, fl, h1, -, hy, fl', h2, hi, -⟩ := roundAtCore_some x p n emin rm hc hn
  obtain ⟨c1, c2, c3, c4⟩ := y.carry_spec p hp hy
  rw [roundAtCore_none x n rm] at h1
  refine ⟨_, fl', h2, ?_⟩
  by_cases h0 : x.exp > n
  · rw [if_pos h0] at h1; cases h1
    have hfit : bitLength x.c ≤ p := by unfold RF.e RF.p at hn; omega
    rw [RF.carry_of_le hfit]
    exact ⟨rfl, hfit, h0, fun _ => ⟨rfl, hi⟩, fun h => absurd h (by omega)⟩
  · rw [if_neg h0] at h1; cases h1
    exact ⟨c1, c2, by simp only at c3; omega, fun h => absurd h h0, fun _ => ⟨c4, hi⟩⟩

/-- the rounding position `_round_params` chooses for `p` digits and an optional lowest position -/
def roundPos (e : Int) (p : Nat) (minN : Option Int) : Int :=
  match minN with | none => e - p | some m => max m (e - p)

theorem roundPos_ge (e : Int) (p : Nat) (minN : Option Int) : e - p ≤ roundPos e p minN := by
  cases minN <;> simp only [roundPos] <;> omega

theorem C01v.roundPos_ge_min (e : Int) (p : Nat) (nmin : Int) : nmin ≤ roundPos e p (some nmin) := by
  simp only [roundPos]; omega

theorem RF.round_float (x : RF) (p : Nat) (minN : Option Int) (rm : RM) (ex : Bool) :
    x.round (some p) minN rm (some 0) 0 ex =
      x.roundAtCore (some p) (roundPos x.e p minN) (minN.map ((p : Int) + ·)) rm ex := by
  cases minN <;> rfl

theorem RF.round_fixed (x : RF) (n : Int) (rm : RM) (ex : Bool) :
    x.round none (some n) rm (some 0) 0 ex = x.roundAtCore none n none rm ex := rfl

/-- **A `round` that returns ends in one `_round_at` of the operand**, at the position and with the `emin` that
`_round_params` chose (the same for every mode); the stochastic one in a mode `rm'` of its own choosing. -/
theorem RF.round_ok {x : RF} {maxP : Option Nat} {minN : Option Int} {rm : RM} {k? : Option Nat} {r : Nat} {ex : Bool}
    {y : RF} {fl : Flags} (h : x.round maxP minN rm k? r ex = .ok (y, fl)) :
    ∃ p n emin rm', x.roundAtCore p n emin rm' ex = .ok (y, fl) ∧ (k? = some 0 → rm' = rm) ∧
      ∀ m, x.round maxP minN m (some 0) 0 ex = x.roundAtCore p n emin m ex := by
  unfold RF.round at h ⊢
  cases hp : x.roundParams maxP minN with
  | error e => rw [hp] at h; cases h
  | ok pn =>
    obtain ⟨p, n⟩ := pn
    rw [hp] at h
    simp only [] at h ⊢
    by_cases hk0 : k? = some 0
    · rw [if_pos hk0] at h; exact ⟨_, _, _, rm, h, fun _ => rfl, fun _ => rfl⟩
    · rw [if_neg hk0] at h
      unfold RF.roundAtStochastic at h
      simp only [] at h
      split at h
      · cases h
      · exact ⟨_, _, _, _, h, fun e => absurd e hk0, fun _ => rfl⟩

/-- the four arms of `RealFloat.__add__`; in the last, `m` is the sum of the signed significands at `min x.exp y.exp` -/
theorem RF.add_cases (x y : RF) :
    (x.c = 0 ∧ y.c = 0 ∧ x.add y = ⟨x.s && y.s, min x.exp y.exp, 0⟩) ∨ (x.c = 0 ∧ y.c ≠ 0 ∧ x.add y = y) ∨
    (x.c ≠ 0 ∧ y.c = 0 ∧ x.add y = x) ∨
    (x.c ≠ 0 ∧ y.c ≠ 0 ∧ ∃ m : Int,
      m = (if x.s then -((RF.shl x.c (x.exp - min x.exp y.exp) : Nat) : Int) else (RF.shl x.c (x.exp - min x.exp y.exp) : Nat)) +
          (if y.s then -((RF.shl y.c (y.exp - min x.exp y.exp) : Nat) : Int) else (RF.shl y.c (y.exp - min x.exp y.exp) : Nat)) ∧
      x.add y = ⟨m < 0, min x.exp y.exp, m.natAbs⟩) := by
  unfold RF.add
  by_cases hx : x.c = 0 <;> by_cases hy : y.c = 0
  · rw [if_pos hx, if_pos hy]; exact .inl ⟨hx, hy, rfl⟩
  · rw [if_pos hx, if_neg hy]; exact .inr (.inl ⟨hx, hy, rfl⟩)
  · rw [if_neg hx, if_pos hy]; exact .inr (.inr (.inl ⟨hx, hy, rfl⟩))
  · rw [if_neg hx, if_neg hy]; exact .inr (.inr (.inr ⟨hx, hy, _, rfl, rfl⟩))

theorem RF.add_neg_zero (x y : RF) (hc : (x.add y).c = 0) (hs : (x.add y).s = true) :
    x.c = 0 ∧ x.s = true ∧ y.c = 0 ∧ y.s = true := by
  rcases RF.add_cases x y with ⟨hx, hy, e⟩ | ⟨-, hy, e⟩ | ⟨hx, -, e⟩ | ⟨-, -, m, -, e⟩ <;> rw [e] at hc hs
  · simp at hs; exact ⟨hx, hs.1, hy, hs.2⟩
  · exact absurd hc hy
  · exact absurd hc hx
  · simp at hc hs; omega

end Fpy
