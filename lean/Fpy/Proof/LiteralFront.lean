/-
The front end of property C06: `pyDecimal` reads Python's numeric tokens (digit groups with `_` separators:
`digitPart_group`, `pyDecimal_float`, `pyNumber_decint`), and the text the repaired `_parse_constant`
(`parseFloatRepaired`) re-reads from a float token is a decimal spelling with the token's value (`floatSci`).
-/
import Fpy.Proof.Literal
namespace Fpy.Lit
open Fpy.Spec.Lit

/-- a digit group (digits `p` and `_`) ends at this rest -/
abbrev StopU (p : Char → Bool) : List Char → Prop := Stop (fun c => p c || c == '_')

theorem digitPartAux_digit (p : Char → Bool) {c : Char} (hc : p c = true) (fuel : Nat) (acc r : List Char) :
    digitPartAux p (fuel + 1) acc (c :: r) = digitPartAux p fuel (c :: acc) r := by
  simp only [digitPartAux, hc, ↓reduceIte]

theorem digitPartAux_sep (p : Char → Bool) (hus : p '_' = false) {c : Char} (hc : p c = true) (fuel : Nat)
    {acc : List Char} (hacc : acc ≠ []) (r : List Char) :
    digitPartAux p (fuel + 1) acc ('_' :: c :: r) = digitPartAux p fuel acc (c :: r) := by
  simp only [digitPartAux, hus, hc, List.isEmpty_eq_false_iff.2 hacc, Bool.false_eq_true, ↓reduceIte, beq_self_eq_true,
    Bool.not_false, Bool.and_self]

theorem digitPartAux_stop (p : Char → Bool) {r : List Char} (hr : StopU p r) (fuel : Nat) (acc : List Char) :
    digitPartAux p (fuel + 1) acc r = some (acc.reverse, r) := by
  cases r with
  | nil => rfl
  | cons c t =>
    obtain ⟨h1, h2⟩ := Bool.or_eq_false_iff.1 (hr c t rfl)
    simp only [digitPartAux, h1, h2, Bool.false_eq_true, ↓reduceIte, Bool.false_and]

/-- `_` has to be outside `p` only where the group has a separator, so a plain run of `p` is a group too -/
theorem digitPartAux_group (p : Char → Bool) (r : List Char) (hr : StopU p r) :
    ∀ (g : Group), (∀ uc ∈ g, p uc.2 = true ∧ (uc.1 = true → p '_' = false)) → ∀ (fuel : Nat) (acc : List Char),
      (g.render ++ r).length < fuel → (acc = [] → ∀ uc, g.head? = some uc → uc.1 = false) →
      digitPartAux p fuel acc (g.render ++ r) = some (acc.reverse ++ g.digits, r) := by
  intro g
  induction g with
  | nil =>
    intro _ fuel acc hf _
    cases fuel with
    | zero => omega
    | succ n => exact (digitPartAux_stop p hr n acc).trans (by rw [Group.digits, List.map_nil, List.append_nil])
  | cons uc g ih =>
    intro hd fuel acc hf hacc
    obtain ⟨u, c⟩ := uc
    have hc : p c = true := (hd (u, c) (by simp)).1
    -- the digit `c` and the rest of the group, once the separator (if any) is passed
    have digit : ∀ fuel, (c :: (Group.render g ++ r)).length < fuel →
        digitPartAux p fuel acc (c :: (Group.render g ++ r)) = some (acc.reverse ++ Group.digits ((u, c) :: g), r) := by
      intro fuel hf
      cases fuel with
      | zero => omega
      | succ n =>
        rw [digitPartAux_digit p hc, ih (fun uc h => hd uc (by simp [h])) n (c :: acc) (Nat.lt_of_succ_lt_succ hf) nofun]
        simp [Group.digits]
    cases u with
    | false => exact digit fuel hf
    | true =>
      have hne : acc ≠ [] := fun h => by cases hacc h (true, c) rfl
      cases fuel with
      | zero => omega
      | succ n =>
        exact (digitPartAux_sep p ((hd (true, c) (by simp)).2 rfl) hc n hne _).trans (digit n (Nat.lt_of_succ_lt_succ hf))

theorem digitPart_group (p : Char → Bool) (hus : p '_' = false) (g : Group) (hd : ∀ uc ∈ g, p uc.2 = true)
    (hh : ∀ uc, g.head? = some uc → uc.1 = false) (r : List Char) (hr : StopU p r) :
    digitPart p (g.render ++ r) = some (g.digits, r) := by
  unfold digitPart
  rw [digitPartAux_group p r hr g (fun uc h => ⟨hd uc h, fun _ => hus⟩) _ [] (by omega) (fun _ => hh)]
  rfl

theorem render_plain (cs : List Char) : Group.render (cs.map (false, ·)) = cs := by
  induction cs with
  | nil => rfl
  | cons c cs ih => simp [Group.render, ih]

theorem digitPart_all (p : Char → Bool) (cs : List Char) (h : ∀ c ∈ cs, p c = true) :
    digitPart p cs = some (cs, []) := by
  have := digitPartAux_group p [] (stop_nil _) (cs.map (false, ·))
    (by intro uc huc; obtain ⟨c, hc, rfl⟩ := List.mem_map.1 huc; exact ⟨h c hc, nofun⟩)
    (cs.length + 1) [] (by simp [render_plain]) (fun _ uc huc => by cases cs <;> simp at huc; rw [← huc])
  simpa [render_plain, Group.digits, digitPart, Function.comp_def] using this

theorem group_digits_isDigit {g : Group} (h : g.WF) : ∀ c ∈ g.digits, IsDigit 10 c := by
  intro c hc
  simp only [Group.digits, List.mem_map] at hc
  obtain ⟨uc, huc, rfl⟩ := hc
  exact h.digits uc huc

theorem group_digits_ne {g : Group} (h : g ≠ []) : g.digits ≠ [] := by
  cases g with
  | nil => exact absurd rfl h
  | cons uc g => exact List.cons_ne_nil _ _

theorem group_digits_nonempty {g : Group} (h : g ≠ []) : g.digits.isEmpty = false :=
  List.isEmpty_eq_false_iff.2 (group_digits_ne h)

theorem noSign_render {g : Group} (h : g.WF) : NoSign g.render := by
  cases g with
  | nil => exact stop_nil _
  | cons uc g =>
    obtain ⟨u, c⟩ := uc
    obtain rfl : u = false := h.head (u, c) rfl
    have := digit_ne (h.digits (false, c) (by simp))
    exact noSign_cons this.2.1 this.2.2 _

theorem digitPart_wf {g : Group} (hg : g.WF) (r : List Char) (hr : StopU isDig r) :
    digitPart isDig (g.render ++ r) = some (g.digits, r) :=
  digitPart_group isDig (by decide) g (fun uc huc => (isDig_iff _).2 (hg.digits uc huc)) hg.head r hr

theorem digitPart_whole {g : Group} (hg : g.WF) : digitPart isDig g.render = some (g.digits, []) := by
  simpa using digitPart_wf hg [] (stop_nil _)

/-- the exponent of a float token as `pyDecimal` returns it (sign and digits, separators dropped); `exChars`: as the
token spells it, letter `E` first -/
def exText : Option (Sign × Group) → Option (List Char)
  | none => none
  | some (sg, g) => some (sg.chars ++ g.digits)

def exChars (E : Char) : Option (Sign × Group) → List Char
  | none => []
  | some (sg, g) => E :: (sg.chars ++ g.render)

theorem expLetter_facts {E : Char} (hE : E = 'e' ∨ E = 'E') :
    (isDig E || E == '_') = false ∧ E ≠ '.' ∧ (E == 'e' || E == 'E') = true := by
  rcases hE with rfl | rfl
  · decide
  · decide

theorem stopU_exChars (E : Char) (hE : E = 'e' ∨ E = 'E') (ex : Option (Sign × Group)) : StopU isDig (exChars E ex) := by
  cases ex with
  | none => exact stop_nil _
  | some v => exact stop_cons (expLetter_facts hE).1 _

theorem pyExponent_exChars (E : Char) (hE : E = 'e' ∨ E = 'E') (ex : Option (Sign × Group))
    (hw : ∀ sg g, ex = some (sg, g) → g ≠ [] ∧ g.WF) :
    pyExponent (exChars E ex) = some (exText ex, []) := by
  cases ex with
  | none => rfl
  | some v =>
    obtain ⟨sg, g⟩ := v
    obtain ⟨hne, hg⟩ := hw sg g rfl
    simp only [exChars, pyExponent, (expLetter_facts hE).2.2, ↓reduceIte, matchSign_render sg g.render (noSign_render hg),
      digitPart_whole hg, group_digits_nonempty hne, Bool.false_eq_true, exText]
    cases sg <;> rfl

theorem pyDecimal_float (E : Char) (hE : E = 'e' ∨ E = 'E') (t : PyFloat) (h : t.WF) :
    pyDecimal (t.render E) = .ok (.float t.ip.digits t.fp.digits (exText t.ex)) := by
  have hX : StopU isDig (exChars E t.ex) := stopU_exChars E hE t.ex
  have hrender : t.render E = t.ip.render ++ ((if t.dot then '.' :: t.fp.render else []) ++ exChars E t.ex) := by
    unfold PyFloat.render exChars; cases t.ex <;> rfl
  have hpe := pyExponent_exChars E hE t.ex h.ex_wf
  have hnonempty : (t.ip.digits.isEmpty && t.fp.digits.isEmpty) = false := by
    cases h.some_digits with
    | inl hi => rw [group_digits_nonempty hi, Bool.false_and]
    | inr hf => rw [group_digits_nonempty hf, Bool.and_false]
  rw [hrender]
  unfold pyDecimal
  cases hdot : t.dot with
  | true =>
    have hF : StopU isDig ('.' :: (t.fp.render ++ exChars E t.ex)) := stop_cons (by decide) _
    simp only [↓reduceIte, List.cons_append, digitPart_wf h.ip_wf _ hF, pyFraction, digitPart_wf h.fp_wf _ hX, hnonempty,
      Bool.false_eq_true, hpe, Bool.true_or]
  | false =>
    -- no point: no fraction digits, and there is an exponent
    obtain ⟨v, hx⟩ : ∃ v, t.ex = some v := Option.isSome_iff_exists.1 (h.is_float.resolve_left (by simp [hdot]))
    have hfr : pyFraction (exChars E t.ex) = some (false, [], exChars E t.ex) := by
      rw [hx]
      unfold pyFraction exChars
      split
      · rename_i heq; exact absurd (List.cons.inj heq).1 (expLetter_facts hE).2.1
      · rfl
    have hex : (exText t.ex).isSome = true := by rw [hx]; rfl
    have hfd : t.fp.digits = [] := by rw [h.no_dot_no_fp hdot]; rfl
    rw [hfd] at hnonempty ⊢
    simp only [Bool.false_eq_true, ↓reduceIte, List.nil_append, digitPart_wf h.ip_wf _ hX, hfr, hnonempty, hpe, hex,
      Bool.false_or]

theorem pyNumber_of_decimal {cs : List Char} {v : PyConst} (h : pyDecimal cs = .ok v) : pyNumber cs = .ok v := by
  unfold pyNumber; rw [h]

/-- `hlz`: no leading zero unless the token is all zeros; `hlim`: the tokenizer's 4300-digit limit -/
theorem pyNumber_decint (g : Group) (hne : g ≠ []) (hg : g.WF)
    (hlz : ¬ (g.digits.head? = some '0' ∧ ∃ c ∈ g.digits, c ≠ '0')) (hlim : g.digits.length ≤ maxStrDigits) :
    pyNumber g.render = .ok (.int (intVal 10 g.digits)) := by
  apply pyNumber_of_decimal
  have hany : (g.digits.head? == some '0' && g.digits.any (· != '0')) = false :=
    Bool.eq_false_iff.2 fun hb => hlz (by simpa using hb)
  unfold pyDecimal
  simp only [digitPart_whole hg, pyFraction, group_digits_nonempty hne, Bool.false_and, Bool.false_eq_true, ↓reduceIte,
    pyExponent, Bool.false_or, Option.isSome_none, hany, Nat.not_lt.2 hlim, horner,
    horner_zero 10 g.digits (group_digits_isDigit hg)]

/-- `'0'` for an empty digit group, as `floatText` writes it -/
def zeroFill (ds : List Char) : List Char := if ds.isEmpty then ['0'] else ds

theorem zeroFill_digits {ds : List Char} (h : ∀ c ∈ ds, IsDigit 10 c) : ∀ c ∈ zeroFill ds, IsDigit 10 c := by
  unfold zeroFill
  split
  · intro c hc; rw [List.mem_singleton.1 hc]; unfold IsDigit; decide
  · exact h

theorem zeroFill_ne (ds : List Char) : zeroFill ds ≠ [] := by
  unfold zeroFill
  split
  · exact List.cons_ne_nil _ _
  · rename_i hne; exact fun e => hne (List.isEmpty_iff.2 e)

theorem zeroFill_length {ds : List Char} (h : ds.length ≤ maxStrDigits) : (zeroFill ds).length ≤ maxStrDigits := by
  unfold zeroFill
  split
  · decide
  · exact h

theorem zeroFill_intVal (ds : List Char) : intVal 10 (zeroFill ds) = intVal 10 ds := by
  cases ds <;> rfl

theorem zeroFill_fracVal (ds : List Char) : fracVal 10 (zeroFill ds) = fracVal 10 ds := by
  cases ds with
  | nil => decide +kernel
  | cons c cs => rfl

/-- the digit groups of a float token as a decimal spelling: `0` stands in for a missing group -/
def floatSci (t : PyFloat) : Sci :=
  ⟨.none, zeroFill t.ip.digits, some (zeroFill t.fp.digits),
    match t.ex with | none => none | some (sg, g) => some (sg, g.digits)⟩

theorem floatText_eq (t : PyFloat) :
    floatText t.ip.digits t.fp.digits (exText t.ex) = (floatSci t).render [] 'e' := by
  unfold floatText floatSci zeroFill Sci.render exText
  cases t.ex with
  | none => simp [Sign.chars, fracChars, expChars]
  | some v => obtain ⟨sg, g⟩ := v; simp [Sign.chars, fracChars, expChars]

theorem floatSci_wf (t : PyFloat) (h : t.WF) : (floatSci t).WF 10 := by
  refine ⟨zeroFill_digits (group_digits_isDigit h.ip_wf), ?_, nofun, ?_⟩
  · intro f hf
    cases hf
    exact ⟨zeroFill_ne _, zeroFill_digits (group_digits_isDigit h.fp_wf)⟩
  · intro sg ds he
    cases hx : t.ex with
    | none => simp [floatSci, hx] at he
    | some v =>
      simp only [floatSci, hx, Option.some.injEq, Prod.mk.injEq] at he
      obtain ⟨rfl, rfl⟩ := he
      obtain ⟨hne, hg⟩ := h.ex_wf v.1 v.2 hx
      exact ⟨group_digits_ne hne, group_digits_isDigit hg⟩

theorem floatSci_value (t : PyFloat) : (floatSci t).value 10 10 = t.value := by
  have he : (floatSci t).expVal = t.expVal := by
    unfold Sci.expVal PyFloat.expVal floatSci
    cases t.ex <;> rfl
  unfold Sci.value PyFloat.value
  rw [he]
  simp only [floatSci, Sign.isNeg, Bool.false_eq_true, ↓reduceIte, Option.getD, zeroFill_intVal, zeroFill_fracVal]
  rfl

/-- the limits of the implementation on a float token: no digit group longer than CPython's
`int(str)` limit, at most 6 significant digits in the exponent -/
structure FloatWithin (t : PyFloat) : Prop where
  ip : t.ip.digits.length ≤ maxStrDigits
  fp : t.fp.digits.length ≤ maxStrDigits
  ex : ∀ sg g, t.ex = some (sg, g) → g.digits.length ≤ maxStrDigits ∧
        (g.digits.dropWhile (· == '0')).length ≤ maxExponentDigits

theorem floatSci_within (t : PyFloat) (hl : FloatWithin t) : withinB 10 (floatSci t) = true := by
  unfold withinB floatSci
  simp only [bne_self_eq_false, Bool.false_or, zeroFill_length hl.ip, decide_true, Option.getD, zeroFill_length hl.fp,
    Bool.and_self, Bool.true_and]
  cases hx : t.ex with
  | none => rfl
  | some v => exact decide_eq_true (hl.ex v.1 v.2 hx).1

theorem expDigits_exText (t : PyFloat) (h : t.WF) (hl : FloatWithin t) :
    ¬ (expDigits ((exText t.ex).getD []) > maxExponentDigits) := by
  cases hx : t.ex with
  | none => simp [exText, expDigits, maxExponentDigits]
  | some v =>
    obtain ⟨sg, g⟩ := v
    -- the sign characters are dropped, the first digit is not one
    have hstop : NoSign g.digits := noSign_of_digits (group_digits_isDigit (h.ex_wf sg g hx).2)
    have hsign : ∀ c ∈ sg.chars, (c == '+' || c == '-') = true := by cases sg <;> simp [Sign.chars]
    simp only [exText, Option.getD, expDigits, dropWhile_app _ _ _ hsign hstop]
    exact Nat.not_lt.2 (hl.ex sg g hx).2

theorem eq_ok_of_toOption {α : Type} {e : Except LErr α} {v : α} (h : e.toOption = some v) : e = .ok v := by
  cases e with
  | error _ => cases h
  | ok w => exact congrArg Except.ok (Option.some.inj h)

theorem rat_of_den_one (v : Rat) (h : v.den = 1) : ((v.num : Int) : Rat) = v := by
  apply Rat.ext <;> simp [h]

end Fpy.Lit
