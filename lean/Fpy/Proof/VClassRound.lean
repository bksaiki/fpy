/-
Soundness of `representable_classes` (the rounding transfer of `value_class.py`):
whatever any context's rounding returns has a class the three probes (NaN, +Inf, −Inf) or
ZERO | FINITE account for.
-/
import Fpy.Proof.VClass
import Fpy.Proof.CtxCore
namespace Fpy.C13
open Fpy VC

theorem roundedClass_has {C : Ctx} {x : FV} {r : Res} (h : C.roundAtCore x none false 0 = .ok r) :
    (roundedClass C x).has (classOf r.v) = true := by
  simp only [roundedClass, h]; exact has_single_self _

/-- the shape every family's result has: a finite value, or (up to class) what a probe gives -/
def Accounted (C : Ctx) (res : Res) : Prop :=
  (∃ y, res.v = .fin y) ∨
  (∃ r', C.roundAtCore (.nan false) none false 0 = .ok r' ∧ classOf r'.v = classOf res.v) ∨
  (∃ s r', C.roundAtCore (.inf s) none false 0 = .ok r' ∧ classOf r'.v = classOf res.v)

theorem accounted_sound {C : Ctx} {res : Res} (h : Accounted C res) :
    (representableClasses C).has (classOf res.v) = true := by
  unfold representableClasses
  rcases h with ⟨y, hy⟩ | ⟨r', h1, h2⟩ | ⟨s, r', h1, h2⟩
  · rw [hy]
    exact has_join_left (has_join_left (has_join_left (has_of_zero_fin (classOf_fin_cases y) rfl rfl)))
  · rw [← h2]
    exact has_join_left (has_join_left (has_join_right (roundedClass_has h1)))
  · rw [← h2]
    cases s
    · exact has_join_left (has_join_right (roundedClass_has h1))
    · exact has_join_right (roundedClass_has h1)

theorem floatSpecial_probe (o : Opts) (v : FV) (e : Except Err Res) (h : floatSpecial o v = some e) :
    (∃ s, v = .nan s ∧ floatSpecial o (.nan false) = some e) ∨ (∃ s, v = .inf s) := by
  cases v with
  | nan s => exact .inl ⟨s, rfl, h⟩
  | inf s => exact .inr ⟨s, rfl⟩
  | fin x => simp [floatSpecial] at h

theorem floatSpecial_none (o : Opts) (v : FV) (h : floatSpecial o v = none) : ∃ x, v = .fin x := by
  cases v with
  | nan s => simp [floatSpecial] at h
  | inf s => simp [floatSpecial] at h
  | fin x => exact ⟨x, rfl⟩

theorem fixedSpecial_none (o : Opts) (v : FV) (h : fixedSpecial o v = none) : ∃ x, v = .fin x := by
  cases v with
  | nan s => simp [fixedSpecial] at h
  | inf s => simp [fixedSpecial] at h
  | fin x => exact ⟨x, rfl⟩

theorem fixedSpecial_class (o : Opts) (s : Bool) (res : Res) (h : fixedSpecial o (.nan s) = some (.ok res)) :
    ∃ r', fixedSpecial o (.nan false) = some (.ok r') ∧ classOf r'.v = classOf res.v := by
  simp only [fixedSpecial] at h ⊢
  cases hn : o.enableNan <;> simp only [hn, Bool.false_eq_true, if_false, if_true] at h ⊢
  · exact ⟨res, h, rfl⟩
  · injection h with h; injection h with h; subst h
    exact ⟨_, rfl, rfl⟩

/-- A NaN or an infinity is answered by the special-value arm alone, whatever the rounding position,
`exact` flag and draw, so the result is the probe's by unfolding — up to the sign of a NaN, which `real`
and the fixed families keep. -/
theorem nar_accounted (C : Ctx) (v : FV) (hv : v.isNar = true) (n : Option Int) (exact : Bool) (r : Nat)
    (res : Res) (h : C.roundAtCore v n exact r = .ok res) : Accounted C res := by
  cases v with
  | fin x => cases hv
  | inf s =>
    refine .inr (.inr ⟨s, res, ?_, rfl⟩)
    cases C with
    | real => cases n <;> first | exact h | cases h
    | _ => exact h
  | nan s =>
    refine .inr (.inl ?_)
    cases C with
    | real => cases n with
      | none => cases h; exact ⟨_, rfl, rfl⟩
      | some m => cases h
    | mpfix nmin rm k nz o =>
      obtain ⟨r', h1, h2⟩ := fixedSpecial_class o s res (congrArg some h)
      exact ⟨r', Option.some.inj h1, h2⟩
    | mpbfix c =>
      obtain ⟨r', h1, h2⟩ := fixedSpecial_class c.o s res (congrArg some h)
      exact ⟨r', Option.some.inj h1, h2⟩
    | _ => exact ⟨res, h, rfl⟩

theorem rangeEnd_fin (c : MPBFixParams) (s : Bool) : ∃ y, (c.rangeEnd s).v = .fin y := by
  unfold MPBFixParams.rangeEnd
  split
  · split <;> exact ⟨_, rfl⟩
  · exact ⟨_, rfl⟩

/-- An out-of-range rounding of `MPBFloat` ends at the largest value of its side, or at what the family makes of
an infinity — the operand's (`enable_inf`) or one of the rounding's sign (`inf_value`). -/
theorem mpbOverflowed_probe {c : MPBParams} {xs : Bool} {y : RF} {res : Res} (h : mpbOverflowed c xs y = .ok res) :
    (∃ z, res.v = .fin z) ∨ ∃ s r', mpbRoundAt c (.inf s) none false 0 = .ok r' ∧ r'.v = res.v := by
  rcases ovfResult_arms h with ⟨-, -, ⟨he, e⟩ | ⟨he, iv, hi, e⟩⟩ | ⟨-, e⟩ | ⟨-, e⟩
  · exact .inr ⟨xs, ⟨.inf xs, {}⟩, by simp only [mpbRoundAt, floatSpecial, he, if_true], by rw [e]; rfl⟩
  · exact .inr ⟨y.s, ⟨iv.withSign y.s, {}⟩,
      by simp only [mpbRoundAt, floatSpecial, he, hi, Bool.false_eq_true, if_false], by rw [e]; rfl⟩
  · exact .inl ⟨_, by rw [e]; rfl⟩
  · cases e

theorem fixup_value (c : EFloatParams) (r1 r2 a : Res) (hv : r1.v = r2.v) (h : efloatFixup c r1 = .ok a) :
    ∃ b, efloatFixup c r2 = .ok b ∧ b.v = a.v := by
  obtain ⟨v, f1⟩ := r1
  obtain ⟨_, f2⟩ := r2
  cases hv
  rw [efloatFixup_flags] at h ⊢
  cases h0 : efloatFixup c ⟨v, {}⟩ <;> rw [h0] at h <;> cases h
  exact ⟨_, rfl, rfl⟩

theorem fixup_fin (c : EFloatParams) (r a : Res) (y : RF) (hv : r.v = .fin y) (h : efloatFixup c r = .ok a) :
    ∃ z, a.v = .fin z := by
  obtain ⟨v, f⟩ := r
  cases hv
  rw [efloatFixup_fin] at h
  exact ⟨_, congrArg Res.v (Except.ok.inj h).symm⟩

/-- What the overflow arm returns is finite, or — where an out-of-range rounding went to infinity —
what the probe of an infinity returns (`EFloat`: up to flags, which `_fixup` keeps). -/
theorem overflowed_accounted {C : Ctx} {xs : Bool} {y : RF} {res : Res} (h : C.overflowed xs y = .ok res) :
    Accounted C res := by
  cases C <;> simp only [Ctx.overflowed, reduceCtorEq] at h
  case mpb c => exact (mpbOverflowed_probe h).imp_right fun ⟨s, r', hp, hv⟩ => .inr ⟨s, r', hp, by rw [hv]⟩
  case efloat c =>
    cases hm : mpbOverflowed c.mpb xs y with
    | error e => rw [hm] at h; cases h
    | ok res0 =>
      rw [hm] at h
      rcases mpbOverflowed_probe hm with ⟨z, hz⟩ | ⟨s, r', hp, hv⟩
      · exact .inl (fixup_fin c res0 res z hz h)
      · obtain ⟨b, hb, hbv⟩ := fixup_value c res0 r' res hv.symm h
        exact .inr (.inr ⟨s, b, by simp only [Ctx.roundAtCore, hp, hb], by rw [hbv]⟩)
  case mpbfix c =>
    rcases ovfResult_arms h with ⟨-, -, ⟨he, e⟩ | ⟨he, iv, hi, e⟩⟩ | ⟨-, e⟩ | ⟨-, e⟩
    · exact .inr (.inr ⟨xs, ⟨.inf xs, {}⟩,
        by simp only [Ctx.roundAtCore, mpbfixRoundAt, fixedSpecial, he, if_true], by rw [e]; rfl⟩)
    · exact .inr (.inr ⟨xs, ⟨iv, {}⟩,
        by simp only [Ctx.roundAtCore, mpbfixRoundAt, fixedSpecial, he, hi, Bool.false_eq_true, if_false],
        by rw [e]; rfl⟩)
    · obtain ⟨z, hz⟩ := rangeEnd_fin c y.s
      exact .inl ⟨z, by rw [e]; exact hz⟩
    · cases e
      exact .inl (by simp only [setOvf, mpbfixWrapped]; split <;> exact ⟨_, rfl⟩)

/-- `ExpContext` holds powers of two only: zero, negatives and out-of-range values become NaN -/
theorem exp_fin (c : ExpParams) (x : RF) (n : Option Int) (exact : Bool) (r : Nat) (res : Res)
    (h : (Ctx.exp c).roundAtCore (.fin x) n exact r = .ok res) :
    res.v = .nan false ∨ ∃ y, res.v = .fin y := by
  rcases expRoundAt_fin (show expRoundAt c (.fin x) n exact = .ok res from h) with
    e | e | e | ⟨y, fl, -, -, -, -, -, -, rfl⟩
  · exact .inl e
  · exact .inr ⟨_, e⟩
  · exact .inr ⟨_, e⟩
  · exact .inr ⟨y, rfl⟩

theorem round_accounted (C : Ctx) (v : FV) (n : Option Int) (exact : Bool) (r : Nat) (res : Res)
    (h : C.roundAtCore v n exact r = .ok res) : Accounted C res := by
  cases v with
  | nan s => exact nar_accounted C _ rfl n exact r res h
  | inf s => exact nar_accounted C _ rfl n exact r res h
  | fin x =>
    cases hc : C.core with
    | some q =>
      obtain ⟨P, N, rm, k⟩ := q
      by_cases hx : x.c = 0
      · rw [Ctx.roundAtCore_zero_at (by rw [hc]; rfl) hx] at h
        exact .inl ⟨_, congrArg Res.v (Except.ok.inj h).symm⟩
      · obtain ⟨y, fl, -, ⟨-, rfl⟩ | ⟨-, -, ho, -⟩⟩ := Ctx.roundAtCore_fin_inv hc hx h
        · exact .inl ⟨_, rfl⟩
        · exact overflowed_accounted ho
    | none =>
      cases C <;> simp only [Ctx.core, reduceCtorEq] at hc
      case real => exact .inl ⟨x, by cases n <;> cases h; rfl⟩
      case exp c =>
        exact (exp_fin c x n exact r res h).symm.imp_right fun hv => .inl ⟨⟨.nan false, {}⟩, rfl, by rw [hv]⟩

end Fpy.C13
