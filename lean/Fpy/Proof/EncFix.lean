/-
C16: representability, `encode` and `decode` of the two's-complement and sign-magnitude fixed-point formats on
values spelled at the format's own scale, the move of any representable value to that scale, and what
`MPFixedFormat`'s ordinal map and representability test say.  Then `ExpFormat` (powers of two): what
representability says, and the exponent range as a range of codes.
-/
import Fpy.Proof.Enc
namespace Fpy
open Fpy.Enc Fpy.Spec

theorem testBit_top (b n : Nat) (hn : 1 ≤ n) (hb : b < 2 ^ n) :
    b.testBit (n - 1) = decide (b ≥ 2 ^ (n - 1)) := by
  rw [Nat.testBit_eq_decide_div_mod_eq]
  have hp := two_pow_pred n hn
  have hH := Nat.two_pow_pos (n - 1)
  generalize 2 ^ (n - 1) = H at *
  by_cases h : b ≥ H
  · have : b / H = 1 := Nat.div_eq_of_lt_le (by omega) (by omega)
    simp [this, h]
  · have : b / H = 0 := Nat.div_eq_of_lt (by omega)
    simp [this, h]

theorem mpbfix_repr_nonzero (F : MPBFixFmt) (x : RF) (hc : x.c ≠ 0) :
    F.repr (.fin x) = (x.isMoreSignificant F.nmin && (if x.s then F.negMax.le x else x.le F.posMax)) := by
  unfold MPBFixFmt.repr MPFixFmt.repr MPBFixFmt.mp FV.isZero FV.sign
  have : (x.c == 0) = false := by simp [hc]
  simp only [this, Bool.false_and, Bool.false_eq_true, if_false, hc]
  cases x.isMoreSignificant F.nmin <;> simp

theorem mpbfix_repr_zero (F : MPBFixFmt) (x : RF) (hc : x.c = 0) :
    F.repr (.fin x) = !(x.s && !F.negZero) := by
  unfold MPBFixFmt.repr MPFixFmt.repr MPBFixFmt.mp FV.isZero FV.sign
  have h1 : (x.c == 0) = true := by simp [hc]
  have h2 : x.isMoreSignificant F.nmin = true := by unfold RF.isMoreSignificant; simp [hc]
  simp only [hc, h2]
  cases x.s <;> cases F.negZero <;> simp

theorem mpbfix_rescale (F : MPBFixFmt) (sc : Int) (hsc : F.nmin = sc - 1) (x : RF) (hc : x.c ≠ 0)
    (hr : F.repr (.fin x) = true) :
    shiftBy x.c (x.exp - sc) ≠ 0 ∧
    F.repr (.fin ⟨x.s, sc, shiftBy x.c (x.exp - sc)⟩) = true ∧
    same x ⟨x.s, sc, shiftBy x.c (x.exp - sc)⟩ := by
  rw [mpbfix_repr_nonzero _ _ hc] at hr
  simp only [Bool.and_eq_true] at hr
  obtain ⟨hms, hbnd⟩ := hr
  have hdiv : x.c % 2 ^ (sc - x.exp).toNat = 0 := by
    have := isMoreSignificant_div hms
    rwa [hsc, Int.sub_add_cancel] at this
  have hc' := (shiftBy_spec x.exp sc x.c hc hdiv).1
  have hsame := sameValue_shiftBy x sc hdiv
  generalize shiftBy x.c (x.exp - sc) = c' at *
  have heq : x.eqV ⟨x.s, sc, c'⟩ := by unfold RF.eqV; rw [← units_eq_sc, ← units_eq_sc]; exact hsame
  refine ⟨hc', ?_, hsame, rfl⟩
  -- the same number at another exponent: above `nmin` by its exponent, within the bounds because `x` is
  rw [mpbfix_repr_nonzero _ _ hc', isMoreSignificant_of_lt (by rw [hsc]; exact Int.sub_one_lt_of_le (Int.le_refl _)),
    Bool.true_and, ← RF.le_congr (RF.eqV_refl _) heq, ← RF.le_congr heq (RF.eqV_refl _)]
  exact hbnd

theorem le_same_exp (s t : Bool) (e : Int) (a b : Nat) :
    RF.le ⟨s, e, a⟩ ⟨t, e, b⟩ = true ↔ (if s then -(a : Int) else a) ≤ (if t then -(b : Int) else b) := by
  rw [le_iff_units]; unfold units mag; simp

theorem fx_valid_nbits (f : FX) (hv : f.valid = true) : 1 ≤ f.nbits ∧ (f.signed = true → 2 ≤ f.nbits) := by
  unfold FX.valid at hv; split at hv <;> simp at hv <;> simp_all <;> omega

theorem fx_repr_on_scale (f : FX) (hv : f.valid = true) (s : Bool) (c : Nat) (hc : c ≠ 0) :
    f.mpb.repr (.fin ⟨s, f.scale, c⟩) =
      (if s then f.signed && decide (c ≤ 2 ^ (f.nbits - 1))
       else decide (c ≤ (if f.signed then 2 ^ (f.nbits - 1) - 1 else 2 ^ f.nbits - 1))) := by
  have ⟨hn, hn2⟩ := fx_valid_nbits f hv
  rw [mpbfix_repr_nonzero _ _ hc]
  have hms : RF.isMoreSignificant ⟨s, f.scale, c⟩ f.mpb.nmin = true :=
    isMoreSignificant_of_lt (show f.scale - 1 < f.scale by omega)
  rw [hms, Bool.true_and]
  have hp := two_pow_pred f.nbits hn
  have hH2 : f.signed = true → 2 ^ (f.nbits - 1) ≥ 2 := fun h => by
    have := two_pow_pred (f.nbits - 1) (by have := hn2 h; omega); have := Nat.two_pow_pos (f.nbits - 1 - 1); omega
  have hH := Nat.two_pow_pos (f.nbits - 1)
  have hpm : f.mpb.posMax = ⟨false, f.scale, if f.signed then 2 ^ (f.nbits - 1) - 1 else 2 ^ f.nbits - 1⟩ := by
    simp only [FX.mpb, fixedBounds, bitmask]; cases f.signed <;> rfl
  have hnm : f.mpb.negMax = if f.signed then ⟨true, f.scale, 2 ^ (f.nbits - 1)⟩ else ⟨false, 0, 0⟩ := by
    simp only [FX.mpb, fixedBounds]; cases f.signed <;> rfl
  rw [hpm, hnm]
  generalize 2 ^ f.nbits = N at *
  generalize 2 ^ (f.nbits - 1) = H at *
  cases hsg : f.signed <;> cases s <;>
    simp only [if_true, if_false, Bool.false_eq_true, Bool.true_and, Bool.false_and]
  · rw [Bool.eq_iff_iff, le_same_exp]; simp
  · -- unsigned format, negative `x`: `negMax` is the `+0 = ⟨false, 0, 0⟩` of `fixedBounds`, whose exponent is not `scale`,
    -- so `le_same_exp` does not apply; a negative value is below it at any scale
    rw [Bool.eq_iff_iff, le_iff_units]
    have hP := Nat.two_pow_pos (f.scale - min 0 f.scale).toNat
    simp only [units, mag]
    generalize 2 ^ (f.scale - min 0 f.scale).toNat = P at *
    have : 0 < c * P := Nat.mul_pos (by omega) hP
    generalize c * P = Q at *
    simp; omega
  · have := hH2 hsg
    rw [Bool.eq_iff_iff, le_same_exp]; simp
  · rw [Bool.eq_iff_iff, le_same_exp]; simp

theorem fx_encode_on_scale (f : FX) (hv : f.valid = true) (s : Bool) (c : Nat)
    (hr : f.mpb.repr (.fin ⟨s, f.scale, c⟩) = true) :
    f.encode (.fin ⟨s, f.scale, c⟩) = .ok (if c = 0 then 0 else if f.signed && s then 2 ^ f.nbits - c else c) := by
  have ⟨hn, hn2⟩ := fx_valid_nbits f hv
  have hp := two_pow_pred f.nbits hn
  have hH := Nat.two_pow_pos (f.nbits - 1)
  unfold FX.encode
  simp only [hr, Bool.not_true, Bool.false_eq_true, if_false, Int.sub_self, ge_iff_le, Int.le_refl, if_true,
    Int.toNat_zero, Nat.pow_zero, Nat.mul_one, bitmask]
  by_cases hc : c = 0
  · simp [hc]
  · rw [fx_repr_on_scale f hv s c hc] at hr
    simp only [hc, if_false]
    generalize 2 ^ f.nbits = N at *
    generalize 2 ^ (f.nbits - 1) = H at *
    cases hsg : f.signed <;> cases s <;> simp [hsg] at hr ⊢ <;> omega

theorem fx_decode_on_scale (f : FX) (hv : f.valid = true) (s : Bool) (c : Nat) (hc : c ≠ 0)
    (hr : f.mpb.repr (.fin ⟨s, f.scale, c⟩) = true) :
    (if f.signed && s then 2 ^ f.nbits - c else c) < 2 ^ f.nbits ∧
    f.decode (if f.signed && s then 2 ^ f.nbits - c else c) = .ok (.fin ⟨s, f.scale, c⟩) := by
  have ⟨hn, hn2⟩ := fx_valid_nbits f hv
  have hp := two_pow_pred f.nbits hn
  have hH := Nat.two_pow_pos (f.nbits - 1)
  rw [fx_repr_on_scale f hv s c hc] at hr
  have hlt : (if f.signed && s then 2 ^ f.nbits - c else c) < 2 ^ f.nbits := by
    cases hsg : f.signed <;> cases s <;> simp [hsg] at hr ⊢ <;> omega
  refine ⟨hlt, ?_⟩
  unfold FX.decode
  have h0 : ¬ ((if f.signed && s then 2 ^ f.nbits - c else c) ≥ 2 ^ f.nbits) := by omega
  simp only [h0, if_false, testBit_top _ f.nbits hn hlt]
  generalize 2 ^ f.nbits = N at *
  generalize 2 ^ (f.nbits - 1) = H at *
  cases hsg : f.signed <;> cases s <;> simp only [hsg, Bool.false_and, Bool.true_and, Bool.and_false, Bool.false_eq_true, if_false, if_true] at hr ⊢
  · have hr' : c ≤ H - 1 := by simpa using hr
    have h1 : ¬ c ≥ H := by omega
    simp [h1]
  · have hr' : c ≤ H := by simpa using hr
    have h1 : N - c ≥ H := by omega
    have h2 : N - (N - c) = c := by omega
    simp [h1, h2]

theorem sm_valid_nbits (f : SM) (hv : f.valid = true) : 2 ≤ f.nbits := by
  unfold SM.valid at hv; simpa using hv

theorem sm_repr_on_scale (f : SM) (hv : f.valid = true) (s : Bool) (c : Nat) (hc : c ≠ 0) :
    f.mpb.repr (.fin ⟨s, f.scale, c⟩) = decide (c ≤ 2 ^ (f.nbits - 1) - 1) := by
  have hn := sm_valid_nbits f hv
  rw [mpbfix_repr_nonzero _ _ hc]
  have hms : RF.isMoreSignificant ⟨s, f.scale, c⟩ f.mpb.nmin = true :=
    isMoreSignificant_of_lt (show f.scale - 1 < f.scale by omega)
  rw [hms, Bool.true_and]
  have hpm : f.mpb.posMax = ⟨false, f.scale, 2 ^ (f.nbits - 1) - 1⟩ := rfl
  have hnm : f.mpb.negMax = ⟨true, f.scale, 2 ^ (f.nbits - 1) - 1⟩ := rfl
  rw [hpm, hnm]
  generalize 2 ^ (f.nbits - 1) = H at *
  cases s <;> simp only [if_true, if_false, Bool.false_eq_true]
  · rw [Bool.eq_iff_iff, le_same_exp]; simp
  · rw [Bool.eq_iff_iff, le_same_exp]; simp

theorem sm_encode_on_scale (f : SM) (hv : f.valid = true) (s : Bool) (c : Nat)
    (hr : f.mpb.repr (.fin ⟨s, f.scale, c⟩) = true) :
    c < 2 ^ (f.nbits - 1) ∧
    f.encode (.fin ⟨s, f.scale, c⟩) = .ok (2 ^ (f.nbits - 1) * (if s then 1 else 0) + c) := by
  have hn := sm_valid_nbits f hv
  have hH := Nat.two_pow_pos (f.nbits - 1)
  have hlt : c < 2 ^ (f.nbits - 1) := by
    by_cases hc : c = 0
    · omega
    · rw [sm_repr_on_scale f hv s c hc] at hr; simp at hr; omega
  refine ⟨hlt, ?_⟩
  unfold SM.encode
  simp only [hr, Bool.not_true, Bool.false_eq_true, if_false, Int.sub_self, ge_iff_le, Int.le_refl, if_true,
    Int.toNat_zero, Nat.pow_zero, Nat.mul_one]
  have : (if c = 0 then 0 else c) = c := by split <;> omega
  rw [this, two_pow_mul_or _ _ _ hlt]

theorem sm_decode_add (f : SM) (hv : f.valid = true) (s : Bool) (c : Nat) (hc : c < 2 ^ (f.nbits - 1)) :
    2 ^ (f.nbits - 1) * (if s then 1 else 0) + c < 2 ^ f.nbits ∧
    f.decode (2 ^ (f.nbits - 1) * (if s then 1 else 0) + c) = .ok (.fin ⟨s, f.scale, c⟩) := by
  have hn := sm_valid_nbits f hv
  have hp := two_pow_pred f.nbits (by omega)
  have hH := Nat.two_pow_pos (f.nbits - 1)
  have hlt : 2 ^ (f.nbits - 1) * (if s then 1 else 0) + c < 2 ^ f.nbits := by cases s <;> simp <;> omega
  refine ⟨hlt, ?_⟩
  unfold SM.decode
  have h0 : ¬ (2 ^ (f.nbits - 1) * (if s then 1 else 0) + c ≥ 2 ^ f.nbits) := by omega
  simp only [h0, if_false]
  rw [(divmod_code hH _ c hc).1, (divmod_code hH _ c hc).2]
  cases s <;> simp

theorem fix_unord_repr (f : MPFixFmt) (k : Int) : (f.unordRF k).isMoreSignificant f.nmin = true := by
  unfold MPFixFmt.unordRF RF.isMoreSignificant MPFixFmt.expmin
  by_cases hk : k = 0
  · simp [hk]
  · simp only [hk, if_false]
    rw [if_pos (by omega : f.nmin + 1 > f.nmin), ite_self]

theorem fix_next (f : MPFixFmt) (x : RF) (hr : f.repr (.fin x) = true) :
    (Fmt.mpfix f).nextUp (.fin x) false = .ok (.fin (f.unordRF (f.ordRF x + 1))) ∧
    (Fmt.mpfix f).nextDown (.fin x) false = .ok (.fin (f.unordRF (f.ordRF x - 1))) := by
  unfold Fmt.nextUp Fmt.nextDown Fmt.stepTowardsInf Fmt.repr Fmt.toOrdinal Fmt.fromOrdinal
    MPFixFmt.toOrdinal MPFixFmt.fromOrdinal
  simp [hr, FV.isNan, FV.isInf]
  rfl

theorem mpfix_repr_fin (f : MPFixFmt) (x : RF) (hr : f.repr (.fin x) = true) :
    x.isMoreSignificant f.nmin = true := by
  unfold MPFixFmt.repr at hr
  split at hr
  · cases hr
  · exact hr

theorem mpbfix_repr_mp (F : MPBFixFmt) (v : FV) (hr : F.repr v = true) : F.mp.repr v = true :=
  guard_passed hr Bool.false_ne_true

theorem exp_repr_fin (f : ExpFmt) (x : RF) :
    f.repr (.fin x) = true ↔
      ExpFmt.mp1Repr x = true ∧ x.c ≠ 0 ∧ x.s = false ∧ f.emin ≤ x.e ∧ x.e ≤ f.emax := by
  simp [ExpFmt.repr, and_assoc]

/-- the upper bound is strict: the code `2^nbits - 1` is the NaN -/
theorem exp_range (f : ExpFmt) (hv : f.valid = true) (e : Int) :
    (f.emin ≤ e ∧ e ≤ f.emax) ↔ (0 ≤ e + f.ebias ∧ e + f.ebias < ((2 ^ f.nbits - 1 : Nat) : Int)) := by
  have hn : 1 ≤ f.nbits := by unfold ExpFmt.valid at hv; simpa using hv
  have := two_pow_pred f.nbits hn
  have := Nat.two_pow_pos (f.nbits - 1)
  unfold ExpFmt.emin ExpFmt.emax ExpFmt.ebias bitmask
  omega

theorem bitLength_one : bitLength 1 = 1 := by decide

theorem e_pow_one (e : Int) : RF.e ⟨false, e, 1⟩ = e := by
  unfold RF.e RF.p; simp only [bitLength_one]; omega

theorem mp1_pow (x : RF) (hc : x.c ≠ 0) (h : ExpFmt.mp1Repr x = true) : x.c = 2 ^ (x.p - 1) := by
  have hp := bitLength_pos hc
  have ⟨h1, h2⟩ := (bitLength_eq_iff x.c (bitLength x.c) hp).1 rfl
  unfold ExpFmt.mp1Repr at h
  simp only [hc, if_false] at h
  unfold RF.p at *
  by_cases hp1 : bitLength x.c ≤ 1
  · have : bitLength x.c = 1 := by omega
    rw [this] at h1 h2 ⊢; simp at h1 h2 ⊢; omega
  · simp only [hp1, if_false, beq_iff_eq] at h
    have hd := Nat.div_add_mod x.c (2 ^ (bitLength x.c - 1))
    rw [h, Nat.add_zero] at hd
    have hpp := two_pow_pred (bitLength x.c) hp
    have hq : x.c / 2 ^ (bitLength x.c - 1) = 1 := Nat.div_eq_of_lt_le (by omega) (by omega)
    rw [hq, Nat.mul_one] at hd; exact hd.symm

end Fpy
