/-
C12 — what the soundness proofs of the compiler models and of the reader stand on: environments, the
defining equations of the two fuel-indexed evaluators (FPCore: `eval`; core language: `evalE`, `evalS`,
`evalB`), one per form the proofs meet, and convergence of the FPCore evaluator (`Ev`, `Conv`).  Then the
property table: which keys an entry of `tableOf` sets, and what `Props.toDesc` reads of them.
-/
import Fpy.Model.FPCoreCompile
import Fpy.Proof.LangBase
import Fpy.Proof.Except
namespace Fpy.C12
open Fpy Fpy.Lang

export Fpy.Xform.Env (get?_set_self)

theorem get?_set_ne {σ : Env} {x y : String} {v : Val} (h : y ≠ x) : (σ.set x v).get? y = σ.get? y :=
  Fpy.Xform.Env.get?_set_ne σ v (Ne.symm h)

/-- `ρ` and `σ` agree on `S`, the compiler's own names (`%t`, `_`) aside: the compiled expression rebinds those -/
def Agree (S : List String) (ρ σ : Env) : Prop := ∀ x, x ∈ S → isTmp x = false → ρ.get? x = σ.get? x

theorem Agree.mono {S T : List String} {ρ σ : Env} (h : Agree T ρ σ) (hs : ∀ x, x ∈ S → x ∈ T) : Agree S ρ σ :=
  fun x hx ht => h x (hs x hx) ht

theorem Agree.set {S : List String} {ρ σ : Env} (x : String) (v : Val)
    (h : ∀ y, y ∈ S → y ≠ x → isTmp y = false → ρ.get? y = σ.get? y) : Agree S (ρ.set x v) (σ.set x v) := by
  intro y hy ht
  rw [Fpy.Xform.Env.get?_set, Fpy.Xform.Env.get?_set]
  split
  · rfl
  · next hne => exact h y hy hne ht

def Bound (G : List String) (σ : Env) : Prop := ∀ x, x ∈ G → ∃ w, σ.get? x = some w

theorem Bound.cons_set {G : List String} {σ : Env} (h : Bound G σ) (x : String) (v : Val) : Bound (x :: G) (σ.set x v) := by
  intro y hy
  by_cases hyx : y = x
  · exact ⟨v, hyx ▸ get?_set_self σ x v⟩
  · rw [get?_set_ne hyx]
    exact h y ((List.mem_cons.1 hy).resolve_left hyx)

/-- the value of `x` in `σ`; read only where `x` is bound (`Bound`, `gv_of_get`) -/
def gv (σ : Env) (x : String) : Val := (σ.get? x).getD default

theorem gv_of_get {σ : Env} {x : String} {w : Val} (h : σ.get? x = some w) : gv σ x = w := by simp [gv, h]

theorem asNum_ok {v : Val} {x : NV} (h : asNum v = .ok x) : v = .num x := by
  cases v <;> simp [asNum] at h
  exact congrArg _ h

theorem asBool_ok {v : Val} {b : Bool} (h : asBool v = .ok b) : v = .bool b := by
  cases v <;> simp [asBool] at h
  exact congrArg _ h

theorem eval_var (n : Nat) (ρ : Env) (P : Props) (x : String) :
    eval (n + 1) ρ P (.var x) = (match ρ.get? x with | some v => .ok v | none => .error .unbound) := rfl

theorem eval_ann (n : Nat) (ρ : Env) (P p : Props) (e : FExpr) :
    eval (n + 1) ρ P (.ann p e) = eval n ρ (P.update p) e := rfl

theorem eval_ite (n : Nat) (ρ : Env) (P : Props) (c t f : FExpr) :
    eval (n + 1) ρ P (.ite c t f) =
      (do let v ← eval n ρ P c
          if ← asBool v then eval n ρ P t else eval n ρ P f) := rfl

theorem eval_let (n : Nat) (ρ : Env) (P : Props) (star : Bool) (binds : List (String × FExpr)) (body : FExpr) :
    eval (n + 1) ρ P (.let_ star binds body) =
      (do let ρ' ← evalBinds n star ρ ρ P binds
          eval n ρ' P body) := rfl

theorem eval_array (n : Nat) (ρ : Env) (P : Props) (es : List FExpr) :
    eval (n + 1) ρ P (.array es) = (do let vs ← evalList n ρ P es; pure (.tuple vs)) := rfl

theorem eval_ref (n : Nat) (ρ : Env) (P : Props) (a : FExpr) (idx : List FExpr) :
    eval (n + 1) ρ P (.ref a idx) =
      (do let av ← eval n ρ P a
          let ivs ← evalList n ρ P idx
          let ks ← ivs.mapM asIndex
          refIdx av ks) := rfl

theorem evalBinds_nil (n : Nat) (star : Bool) (ρ₀ acc : Env) (P : Props) :
    evalBinds (n + 1) star ρ₀ acc P [] = .ok acc := rfl

theorem evalBinds_cons (n : Nat) (star : Bool) (ρ₀ acc : Env) (P : Props) (x : String) (e : FExpr)
    (rest : List (String × FExpr)) :
    evalBinds (n + 1) star ρ₀ acc P ((x, e) :: rest) =
      (do let v ← eval n (if star then acc else ρ₀) P e
          evalBinds n star ρ₀ (acc.set x v) P rest) := rfl

theorem evalList_nil (n : Nat) (ρ : Env) (P : Props) : evalList (n + 1) ρ P [] = .ok [] := rfl

theorem evalList_cons (n : Nat) (ρ : Env) (P : Props) (e : FExpr) (es : List FExpr) :
    evalList (n + 1) ρ P (e :: es) =
      (do let v ← eval n ρ P e
          let vs ← evalList n ρ P es
          pure (v :: vs)) := rfl

theorem eval_cmp_cons (n : Nat) (ρ : Env) (P : Props) (o : CmpOp) (a : FExpr) (rest : List FExpr) :
    eval (n + 1) ρ P (.cmp o (a :: rest)) =
      (do let av ← eval n ρ P a
          evalCmp n ρ P o (← asNum av) rest) := rfl

theorem evalCmp_nil (n : Nat) (ρ : Env) (P : Props) (o : CmpOp) (x : NV) :
    evalCmp (n + 1) ρ P o x [] = .ok (.bool true) := rfl

theorem evalCmp_cons (n : Nat) (ρ : Env) (P : Props) (o : CmpOp) (x : NV) (b : FExpr) (rest : List FExpr) :
    evalCmp (n + 1) ρ P o x (b :: rest) =
      (do let bv ← eval n ρ P b
          let y ← asNum bv
          if cmpNums o x y then evalCmp n ρ P o y rest else pure (.bool false)) := rfl

theorem eval_num (n : Nat) (ρ : Env) (P : Props) (v : NV) :
    eval (n + 1) ρ P (.num v) =
      (do let C ← P.toCtx
          let r ← opEval C .round [cvtReal v]
          pure (.num r)) := rfl

theorem eval_while (n : Nat) (ρ : Env) (P : Props) (star : Bool) (c : FExpr) (binds : List (String × FExpr × FExpr)) (body : FExpr) :
    eval (n + 1) ρ P (.while_ star c binds body) =
      (do let ρ' ← evalBinds n star ρ ρ P (binds.map fun b => (b.1, b.2.1))
          whileLoop n star ρ' P c binds body) := rfl

theorem whileLoop_succ (n : Nat) (star : Bool) (ρ : Env) (P : Props) (c : FExpr) (binds : List (String × FExpr × FExpr)) (body : FExpr) :
    whileLoop (n + 1) star ρ P c binds body =
      (do let cv ← eval n ρ P c
          if ← asBool cv then do
            let ρ' ← evalBinds n star ρ ρ P (binds.map fun b => (b.1, b.2.2))
            whileLoop n star ρ' P c binds body
          else eval n ρ P body) := rfl

theorem eval_for (n : Nat) (ρ : Env) (P : Props) (star : Bool) (dims : List (String × FExpr))
    (binds : List (String × FExpr × FExpr)) (body : FExpr) :
    eval (n + 1) ρ P (.for_ star dims binds body) =
      (do let ns ← evalDims n ρ P dims
          let ρ' ← evalBinds n star ρ ρ P (binds.map fun b => (b.1, b.2.1))
          C12.forLoop n star ρ' P (dims.map (·.1)) (positions ns) binds body) := rfl

theorem forLoop_nil (n : Nat) (star : Bool) (ρ : Env) (P : Props) (names : List String)
    (binds : List (String × FExpr × FExpr)) (body : FExpr) :
    C12.forLoop (n + 1) star ρ P names [] binds body = eval n ρ P body := rfl

theorem forLoop_cons (n : Nat) (star : Bool) (ρ : Env) (P : Props) (names : List String) (pos : List Nat)
    (more : List (List Nat)) (binds : List (String × FExpr × FExpr)) (body : FExpr) :
    C12.forLoop (n + 1) star ρ P names (pos :: more) binds body =
      (do let ρ' ← evalBinds n star (bindAll ρ (names.zip (pos.map fun (i : Nat) => intVal (Int.ofNat i))))
                      (bindAll ρ (names.zip (pos.map fun (i : Nat) => intVal (Int.ofNat i)))) P (binds.map fun b => (b.1, b.2.2))
          C12.forLoop n star ρ' P names more binds body) := rfl

theorem eval_tensor (n : Nat) (ρ : Env) (P : Props) (dims : List (String × FExpr)) (body : FExpr) :
    eval (n + 1) ρ P (.tensor dims body) =
      (do let ns ← evalDims n ρ P dims
          let vs ← tensorLoop n ρ P (dims.map (·.1)) (positions ns) body
          pure (reshape ns vs)) := rfl

theorem tensorLoop_nil (n : Nat) (ρ : Env) (P : Props) (names : List String) (body : FExpr) :
    tensorLoop (n + 1) ρ P names [] body = .ok [] := rfl

theorem tensorLoop_cons (n : Nat) (ρ : Env) (P : Props) (names : List String) (pos : List Nat) (more : List (List Nat)) (body : FExpr) :
    tensorLoop (n + 1) ρ P names (pos :: more) body =
      (do let v ← eval n (bindAll ρ (names.zip (pos.map fun (i : Nat) => intVal (Int.ofNat i)))) P body
          let vs ← tensorLoop n ρ P names more body
          pure (v :: vs)) := rfl

theorem evalDims_nil (n : Nat) (ρ : Env) (P : Props) : evalDims (n + 1) ρ P [] = .ok [] := rfl

theorem evalDims_cons (n : Nat) (ρ : Env) (P : Props) (x : String) (e : FExpr) (rest : List (String × FExpr)) :
    evalDims (n + 1) ρ P ((x, e) :: rest) =
      (do let v ← eval n ρ P e
          let k ← asIndex v
          let ns ← evalDims n ρ P rest
          pure (k :: ns)) := rfl

theorem eval_op (n : Nat) (ρ : Env) (P : Props) (o : Op) (args : List FExpr) :
    eval (n + 1) ρ P (.op o args) =
      (do let vs ← evalList n ρ P args
          let ns ← vs.mapM asNum
          let C ← P.toCtx
          let r ← opEval C o (ns.map cvtReal)
          pure (.num r)) := rfl

theorem eval_size (n : Nat) (ρ : Env) (P : Props) (a k : FExpr) :
    eval (n + 1) ρ P (.size a k) =
      (do let av ← eval n ρ P a
          let kv ← eval n ρ P k
          let i ← asIndex kv
          let m ← eval.shapeAt av i
          pure (.num (.q (m : Int) 1))) := rfl

theorem eval_pos {n : Nat} {ρ : Env} {P : Props} {e : FExpr} {v : Val} (h : eval n ρ P e = .ok v) : ∃ n', n = n' + 1 := by
  cases n with
  | zero => simp [eval] at h
  | succ n => exact ⟨n, rfl⟩

theorem evalList_pos {n : Nat} {ρ : Env} {P : Props} {es : List FExpr} {vs : List Val} (h : evalList n ρ P es = .ok vs) :
    ∃ n', n = n' + 1 := by
  cases n with
  | zero => simp [evalList] at h
  | succ n => exact ⟨n, rfl⟩

theorem evalBinds_pos {n : Nat} {star : Bool} {ρ₀ acc ρ' : Env} {P : Props} {binds : List (String × FExpr)}
    (h : evalBinds n star ρ₀ acc P binds = .ok ρ') : ∃ n', n = n' + 1 := by
  cases n with
  | zero => simp [evalBinds] at h
  | succ n => exact ⟨n, rfl⟩

theorem evalB_pos (Φ : Funs) {F : Nat} {σ : Env} {μ : Heap} {C : Ctx} {ss : List Stmt} {res : Outcome × Heap}
    (h : evalB Φ F σ μ C ss = .ok res) : ∃ F', F = F' + 1 := by
  cases F with
  | zero => simp [evalB] at h
  | succ F => exact ⟨F, rfl⟩

theorem evalS_pos (Φ : Funs) {F : Nat} {σ : Env} {μ : Heap} {C : Ctx} {s : Stmt} {res : Outcome × Heap}
    (h : evalS Φ F σ μ C s = .ok res) : ∃ F', F = F' + 1 := by
  cases F with
  | zero => simp [evalS] at h
  | succ F => exact ⟨F, rfl⟩

theorem eval_cmp2_inv {n : Nat} {ρ : Env} {P : Props} {o : CmpOp} {a b : FExpr} {v : Val}
    (h : eval n ρ P (.cmp o [a, b]) = .ok v) :
    ∃ na nb av bv x y, eval na ρ P a = .ok av ∧ eval nb ρ P b = .ok bv ∧ asNum av = .ok x ∧ asNum bv = .ok y ∧
      v = .bool (cmpNums o x y) := by
  obtain ⟨n, rfl⟩ := eval_pos h
  rw [eval_cmp_cons] at h
  obtain ⟨av, ha, h⟩ := bind_ok h
  obtain ⟨x, hx, h⟩ := bind_ok h
  obtain ⟨n, rfl⟩ := eval_pos ha
  rw [evalCmp_cons] at h
  obtain ⟨bv, hb, h⟩ := bind_ok h
  obtain ⟨y, hy, h⟩ := bind_ok h
  refine ⟨_, _, av, bv, x, y, ha, hb, hx, hy, ?_⟩
  cases hc : cmpNums o x y with
  | false => rw [hc] at h; cases h; rfl
  | true =>
    obtain ⟨n, rfl⟩ := eval_pos hb
    rw [hc, if_pos rfl, evalCmp_nil] at h
    cases h
    rfl

theorem evalE_var (Φ : Funs) (n : Nat) (σ : Env) (μ : Heap) (C : Ctx) (x : String) :
    evalE Φ (n + 1) σ μ C (.var x) = (match σ.get? x with | some v => .ok (v, μ) | none => .error .unbound) := rfl

theorem evalE_num (Φ : Funs) (n : Nat) (σ : Env) (μ : Heap) (C : Ctx) (v : NV) :
    evalE Φ (n + 1) σ μ C (.num v) = .ok (.num v, μ) := rfl

theorem evalE_op (Φ : Funs) (n : Nat) (σ : Env) (μ : Heap) (C : Ctx) (o : Op) (args : List Expr) :
    evalE Φ (n + 1) σ μ C (.op o args) =
      (do let (vs, μ') ← evalEs Φ n σ μ C args
          let ns ← vs.mapM asNum
          let r ← opEval C o (ns.map cvtReal)
          pure (.num r, μ')) := rfl

theorem evalE_cmp_cons (Φ : Funs) (n : Nat) (σ : Env) (μ : Heap) (C : Ctx) (ops : List CmpOp) (a : Expr) (rest : List Expr) :
    evalE Φ (n + 1) σ μ C (.cmp ops (a :: rest)) =
      (do let (av, μ1) ← evalE Φ n σ μ C a
          evalChain Φ n σ μ1 C av ops rest) := rfl

theorem evalEs_nil (Φ : Funs) (n : Nat) (σ : Env) (μ : Heap) (C : Ctx) :
    evalEs Φ (n + 1) σ μ C [] = .ok ([], μ) := rfl

theorem evalEs_cons (Φ : Funs) (n : Nat) (σ : Env) (μ : Heap) (C : Ctx) (e : Expr) (es : List Expr) :
    evalEs Φ (n + 1) σ μ C (e :: es) =
      (do let (v, μ1) ← evalE Φ n σ μ C e
          let (vs, μ2) ← evalEs Φ n σ μ1 C es
          pure (v :: vs, μ2)) := rfl

theorem evalChain_nil (Φ : Funs) (n : Nat) (σ : Env) (μ : Heap) (C : Ctx) (a : Val) :
    evalChain Φ (n + 1) σ μ C a [] [] = .ok (.bool true, μ) := rfl

theorem evalE_tuple (Φ : Funs) (n : Nat) (σ : Env) (μ : Heap) (C : Ctx) (es : List Expr) :
    evalE Φ (n + 1) σ μ C (.tuple es) = (do let (vs, μ') ← evalEs Φ n σ μ C es; pure (.tuple vs, μ')) := rfl

theorem evalE_ctxLit (Φ : Funs) (n : Nat) (σ : Env) (μ : Heap) (C : Ctx) (c : Ctx) :
    evalE Φ (n + 1) σ μ C (.ctxLit c) = .ok (.ctx c, μ) := rfl

theorem evalS_assign (Φ : Funs) (n : Nat) (σ : Env) (μ : Heap) (C : Ctx) (p : Pat) (e : Expr) :
    evalS Φ (n + 1) σ μ C (.assign p e) =
      (do let (v, μ') ← evalE Φ n σ μ C e
          let σ' ← bindPat n p v σ
          pure (.normal σ', μ')) := rfl

theorem bindPat_var (n : Nat) (x : String) (v : Val) (σ : Env) : bindPat (n + 1) (.var x) v σ = .ok (σ.set x v) := rfl

theorem evalS_ret (Φ : Funs) (n : Nat) (σ : Env) (μ : Heap) (C : Ctx) (e : Expr) :
    evalS Φ (n + 1) σ μ C (.ret e) = (do let (v, μ') ← evalE Φ n σ μ C e; pure (.ret v, μ')) := rfl

theorem evalS_with (Φ : Funs) (n : Nat) (σ : Env) (μ : Heap) (C : Ctx) (ce : Expr) (body : List Stmt) :
    evalS Φ (n + 1) σ μ C (.with ce none body) =
      (do let (cv, μ') ← evalE Φ n σ μ .real ce
          match cv with
          | .ctx C' => evalB Φ n σ μ' C' body
          | _ => .error .typeError) := rfl

theorem evalS_ifte (Φ : Funs) (n : Nat) (σ : Env) (μ : Heap) (C : Ctx) (c : Expr) (t f : List Stmt) :
    evalS Φ (n + 1) σ μ C (.ifte c t f) =
      (do let (v, μ') ← evalE Φ n σ μ C c
          if ← asBool v then evalB Φ n σ μ' C t else evalB Φ n σ μ' C f) := rfl

theorem evalB_nil (Φ : Funs) (n : Nat) (σ : Env) (μ : Heap) (C : Ctx) :
    evalB Φ (n + 1) σ μ C [] = .ok (.normal σ, μ) := rfl

theorem evalB_cons (Φ : Funs) (n : Nat) (σ : Env) (μ : Heap) (C : Ctx) (s : Stmt) (ss : List Stmt) :
    evalB Φ (n + 1) σ μ C (s :: ss) =
      (do let (o, μ') ← evalS Φ n σ μ C s
          match o with
          | .ret v => pure (.ret v, μ')
          | .normal σ' => evalB Φ n σ' μ' C ss) := rfl

theorem bindPat_tup (n : Nat) (ps : List Pat) (vs : List Val) (σ : Env) :
    bindPat (n + 1) (.tup ps) (.tuple vs) σ =
      (if ps.length != vs.length then .error .valueError else bindPat.go n ps vs σ) := rfl

theorem evalS_if1 (Φ : Funs) (n : Nat) (σ : Env) (μ : Heap) (C : Ctx) (c : Expr) (t : List Stmt) :
    evalS Φ (n + 1) σ μ C (.if1 c t) =
      (do let (v, μ') ← evalE Φ n σ μ C c
          if ← asBool v then evalB Φ n σ μ' C t else pure (.normal σ, μ')) := rfl

theorem evalS_while (Φ : Funs) (n : Nat) (σ : Env) (μ : Heap) (C : Ctx) (c : Expr) (body : List Stmt) :
    evalS Φ (n + 1) σ μ C (.while c body) =
      (do let (v, μ') ← evalE Φ n σ μ C c
          if ← asBool v then do
            let (o, μ'') ← evalB Φ n σ μ' C body
            match o with
            | .ret r => pure (.ret r, μ'')
            | .normal σ' => evalS Φ n σ' μ'' C (.while c body)
          else pure (.normal σ, μ')) := rfl

theorem evalS_for (Φ : Funs) (n : Nat) (σ : Env) (μ : Heap) (C : Ctx) (p : Pat) (it : Expr) (body : List Stmt) :
    evalS Φ (n + 1) σ μ C (.for p it body) =
      (do let (iv, μ') ← evalE Φ n σ μ C it
          match iv with
          | .list r => Lang.forLoop Φ n σ μ' C r 0 p body
          | _ => .error .typeError) := rfl

theorem lforLoop_succ (Φ : Funs) (n : Nat) (σ : Env) (μ : Heap) (C : Ctx) (r i : Nat) (p : Pat) (body : List Stmt) :
    Lang.forLoop Φ (n + 1) σ μ C r i p body =
      (do let l ← heapGet μ r
          match l[i]? with
          | none => pure (.normal σ, μ)
          | some x => do
            let σ' ← bindPat n p x σ
            let (o, μ') ← evalB Φ n σ' μ C body
            match o with
            | .ret v => pure (.ret v, μ')
            | .normal σ'' => Lang.forLoop Φ n σ'' μ' C r (i + 1) p body) := rfl

theorem evalE_range (Φ : Funs) (n : Nat) (σ : Env) (μ : Heap) (C : Ctx) (args : List Expr) :
    evalE Φ (n + 1) σ μ C (.range args) =
      (do let (vs, μ') ← evalEs Φ n σ μ C args
          let ints ← vs.mapM (fun v => do
            match nvInt? (← asNum v) with | some i => .ok i | none => .error .valueError)
          let (a, b, st) ← (match ints with
            | [b] => .ok ((0 : Int), b, (1 : Int))
            | [a, b] => .ok (a, b, (1 : Int))
            | [a, b, c] => .ok (a, b, c)
            | _ => .error .typeError)
          if st = 0 then .error .valueError
          else
            let n : Nat := if st > 0 then ((b - a + st - 1) / st).toNat else ((a - b + (-st) - 1) / (-st)).toNat
            let l := (List.range n).map (fun (i : Nat) => intVal (a + st * (i : Int)))
            let (μ'', r) := alloc μ' l
            .ok (r, μ'')) := rfl

theorem evalChain_order (Φ : Funs) (n : Nat) (σ : Env) (μ : Heap) (C : Ctx) (a : Val) (o : COp) (b : Expr) :
    evalChain Φ (n + 1) σ μ C a [o.toCmp] [b] =
      (do let (bv, μ1) ← evalE Φ n σ μ C b
          let x ← asNum a
          let y ← asNum bv
          if cmpHolds o.toCmp (Lang.nvCompare x y) then evalChain Φ n σ μ1 C bv [] [] else pure (.bool false, μ1)) := by
  -- the definition binds the outcome of the test before branching on it: associativity of `>>=`
  cases o <;> (rw [evalChain]; simp only [COp.toCmp, bind_assoc]; rfl)

theorem evalS_assign_var_inv {Φ : Funs} {f : Nat} {σ : Env} {μ μ' : Heap} {C : Ctx} {x : String} {e : Expr} {o : Outcome}
    (h : evalS Φ (f + 1) σ μ C (.assign (.var x) e) = .ok (o, μ')) :
    ∃ v, evalE Φ f σ μ C e = .ok (v, μ') ∧ o = .normal (σ.set x v) := by
  rw [evalS_assign] at h
  replace h := bind_ok h
  obtain ⟨⟨v, μ1⟩, h1, h⟩ := h
  dsimp only at h
  cases f with
  | zero => cases h1
  | succ g =>
    rw [bindPat_var] at h
    cases h
    exact ⟨v, h1, rfl⟩

theorem exists_map_of_nodup {α β : Type} [DecidableEq α] [Inhabited β] {xs : List α} {vs : List β} (hnd : xs.Nodup)
    (hlen : xs.length = vs.length) : ∃ g : α → β, vs = xs.map g := by
  refine ⟨fun y => vs[xs.idxOf y]?.getD default, List.ext_getElem (by simp [hlen]) fun i h1 h2 => ?_⟩
  simp [hnd.idxOf_getElem i (hlen ▸ h1), h1]

theorem bindPat_go_vars (g : String → Val) (n : Nat) : ∀ (xs : List String) (σ σ' : Env),
    bindPat.go n (xs.map Pat.var) (xs.map g) σ = .ok σ' → σ' = xs.foldl (fun a x => a.set x (g x)) σ := by
  intro xs
  induction xs with
  | nil => intro σ σ' h; cases h; rfl
  | cons x xs ih =>
    intro σ σ' h
    simp only [List.map_cons, bindPat.go] at h
    cases n with
    | zero => simp [bindPat, bind, Except.bind] at h
    | succ m => rw [bindPat_var] at h; exact ih _ _ h

/-- `xs` distinct: the values assigned are then a function `g` of the names, the form `conv_unpack` and `get?_foldl_set` take them in -/
theorem evalS_assign_vars_inv {Φ : Funs} {f : Nat} {σ : Env} {μ μ' : Heap} {C : Ctx} {xs : List String} {e : Expr} {o : Outcome}
    (hnd : xs.Nodup) (h : evalS Φ (f + 1) σ μ C (.assign (.tup (xs.map Pat.var)) e) = .ok (o, μ')) :
    ∃ g : String → Val, evalE Φ f σ μ C e = .ok (.tuple (xs.map g), μ') ∧
      o = .normal (xs.foldl (fun a x => a.set x (g x)) σ) := by
  rw [evalS_assign] at h
  obtain ⟨⟨v, μ1⟩, h1, h⟩ := bind_ok h
  obtain ⟨σ', hbp, h⟩ := bind_ok h
  cases h
  cases f with
  | zero => cases h1
  | succ n =>
    cases v with
    | tuple vs =>
      rw [bindPat_tup] at hbp
      split at hbp
      · cases hbp
      · next hlen =>
        obtain ⟨g, rfl⟩ := exists_map_of_nodup hnd (vs := vs) (by simpa using hlen)
        cases bindPat_go_vars g n xs σ σ' hbp
        exact ⟨g, h1, rfl⟩
    | _ => simp [bindPat] at hbp

theorem evalS_ret_inv {Φ : Funs} {f : Nat} {σ : Env} {μ μ' : Heap} {C : Ctx} {e : Expr} {o : Outcome}
    (h : evalS Φ (f + 1) σ μ C (.ret e) = .ok (o, μ')) : ∃ v, evalE Φ f σ μ C e = .ok (v, μ') ∧ o = .ret v := by
  rw [evalS_ret] at h
  replace h := bind_ok h
  obtain ⟨⟨v, μ1⟩, h1, h⟩ := h
  cases h
  exact ⟨v, h1, rfl⟩

theorem evalS_with_inv {Φ : Funs} {f : Nat} {σ : Env} {μ : Heap} {C C' : Ctx} {body : List Stmt} {r : Outcome × Heap}
    (h : evalS Φ (f + 1) σ μ C (.with (.ctxLit C') none body) = .ok r) : evalB Φ f σ μ C' body = .ok r := by
  rw [evalS_with] at h
  cases f with
  | zero => cases h
  | succ g => rw [evalE_ctxLit] at h; exact h

/-- a condition followed by a choice (`if`, one-armed `if`, `while`): the condition gave a boolean -/
theorem evalE_cond_inv {α : Type} {Φ : Funs} {f : Nat} {σ : Env} {μ : Heap} {C : Ctx} {c : Expr} {X Y : Heap → M α} {r : α}
    (h : (do let (v, μ') ← evalE Φ f σ μ C c
             if ← asBool v then X μ' else Y μ') = .ok r) :
    ∃ b μ1, evalE Φ f σ μ C c = .ok (.bool b, μ1) ∧ (if b then X μ1 else Y μ1) = .ok r := by
  replace h := bind_ok h
  obtain ⟨⟨v, μ1⟩, h1, h⟩ := h
  dsimp only at h
  replace h := bind_ok h
  obtain ⟨b, hb, h⟩ := h
  cases asBool_ok hb
  exact ⟨b, μ1, h1, h⟩

theorem callEntry_single {name : String} {params : List String} {body : List Stmt} {fuel : Nat} {args : List Val}
    {v : Val} {μ' : Heap}
    (h : callEntry ⟨[{ name := name, params := params, ctx := none, body := body }]⟩ fuel name args [] none = .ok (v, μ')) :
    params.length = args.length ∧
      evalB ⟨[{ name := name, params := params, ctx := none, body := body }]⟩ fuel
        ((params.zip args).foldl (fun s (x, v) => s.set x v) []) [] fp64 body = .ok (.ret v, μ') := by
  unfold callEntry at h
  simp only [Funs.find?, List.find?, beq_self_eq_true] at h
  split at h
  · cases h
  · next hlen =>
    split at h
    · cases h
    · next heq => cases h; exact ⟨by simpa using hlen, heq⟩
    · cases h

/-- `F n` is `.ok r` for every sufficiently large `n`: `Conv`, `ConvL` and the loop forms `ConvW`, `ConvF` are instances.
The rule of a form with parts is its step equation (`Ev.step`) over one `Ev.bind` per part, in the order the evaluator
binds them (a pure test like `asBool` is `Ev.pure`); the arithmetic on the fuel is done in these lemmas, once. -/
def Ev {α : Type} (F : Nat → M α) (r : α) : Prop := ∃ N, ∀ n, N ≤ n → F n = .ok r

theorem Ev.pure {α : Type} (r : α) : Ev (fun _ => (.ok r : M α)) r := ⟨0, fun _ _ => rfl⟩

theorem Ev.bind {α β : Type} {F : Nat → M α} {G : Nat → α → M β} {a : α} {b : β}
    (h1 : Ev F a) (h2 : Ev (fun n => G n a) b) : Ev (fun n => F n >>= G n) b := by
  obtain ⟨N1, h1⟩ := h1; obtain ⟨N2, h2⟩ := h2
  exact ⟨max N1 N2, fun n hn => by
    show (F n >>= G n) = _
    rw [h1 n (by omega)]; exact h2 n (by omega)⟩

/-- `hE` comes first: it fixes `F`, from which the continuations of the `Ev.bind`s below are read off -/
theorem Ev.step {α : Type} {F F' : Nat → M α} {r : α} (hE : ∀ n, F' (n + 1) = F n) (h : Ev F r) : Ev F' r := by
  obtain ⟨N, h⟩ := h
  exact ⟨N + 1, fun n hn => by
    obtain ⟨m, rfl⟩ : ∃ m, n = m + 1 := ⟨n - 1, by omega⟩
    rw [hE]; exact h m (by omega)⟩

/-- the expression evaluates to `v` for every sufficiently large amount of fuel: `Ev (fun n => eval n ρ P e) v`, written out
because the statements of Props/C12 show it unfolded; the two are the same by definition, and the `conv_*` lemmas give an
`Ev` where a `Conv` is asked for, and back -/
def Conv (ρ : Env) (P : Props) (e : FExpr) (v : Val) : Prop := ∃ N, ∀ n, N ≤ n → eval n ρ P e = .ok v
def ConvL (ρ : Env) (P : Props) (es : List FExpr) (vs : List Val) : Prop := Ev (fun n => evalList n ρ P es) vs

theorem Conv.det {ρ P e v w} (h1 : Conv ρ P e v) (h2 : Conv ρ P e w) : v = w := by
  obtain ⟨N1, h1⟩ := h1; obtain ⟨N2, h2⟩ := h2
  have a := h1 (max N1 N2) (Nat.le_max_left _ _)
  have b := h2 (max N1 N2) (Nat.le_max_right _ _)
  rw [a] at b; cases b; rfl

theorem conv_var {ρ : Env} {P : Props} {x : String} {v : Val} (h : ρ.get? x = some v) : Conv ρ P (.var x) v :=
  Ev.step (fun n => eval_var n ρ P x) (by rw [h]; exact Ev.pure v)

theorem convL_nil {ρ : Env} {P : Props} : ConvL ρ P [] [] :=
  Ev.step (fun n => evalList_nil n ρ P) (Ev.pure _)

theorem convL_cons {ρ : Env} {P : Props} {e : FExpr} {es : List FExpr} {v : Val} {vs : List Val}
    (h1 : Conv ρ P e v) (h2 : ConvL ρ P es vs) : ConvL ρ P (e :: es) (v :: vs) :=
  Ev.step (fun n => evalList_cons n ρ P e es) (Ev.bind h1 (Ev.bind h2 (Ev.pure _)))

theorem conv_num {ρ : Env} {P : Props} {C : Ctx} {v r : NV} (hP : P.toCtx = .ok C)
    (hr : opEval C .round [cvtReal v] = .ok r) : Conv ρ P (.num v) (.num r) :=
  Ev.step (fun n => eval_num n ρ P v) (by rw [hP]; exact Ev.bind (Ev.pure C) (by rw [hr]; exact Ev.bind (Ev.pure r) (Ev.pure _)))

theorem conv_op {ρ : Env} {P : Props} {C : Ctx} {o : Op} {args : List FExpr} {vs : List Val} {ns : List NV} {r : NV}
    (hP : P.toCtx = .ok C) (ha : ConvL ρ P args vs) (hn : vs.mapM asNum = .ok ns)
    (hr : opEval C o (ns.map cvtReal) = .ok r) : Conv ρ P (.op o args) (.num r) :=
  Ev.step (fun n => eval_op n ρ P o args) (Ev.bind ha (by
    simp only [bind, Except.bind, hn, hP, hr, pure, Except.pure]; exact Ev.pure _))

theorem conv_ann {ρ : Env} {P p : Props} {e : FExpr} {v : Val} (h : Conv ρ (P.update p) e v) : Conv ρ P (.ann p e) v :=
  Ev.step (fun n => eval_ann n ρ P p e) h

theorem conv_array {ρ : Env} {P : Props} {es : List FExpr} {vs : List Val} (h : ConvL ρ P es vs) :
    Conv ρ P (.array es) (.tuple vs) :=
  Ev.step (fun n => eval_array n ρ P es) (Ev.bind h (Ev.pure _))

theorem conv_ite {ρ : Env} {P : Props} {c t f : FExpr} {b : Bool} {v : Val}
    (hc : Conv ρ P c (.bool b)) (hb : Conv ρ P (if b then t else f) v) : Conv ρ P (.ite c t f) v :=
  Ev.step (fun n => eval_ite n ρ P c t f) (Ev.bind hc (by cases b <;> exact hb))

theorem evBinds_one {ρ : Env} {P : Props} {x : String} {e : FExpr} {v : Val} (he : Conv ρ P e v) :
    Ev (fun n => evalBinds n false ρ ρ P [(x, e)]) (ρ.set x v) :=
  Ev.step (fun n => evalBinds_cons n false ρ ρ P x e [])
    (Ev.bind he (Ev.step (fun n => evalBinds_nil n false ρ (ρ.set x v) P) (Ev.pure _)))

theorem conv_let1 {ρ : Env} {P : Props} {x : String} {e K : FExpr} {v w : Val}
    (he : Conv ρ P e v) (hK : Conv (ρ.set x v) P K w) : Conv ρ P (.let_ false [(x, e)] K) w :=
  Ev.step (fun n => eval_let n ρ P false [(x, e)] K) (Ev.bind (evBinds_one he) hK)

theorem conv_cmp {ρ : Env} {P : Props} {o : CmpOp} {a b : FExpr} {x y : NV}
    (ha : Conv ρ P a (.num x)) (hb : Conv ρ P b (.num y)) : Conv ρ P (.cmp o [a, b]) (.bool (cmpNums o x y)) := by
  have hnil : Ev (fun n => evalCmp n ρ P o y []) (.bool true) := Ev.step (fun n => evalCmp_nil n ρ P o y) (Ev.pure _)
  have hrest : Ev (fun n => evalCmp n ρ P o x [b]) (.bool (cmpNums o x y)) :=
    Ev.step (fun n => evalCmp_cons n ρ P o x b []) (Ev.bind hb (Ev.bind (Ev.pure y) (by
      cases h : cmpNums o x y
      · exact Ev.pure _
      · exact hnil)))
  exact Ev.step (fun n => eval_cmp_cons n ρ P o a [b]) (Ev.bind ha (Ev.bind (Ev.pure x) hrest))

theorem cmpNums_order (o : COp) (x y : NV) : cmpNums o.toCmp x y = cmpHolds o.toCmp (Lang.nvCompare x y) := by
  cases o <;> rfl

theorem fromDesc_eq_some_iff {d : CDesc} {p : Props} :
    fromDesc d = some p ↔ tableOf d = some p ∧ p.toDesc = some d := by
  unfold fromDesc
  cases tableOf d with
  | none => simp
  | some q =>
    simp only [Option.ite_none_right_eq_some, Option.some.injEq]
    constructor
    · rintro ⟨h, rfl⟩; exact ⟨rfl, h⟩
    · rintro ⟨rfl, h⟩; exact ⟨h, rfl⟩

theorem tableOf_ieee {es nbits k : Nat} {rm : RM} {ov : OV} {p : Props}
    (ht : tableOf (.ieee es nbits rm ov k) = some p) : ∃ c r, p = ⟨some c, some r, none⟩ := by
  simp only [tableOf, Option.map_eq_some_iff] at ht
  obtain ⟨r, -, rfl⟩ := ht
  exact ⟨_, r, rfl⟩

theorem tableOf_mpfixed {nmin : Int} {rm : RM} {nz : Bool} {p : Props}
    (ht : tableOf (.mpfixed nmin rm nz) = some p) :
    ∃ r, p = if nmin = -1 then ⟨some .integer, some r, none⟩ else ⟨none, some r, none⟩ := by
  simp only [tableOf, Option.map_eq_some_iff] at ht
  obtain ⟨r, -, rfl⟩ := ht
  exact ⟨r, rfl⟩

theorem tableOf_fixed {sg : Bool} {sc : Int} {nb : Nat} {rm : RM} {ov : OV} {p : Props}
    (ht : tableOf (.fixed sg sc nb rm ov) = some p) : ∃ r o, p = ⟨some (.fixed sc nb), some r, some o⟩ := by
  simp only [tableOf] at ht
  split at ht
  · cases ht
  · split at ht
    · cases ht; exact ⟨_, _, rfl⟩
    · cases ht

/-- an entry that names a precision and a rounding mode decides `toDesc` alone, unless the precision is
`fixed` and the overflow mode is left to the enclosing properties -/
theorem toDesc_update (P : Props) (c : Prec) (r : RName) (o : Option OName)
    (h : o = none → ∀ s n, c ≠ .fixed s n) :
    (P.update ⟨some c, some r, o⟩).toDesc = Props.toDesc ⟨some c, some r, o⟩ := by
  cases o with
  | some o => rfl
  | none =>
    cases c with
    | fixed s n => exact absurd rfl (h rfl s n)
    | _ => rfl

theorem toDesc_update_entry (d : CDesc) (p P : Props) (ht : tableOf d = some p) (hg : p.toDesc = some d) :
    (P.update p).toDesc = p.toDesc := by
  cases d with
  | ieee es nbits rm ov k =>
    obtain ⟨c, r, rfl⟩ := tableOf_ieee ht
    exact toDesc_update P c r none fun _ s n hc => by subst hc; cases hg
  | mpfixed nmin rm nz =>
    obtain ⟨r, rfl⟩ := tableOf_mpfixed ht
    by_cases hn : nmin = -1
    · rw [if_pos hn]; rfl
    · rw [if_neg hn] at hg; cases hg
  | fixed sg sc nb rm ov =>
    obtain ⟨r, o, rfl⟩ := tableOf_fixed ht
    rfl
  | real => cases ht; rfl
  | other => cases ht

theorem fromDesc_ctx {d : CDesc} {p : Props} (h : fromDesc d = some p) (P : Props) :
    ∃ C', d.toCtx = some C' ∧ (P.update p).toCtx = .ok C' := by
  obtain ⟨ht, hg⟩ := fromDesc_eq_some_iff.1 h
  have hd : ∃ C', d.toCtx = some C' := by
    cases d with
    | other => cases ht
    | _ => exact ⟨_, rfl⟩
  obtain ⟨C', hC'⟩ := hd
  refine ⟨C', hC', ?_⟩
  unfold Props.toCtx
  rw [toDesc_update_entry d p P ht hg, hg, Option.bind_some, hC']

theorem toDesc_ieee_inv {p : Props} {es nbits k : Nat} {rm : RM} {ov : OV}
    (h : p.toDesc = some (.ieee es nbits rm ov k)) : ov = .overflow ∧ k = 0 := by
  obtain ⟨c, r, o⟩ := p
  cases c with
  | none => cases h; exact ⟨rfl, rfl⟩
  | some c => cases c <;> cases h <;> exact ⟨rfl, rfl⟩

theorem toDesc_ite {c : Prop} [Decidable c] {a b : Prec} {r : RName} {d : CDesc}
    (ha : c → Props.toDesc ⟨some a, some r, none⟩ = some d)
    (hb : ¬c → Props.toDesc ⟨some b, some r, none⟩ = some d) :
    Props.toDesc ⟨some (if c then a else b), some r, none⟩ = some d := by
  split
  · exact ha ‹_›
  · exact hb ‹_›

end Fpy.C12
