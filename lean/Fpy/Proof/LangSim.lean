/-
Soundness of the simulation checker `simB` (Model/Lang/Sim.lean): programs that are the same up to a variable
correspondence `R`, started in `R`-related environments on the same heap under the same context, have the same
outcome at EVERY fuel, hence in the fuel-free semantics.  The checker accepts only programs related by `SimE … SimB`
at the names `R` pairs (`simE_sound … simB_sound`); for those the statement is the fundamental theorem (LangLR) at the
identity on values and heaps (`eqLR`) with the environments related by `Inv R` (`simNR`).
Instances: dead-assignment elimination, self-assignment elimination and copy propagation (C07).
-/
import Fpy.Model.Lang.Vars
import Fpy.Proof.LangLimit
namespace Fpy.Xform
open Fpy Fpy.Lang

theorem VRel.has_iff {R : VRel} {a b : String} : R.has a b = true ↔ (a, b) ∈ R := by
  unfold VRel.has
  rw [List.any_eq_true]
  constructor
  · rintro ⟨⟨x, y⟩, hp, hp'⟩
    rw [Bool.and_eq_true, beq_iff_eq, beq_iff_eq] at hp'
    obtain ⟨rfl, rfl⟩ := hp'
    exact hp
  · intro h
    exact ⟨(a, b), h, by rw [beq_self_eq_true, beq_self_eq_true]; rfl⟩

def Inv (R : VRel) (σ1 σ2 : Env) : Prop := ∀ a b, R.has a b = true → σ1.get? a = σ2.get? b

theorem Inv.set {R : VRel} {σ1 σ2 : Env} (h : Inv R σ1 σ2) {a b : String} (hb : R.bindOK a b = true) (v : Val) :
    Inv R (σ1.set a v) (σ2.set b v) := by
  intro a' b' hab
  rw [Env.get?_set, Env.get?_set]
  have key : (a' = a) ↔ (b' = b) := by
    have := List.all_eq_true.1 hb _ (VRel.has_iff.1 hab)
    rwa [beq_iff_eq, Bool.eq_iff_iff, beq_iff_eq, beq_iff_eq] at this
  by_cases h1 : a' = a
  · rw [if_pos h1, if_pos (key.1 h1)]
  · rw [if_neg h1, if_neg (fun h2 => h1 (key.2 h2))]
    exact h a' b' hab

def OutRel (R : VRel) : Outcome × Heap → Outcome × Heap → Prop
  | (.ret v, μ), (.ret w, μ') => v = w ∧ μ = μ'
  | (.normal σ1, μ), (.normal σ2, μ') => Inv R σ1 σ2 ∧ μ = μ'
  | _, _ => False

theorem OutRel.normal {R : VRel} {σ1 σ2 : Env} (h : Inv R σ1 σ2) (μ : Heap) :
    RelM (OutRel R) (.ok (.normal σ1, μ)) (.ok (.normal σ2, μ)) := ⟨h, rfl⟩

theorem OutRel.cases {R : VRel} {a b : Outcome × Heap} (h : OutRel R a b) :
    (∃ σ1 σ2 μ, a = (.normal σ1, μ) ∧ b = (.normal σ2, μ) ∧ Inv R σ1 σ2) ∨ ∃ v μ, a = (.ret v, μ) ∧ b = (.ret v, μ) := by
  obtain ⟨o1, μ1⟩ := a; obtain ⟨o2, μ2⟩ := b
  cases o1 <;> cases o2 <;> simp only [OutRel] at h
  · obtain ⟨hi, rfl⟩ := h; exact .inl ⟨_, _, _, rfl, rfl, hi⟩
  · obtain ⟨rfl, rfl⟩ := h; exact .inr ⟨_, _, rfl, rfl⟩

/- invert `h : simP R (.c …) q = true` by cases on `q`: `q` has the same head constructor (used for the three
constructors of `Pat`; for `Expr` and `Stmt` see `same_head`) -/
macro "inv_sim" h:ident e:ident : tactic => `(tactic| (cases $e:ident <;> first | exact absurd $h Bool.false_ne_true | skip))

def VRel.rd (R : VRel) (a b : String) : Prop := R.has a b = true
def VRel.bd (R : VRel) (a b : String) : Prop := R.bindOK a b = true

/- invert `h : f R (.c …) e = true` for a checker `f` of `Expr`, `Stmt` or a list: `f` compares the head constructors
first (`| .c …, e => match e with | .c … => … | _ => false`), so unfolding it once and one split leave the case in which
`e` has the head `c`, without a `cases` over every constructor of the other side -/
macro "same_head" f:ident h:ident : tactic =>
  `(tactic| (unfold $f:ident at $h:ident; split at $h:ident <;> first | exact absurd $h Bool.false_ne_true | skip))

theorem simP_sound (R : VRel) (p : Pat) : ∀ q, simP R p q = true → SimP R.bd p q := by
  apply Pat.rec (motive_1 := fun p => ∀ q, simP R p q = true → SimP R.bd p q)
    (motive_2 := fun ps => ∀ qs, simPs R ps qs = true → All2 (SimP R.bd) ps qs)
  case var => intro a q h; inv_sim h q; exact .var h
  case wild => intro q h; inv_sim h q; exact .wild
  case tup => intro ps ih q h; inv_sim h q; exact .tup (ih _ h)
  case nil => intro qs h; same_head simPs h; exact .nil
  case cons =>
    intro p ps ih1 ih2 qs h; same_head simPs h
    have h' := (Bool.and_eq_true _ _).mp h
    exact .cons (ih1 _ h'.1) (ih2 _ h'.2)

theorem simPs_sound (R : VRel) : ∀ ps qs, simPs R ps qs = true → All2 (SimP R.bd) ps qs
  | [], [], _ => .nil
  | p :: ps, q :: qs, h => .cons (simP_sound R p q ((Bool.and_eq_true _ _).mp h).1) (simPs_sound R ps qs ((Bool.and_eq_true _ _).mp h).2)
  | [], _ :: _, h | _ :: _, [], h => absurd h Bool.false_ne_true

theorem simE_sound (R : VRel) (a : Expr) : ∀ b, simE R a b = true → SimE R.rd R.bd a b := by
  apply Expr.rec (motive_1 := fun a => ∀ b, simE R a b = true → SimE R.rd R.bd a b)
    (motive_2 := fun as => ∀ bs, simEs R as bs = true → All2 (SimE R.rd R.bd) as bs)
    (motive_3 := fun o => ∀ o', simO R o o' = true → SimO R.rd R.bd o o')
  case var => intro x b h; same_head simE h; exact .var h
  case bool => intro x b h; same_head simE h; cases (beq_iff_eq.1 h); exact .bool _
  case num | ctxLit => intro x b h; same_head simE h; cases (of_decide_eq_true h); constructor
  case op | pred | cmp | call =>
    intro o _ ih b h; same_head simE h
    have h' := (Bool.and_eq_true _ _).mp h
    cases (of_decide_eq_true h'.1); constructor; exact ih _ h'.2
  case not | len | enumerate | sum | any | all | and | or | tuple | list | range | zip | min | max =>
    intro _ ih b h; same_head simE h; constructor; exact ih _ h
  case some => intro _ ih b h; same_head simO h; constructor; exact ih _ h
  case ite | slice =>
    intro _ _ _ ih1 ih2 ih3 b h; same_head simE h
    have h' := (Bool.and_eq_true _ _).mp h
    have h'' := (Bool.and_eq_true _ _).mp h'.1
    constructor
    · exact ih1 _ h''.1
    · exact ih2 _ h''.2
    · exact ih3 _ h'.2
  case index | roundAt =>
    intro _ _ ih1 ih2 b h; same_head simE h
    have h' := (Bool.and_eq_true _ _).mp h
    constructor
    · exact ih1 _ h'.1
    · exact ih2 _ h'.2
  case cons =>
    intro _ _ ih1 ih2 b h; same_head simEs h
    have h' := (Bool.and_eq_true _ _).mp h
    exact .cons (ih1 _ h'.1) (ih2 _ h'.2)
  case comp =>
    intro ps _ _ ih2 ih3 b h; same_head simE h
    have h' := (Bool.and_eq_true _ _).mp h
    have h'' := (Bool.and_eq_true _ _).mp h'.1
    exact .comp (simPs_sound R _ _ h''.1) (ih2 _ h''.2) (ih3 _ h'.2)
  case nil => intro bs h; same_head simEs h; constructor
  case none => intro bs h; same_head simO h; constructor

theorem simEs_sound (R : VRel) : ∀ as bs, simEs R as bs = true → All2 (SimE R.rd R.bd) as bs
  | [], [], _ => .nil
  | a :: as, b :: bs, h => .cons (simE_sound R a b ((Bool.and_eq_true _ _).mp h).1) (simEs_sound R as bs ((Bool.and_eq_true _ _).mp h).2)
  | [], _ :: _, h | _ :: _, [], h => absurd h Bool.false_ne_true

theorem simS_sound (R : VRel) (s : Stmt) : ∀ t, simS R s t = true → SimS R.rd R.bd s t := by
  apply Stmt.rec (motive_1 := fun s => ∀ t, simS R s t = true → SimS R.rd R.bd s t)
    (motive_2 := fun ss => ∀ ts, simB R ss ts = true → All2 (SimS R.rd R.bd) ss ts)
  case assign =>
    intro p e t h; same_head simS h
    have h' := (Bool.and_eq_true _ _).mp h
    exact .assign (simP_sound R _ _ h'.1) (simE_sound R _ _ h'.2)
  case iassign =>
    intro x is e t h; same_head simS h
    have h' := (Bool.and_eq_true _ _).mp h
    have h'' := (Bool.and_eq_true _ _).mp h'.1
    exact .iassign h''.1 (simEs_sound R _ _ h''.2) (simE_sound R _ _ h'.2)
  case ifte =>
    intro c _ _ ih1 ih2 t h; same_head simS h
    have h' := (Bool.and_eq_true _ _).mp h
    have h'' := (Bool.and_eq_true _ _).mp h'.1
    exact .ifte (simE_sound R _ _ h''.1) (ih1 _ h''.2) (ih2 _ h'.2)
  case if1 | «while» =>
    intro c _ ih t h; same_head simS h
    have h' := (Bool.and_eq_true _ _).mp h
    constructor
    · exact simE_sound R _ _ h'.1
    · exact ih _ h'.2
  case «for» =>
    intro p it _ ih t h; same_head simS h
    have h' := (Bool.and_eq_true _ _).mp h
    have h'' := (Bool.and_eq_true _ _).mp h'.1
    exact .for (simP_sound R _ _ h''.1) (simE_sound R _ _ h''.2) (ih _ h'.2)
  case «with» =>
    intro ce nm _ ih t h; same_head simS h
    rename_i ce' nm' b'
    have h' := (Bool.and_eq_true _ _).mp h
    have h'' := (Bool.and_eq_true _ _).mp h'.1
    refine .with (simE_sound R _ _ h''.1) ?_ (ih _ h'.2)
    cases nm <;> cases nm' <;> first | exact trivial | exact h''.2 | exact absurd h''.2 Bool.false_ne_true
  case assert | effect | ret => intro e t h; same_head simS h; constructor; exact simE_sound R _ _ h
  case pass => intro t h; same_head simS h; exact .pass
  case nil => intro ts h; same_head simB h; exact .nil
  case cons =>
    intro _ _ ih1 ih2 ts h; same_head simB h
    have h' := (Bool.and_eq_true _ _).mp h
    exact .cons (ih1 _ h'.1) (ih2 _ h'.2)

theorem simB_sound (R : VRel) : ∀ ss ts, simB R ss ts = true → All2 (SimS R.rd R.bd) ss ts
  | [], [], _ => .nil
  | s :: ss, t :: ts, h => .cons (simS_sound R s t ((Bool.and_eq_true _ _).mp h).1) (simB_sound R ss ts ((Bool.and_eq_true _ _).mp h).2)
  | [], _ :: _, h | _ :: _, [], h => absurd h Bool.false_ne_true

def simNR (R : VRel) : NR eqLR where
  rd := R.rd
  bd := R.bd
  ER _ := Inv R
  emono _ h := h
  get h x y hxy := by rw [h x y hxy]; exact .diag fun _ _ => rfl
  set hb h hv := by cases hv; exact h.set hb _

theorem simNR_out {R : VRel} {a b : M (Outcome × Heap)} (h : RelM (eqLR.Res (simNR R).OR ()) a b) :
    RelM (OutRel R) a b := by
  refine h.imp ?_
  rintro ⟨o1, m1⟩ ⟨o2, m2⟩ ⟨_, _, ho, hm⟩
  exact ho.elim (P := fun o1 o2 => OutRel R (o1, m1) (o2, m2)) (fun _ _ hi => ⟨hi, hm⟩) fun _ _ hv => ⟨hv, hm⟩

section
variable (Φ : Funs) (R : VRel) (n : Nat) {σ1 σ2 : Env} (hinv : Inv R σ1 σ2) (μ : Heap) (C : Ctx)
include hinv

theorem sim_evalE {e1 e2 : Expr} (h : simE R e1 e2 = true) : evalE Φ n σ1 μ C e1 = evalE Φ n σ2 μ C e2 :=
  eqLR_res_eq (fun _ _ h => h) ((fund .sym eqLR Φ n n rfl).evalE (N := simNR R) (w := ()) hinv rfl C (simE_sound R _ _ h))

theorem sim_evalEs {es1 es2 : List Expr} (h : simEs R es1 es2 = true) : evalEs Φ n σ1 μ C es1 = evalEs Φ n σ2 μ C es2 :=
  eqLR_res_eq (fun _ _ h => all2_eq.1 h)
    ((fund .sym eqLR Φ n n rfl).evalEs (N := simNR R) (w := ()) hinv rfl C (simEs_sound R _ _ h))

theorem sim_evalS {s1 s2 : Stmt} (h : simS R s1 s2 = true) : RelM (OutRel R) (evalS Φ n σ1 μ C s1) (evalS Φ n σ2 μ C s2) :=
  simNR_out ((fund .sym eqLR Φ n n rfl).evalS (N := simNR R) (w := ()) hinv rfl C (simS_sound R _ _ h))

theorem sim_evalB {ss1 ss2 : List Stmt} (h : simB R ss1 ss2 = true) :
    RelM (OutRel R) (evalB Φ n σ1 μ C ss1) (evalB Φ n σ2 μ C ss2) :=
  simNR_out ((fund .sym eqLR Φ n n rfl).evalB (N := simNR R) (w := ()) hinv rfl C (simB_sound R _ _ h))
end

theorem sim_evalBω {Φ : Funs} {R : VRel} {σ1 σ2 : Env} {ss1 ss2 : List Stmt} (hinv : Inv R σ1 σ2)
    (h : simB R ss1 ss2 = true) (μ : Heap) (C : Ctx) :
    RelM (OutRel R) (evalBω Φ σ1 μ C ss1) (evalBω Φ σ2 μ C ss2) :=
  RelM.tends (tends_evalB Φ σ1 μ C ss1) (tends_evalB Φ σ2 μ C ss2)
    (fun n => sim_evalB Φ R n hinv μ C h)

theorem sim_evalSω {Φ : Funs} {R : VRel} {σ1 σ2 : Env} {s1 s2 : Stmt} (hinv : Inv R σ1 σ2)
    (h : simS R s1 s2 = true) (μ : Heap) (C : Ctx) :
    RelM (OutRel R) (evalSω Φ σ1 μ C s1) (evalSω Φ σ2 μ C s2) :=
  RelM.tends (tends_evalS Φ σ1 μ C s1) (tends_evalS Φ σ2 μ C s2)
    (fun n => sim_evalS Φ R n hinv μ C h)

theorem sim_evalEω {Φ : Funs} {R : VRel} {σ1 σ2 : Env} {e1 e2 : Expr} (hinv : Inv R σ1 σ2)
    (h : simE R e1 e2 = true) (μ : Heap) (C : Ctx) : evalEω Φ σ1 μ C e1 = evalEω Φ σ2 μ C e2 := by
  unfold evalEω
  congr 1; funext n
  exact sim_evalE Φ R n hinv μ C h

theorem sim_evalEsω {Φ : Funs} {R : VRel} {σ1 σ2 : Env} {es1 es2 : List Expr} (hinv : Inv R σ1 σ2)
    (h : simEs R es1 es2 = true) (μ : Heap) (C : Ctx) : evalEsω Φ σ1 μ C es1 = evalEsω Φ σ2 μ C es2 := by
  unfold evalEsω
  congr 1; funext n
  exact sim_evalEs Φ R n hinv μ C h

theorem OutRel.returns {Φ : Funs} {R : VRel} {σ1 σ2 : Env} {μ : Heap} {C : Ctx} {ss1 ss2 : List Stmt}
    (h : RelM (OutRel R) (evalBω Φ σ1 μ C ss1) (evalBω Φ σ2 μ C ss2)) (v : Val) (μ' : Heap) :
    Returns Φ σ1 μ C ss1 v μ' ↔ Returns Φ σ2 μ C ss2 v μ' := by
  rw [returns_iff, returns_iff]
  rcases h.cases with ⟨_, h1, h2⟩ | ⟨_, _, h1, h2, ho⟩
  · rw [h1, h2]
  · rw [h1, h2]
    rcases ho.cases with ⟨_, _, _, rfl, rfl, _⟩ | ⟨_, _, rfl, rfl⟩
    · exact ⟨nofun, nofun⟩
    · exact Iff.rfl

theorem OutRel.normal_iff {R : VRel} {a b : M (Outcome × Heap)} (h : RelM (OutRel R) a b) (μ' : Heap) :
    (∀ σ', a = .ok (.normal σ', μ') → ∃ σ'', b = .ok (.normal σ'', μ') ∧ Inv R σ' σ'') ∧
    (∀ σ'', b = .ok (.normal σ'', μ') → ∃ σ', a = .ok (.normal σ', μ') ∧ Inv R σ' σ'') := by
  rcases h.cases with ⟨_, rfl, rfl⟩ | ⟨_, _, rfl, rfl, ho⟩
  · exact ⟨nofun, nofun⟩
  · rcases ho.cases with ⟨_, _, _, rfl, rfl, hi⟩ | ⟨_, _, rfl, rfl⟩
    · exact ⟨fun _ ha => by cases ha; exact ⟨_, rfl, hi⟩, fun _ hb => by cases hb; exact ⟨_, rfl, hi⟩⟩
    · exact ⟨nofun, nofun⟩

theorem sim_returns {Φ : Funs} {R : VRel} {σ1 σ2 : Env} {ss1 ss2 : List Stmt} (hinv : Inv R σ1 σ2)
    (h : simB R ss1 ss2 = true) (μ : Heap) (C : Ctx) (v : Val) (μ' : Heap) :
    Returns Φ σ1 μ C ss1 v μ' ↔ Returns Φ σ2 μ C ss2 v μ' :=
  OutRel.returns (sim_evalBω hinv h μ C) v μ'

theorem sim_normal {Φ : Funs} {R : VRel} {σ1 σ2 : Env} {ss1 ss2 : List Stmt} (hinv : Inv R σ1 σ2)
    (h : simB R ss1 ss2 = true) (μ : Heap) (C : Ctx) (σ' : Env) (μ' : Heap) :
    Normal Φ σ1 μ C ss1 σ' μ' → ∃ σ'', Normal Φ σ2 μ C ss2 σ'' μ' ∧ Inv R σ' σ'' := by
  rw [normal_iff]; intro h1
  obtain ⟨σ'', h2, h3⟩ := (OutRel.normal_iff (sim_evalBω hinv h μ C) μ').1 σ' h1
  exact ⟨σ'', normal_iff.2 h2, h3⟩

theorem sim_normal' {Φ : Funs} {R : VRel} {σ1 σ2 : Env} {ss1 ss2 : List Stmt} (hinv : Inv R σ1 σ2)
    (h : simB R ss1 ss2 = true) (μ : Heap) (C : Ctx) (σ'' : Env) (μ' : Heap) :
    Normal Φ σ2 μ C ss2 σ'' μ' → ∃ σ', Normal Φ σ1 μ C ss1 σ' μ' ∧ Inv R σ' σ'' := by
  rw [normal_iff]; intro h1
  obtain ⟨σ', h2, h3⟩ := (OutRel.normal_iff (sim_evalBω hinv h μ C) μ').2 σ'' h1
  exact ⟨σ', normal_iff.2 h2, h3⟩

theorem sim_fails {Φ : Funs} {R : VRel} {σ1 σ2 : Env} {ss1 ss2 : List Stmt} (hinv : Inv R σ1 σ2)
    (h : simB R ss1 ss2 = true) (μ : Heap) (C : Ctx) (e : Err) :
    Fails Φ σ1 μ C ss1 e ↔ Fails Φ σ2 μ C ss2 e := by
  rw [fails_iff, fails_iff, (sim_evalBω hinv h μ C).err_iff e]

theorem sim_diverges {Φ : Funs} {R : VRel} {σ1 σ2 : Env} {ss1 ss2 : List Stmt} (hinv : Inv R σ1 σ2)
    (h : simB R ss1 ss2 = true) (μ : Heap) (C : Ctx) :
    Diverges Φ σ1 μ C ss1 ↔ Diverges Φ σ2 μ C ss2 := by
  rw [diverges_iff, diverges_iff, (sim_evalBω hinv h μ C).err_iff _]

theorem VRel.has_append (R S : VRel) (a b : String) : VRel.has (R ++ S) a b = (R.has a b || S.has a b) := by
  unfold VRel.has; rw [List.any_append]

theorem idRel_has (xs : List String) (a b : String) : (idRel xs).has a b = true ↔ a = b ∧ a ∈ xs := by
  rw [VRel.has_iff, idRel, List.mem_map]
  constructor
  · rintro ⟨x, hx, h⟩; cases h; exact ⟨rfl, hx⟩
  · rintro ⟨rfl, hx⟩; exact ⟨a, hx, rfl⟩

theorem single_has (y x a b : String) : VRel.has [(y, x)] a b = true ↔ a = y ∧ b = x := by
  rw [VRel.has_iff, List.mem_singleton, Prod.mk.injEq]

theorem inv_idRel {xs : List String} {σ1 σ2 : Env} : Inv (idRel xs) σ1 σ2 ↔ ∀ z ∈ xs, σ1.get? z = σ2.get? z := by
  constructor
  · intro h z hz; exact h z z ((idRel_has xs z z).2 ⟨rfl, hz⟩)
  · intro h a b hab
    obtain ⟨rfl, ha⟩ := (idRel_has xs a b).1 hab
    exact h a ha

def PureTotal (Φ : Funs) (σ : Env) (μ : Heap) (C : Ctx) (e : Expr) : Prop := ∃ v, evalEω Φ σ μ C e = .ok (v, μ)

/-- names and literals: `PureTotal` in every state that binds the name (`Props.C07.simple_is_pureTotal`) -/
def simpleE : Expr → Bool
  | .var _ => true
  | .bool _ => true
  | .num _ => true
  | .ctxLit _ => true
  | _ => false

def HeapNeutral (Φ : Funs) (σ : Env) (μ : Heap) (C : Ctx) (e : Expr) : Prop :=
  ∀ v μ1, evalEω Φ σ μ C e = .ok (v, μ1) → μ1 = μ

/-- `xs` stands for the variables `rest` reads (`simB_idRel_of_reads`) -/
theorem dead_assign_elim_rel {Φ : Funs} {xs : List String} {x : String} {e : Expr} {rest : List Stmt}
    (hx : x ∉ xs) (hrest : simB (idRel xs) rest rest = true) {σ : Env} {μ : Heap} {C : Ctx}
    (hp : PureTotal Φ σ μ C e) :
    RelM (OutRel (idRel xs)) (evalBω Φ σ μ C (.assign (.var x) e :: rest)) (evalBω Φ σ μ C rest) := by
  obtain ⟨v, hv⟩ := hp
  rw [evalBω_assign_var, hv]
  refine sim_evalBω (inv_idRel.2 fun z hz => ?_) hrest μ C
  exact (Env.get?_set σ x z v).trans (if_neg fun (h : z = x) => hx (h ▸ hz))

theorem dead_assign_elim {Φ : Funs} {xs : List String} {x : String} {e : Expr} {rest : List Stmt}
    (hx : x ∉ xs) (hrest : simB (idRel xs) rest rest = true) {σ : Env} {μ : Heap} {C : Ctx}
    (hp : PureTotal Φ σ μ C e) (w : Val) (μ' : Heap) :
    Returns Φ σ μ C (.assign (.var x) e :: rest) w μ' ↔ Returns Φ σ μ C rest w μ' :=
  OutRel.returns (dead_assign_elim_rel hx hrest hp) w μ'

/-- the direction the property asks for needs no totality: if the ORIGINAL returns, the right-hand
side did evaluate; it is enough that evaluating it leaves the heap alone -/
theorem dead_assign_elim_returns {Φ : Funs} {xs : List String} {x : String} {e : Expr} {rest : List Stmt}
    (hx : x ∉ xs) (hrest : simB (idRel xs) rest rest = true) {σ : Env} {μ : Heap} {C : Ctx}
    (hp : HeapNeutral Φ σ μ C e) (w : Val) (μ' : Heap) :
    Returns Φ σ μ C (.assign (.var x) e :: rest) w μ' → Returns Φ σ μ C rest w μ' := by
  intro h
  have h' := returns_iff.1 h
  rw [evalBω_assign_var] at h'
  cases hv : evalEω Φ σ μ C e with
  | error err => rw [hv] at h'; cases h'
  | ok r =>
    obtain ⟨v, μ1⟩ := r
    have := hp v μ1 hv; subst this
    exact (dead_assign_elim hx hrest ⟨v, hv⟩ w μ').1 h

/-- `x = x` with `x` bound is a no-op up to the order of the bindings -/
theorem self_assign_elim_rel {Φ : Funs} {xs : List String} {x : String} {rest : List Stmt}
    (hrest : simB (idRel xs) rest rest = true) {σ : Env} {μ : Heap} {C : Ctx} {v : Val} (hb : σ.get? x = some v) :
    RelM (OutRel (idRel xs)) (evalBω Φ σ μ C (.assign (.var x) (.var x) :: rest)) (evalBω Φ σ μ C rest) := by
  rw [evalBω_assign_var, evalEω_var, hb]
  refine sim_evalBω ?_ hrest μ C
  rw [inv_idRel]; intro z _
  rw [Env.get?_set]
  split
  · rename_i h; rw [h, hb]
  · rfl

theorem self_assign_elim {Φ : Funs} {xs : List String} {x : String} {rest : List Stmt}
    (hrest : simB (idRel xs) rest rest = true) {σ : Env} {μ : Heap} {C : Ctx} {v : Val} (hb : σ.get? x = some v)
    (w : Val) (μ' : Heap) :
    Returns Φ σ μ C (.assign (.var x) (.var x) :: rest) w μ' ↔ Returns Φ σ μ C rest w μ' :=
  OutRel.returns (self_assign_elim_rel hrest hb) w μ'

/-- the correspondence of copy propagation of `x = y`: identity on `xs`, and a read of `y` may
stand for a read of `x` -/
def cpRel (xs : List String) (x y : String) : VRel := idRel xs ++ [(y, x)]

theorem cpRel_has {xs : List String} {x y a b : String} :
    (cpRel xs x y).has a b = true ↔ (a = b ∧ a ∈ xs) ∨ (a = y ∧ b = x) := by
  unfold cpRel
  rw [VRel.has_append, Bool.or_eq_true, idRel_has, single_has]

theorem inv_cpRel {xs : List String} {x y : String} {σ1 σ2 : Env} :
    Inv (cpRel xs x y) σ1 σ2 ↔ (∀ z ∈ xs, σ1.get? z = σ2.get? z) ∧ σ1.get? y = σ2.get? x :=
  ⟨fun h => ⟨fun z hz => h z z (cpRel_has.2 (.inl ⟨rfl, hz⟩)), h y x (cpRel_has.2 (.inr ⟨rfl, rfl⟩))⟩,
   fun h a b hab => by
    rcases cpRel_has.1 hab with ⟨rfl, ha⟩ | ⟨rfl, rfl⟩
    · exact h.1 a ha
    · exact h.2⟩

/-- `ss'` accepted against `ss` under `cpRel xs x y`: `ss` with some or all reads of `x` replaced by `y`, in which
neither `x` nor `y` is (re)bound -/
theorem copy_prop_rel {Φ : Funs} {xs : List String} {x y : String} {ss ss' : List Stmt}
    (h : simB (cpRel xs x y) ss' ss = true) (σ : Env) (μ : Heap) (C : Ctx) :
    RelM (OutRel (cpRel xs x y)) (evalBω Φ σ μ C (.assign (.var x) (.var y) :: ss'))
      (evalBω Φ σ μ C (.assign (.var x) (.var y) :: ss)) := by
  rw [evalBω_assign_var, evalBω_assign_var, evalEω_var]
  cases hy : σ.get? y with
  | none => exact rfl
  | some v =>
    refine sim_evalBω (inv_cpRel.2 ⟨fun _ _ => rfl, ?_⟩) h μ C
    rw [Env.get?_set, Env.get?_set, if_pos rfl]
    split
    · rfl
    · exact hy

theorem copy_prop_sound {Φ : Funs} {xs : List String} {x y : String} {ss ss' : List Stmt}
    (h : simB (cpRel xs x y) ss' ss = true) (σ : Env) (μ : Heap) (C : Ctx) (w : Val) (μ' : Heap) :
    Returns Φ σ μ C (.assign (.var x) (.var y) :: ss') w μ' ↔ Returns Φ σ μ C (.assign (.var x) (.var y) :: ss) w μ' :=
  OutRel.returns (copy_prop_rel h σ μ C) w μ'

end Fpy.Xform
