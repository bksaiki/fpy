/-
C12, the compiler model with loops — what is proved of a statement / a block by recursion over the source
(`LStmtAll`, `LBlockAll`): for every compiled form, its scoping (`FvIn`) and, for every run of the source evaluator at
any fuel (`StmtSim`, `BlockSim`), what the run says by itself (`Ran`) and the simulation `Sim` by the compiled expression.  Blocks
from statements, and the statement cases assignment, `return`, `with`.
-/
import Fpy.Proof.FPCoreLCarry
namespace Fpy.C12
open Fpy Fpy.Lang

/-- the heap only grows (lists are allocated by `range`, never changed in this subset) -/
def HeapExt (μ μ' : Heap) : Prop := ∀ (r : Nat) (l : List Val), μ[r]? = some l → μ'[r]? = some l

theorem HeapExt.refl (μ : Heap) : HeapExt μ μ := fun _ _ h => h
theorem HeapExt.trans {a b c : Heap} (h1 : HeapExt a b) (h2 : HeapExt b c) : HeapExt a c := fun r l h => h2 r l (h1 r l h)

theorem HeapExt.append (μ : Heap) (l : List Val) : HeapExt μ (μ ++ [l]) := fun _ _ h => getElem?_append_of_eq_some h

/-- `E`, the statement `s` compiled with continuation `K` where `G` is defined, simulates every run of `s` (any `Φ`,
any fuel) from a state that binds `G`; the FPCore environment `ρ` comes last: what is said of the run alone does not
depend on it -/
def StmtSim (G : List String) (s : LStmt) (K : Option FExpr) (E : FExpr) : Prop :=
  ∀ (Φ : Funs) (fuel : Nat) (σ : Env) (μ : Heap) (C : Ctx) (o : Outcome) (μ' : Heap) (P : Props),
    evalS Φ fuel σ μ C s.toLang = .ok (o, μ') → (∀ y, y ∈ G → isTmpL y = false) → Bound G σ → P.toCtx = .ok C →
    s.lits G P →
    HeapExt μ μ' ∧ Ran K (s.gamma G) s.asg σ o ∧ ∀ ρ, AgreeL (fvF E) ρ σ → Sim (fun k => AgreeL (fvF k)) ρ P E K o

def BlockSim (G : List String) (ss : List LStmt) (K : Option FExpr) (E : FExpr) : Prop :=
  ∀ (Φ : Funs) (fuel : Nat) (σ : Env) (μ : Heap) (C : Ctx) (o : Outcome) (μ' : Heap) (P : Props),
    evalB Φ fuel σ μ C (LStmt.toLangs ss) = .ok (o, μ') → (∀ y, y ∈ G → isTmpL y = false) → Bound G σ → P.toCtx = .ok C →
    LStmt.litsL G P ss →
    HeapExt μ μ' ∧ Ran K (LStmt.gammaL G ss) (LStmt.asgL ss) σ o ∧
      ∀ ρ, AgreeL (fvF E) ρ σ → Sim (fun k => AgreeL (fvF k)) ρ P E K o

def LStmtAll (cfg : Cfg) (s : LStmt) : Prop :=
  ∀ (G : List String) (K : Option FExpr) (E : FExpr), s.ws G → compileLS cfg G s K = some E →
    (∀ k, K = some k → FvIn (s.gamma G) k) → FvIn G E ∧ StmtSim G s K E

def LBlockAll (cfg : Cfg) (ss : List LStmt) : Prop :=
  ∀ (G : List String) (K : Option FExpr) (E : FExpr), LStmt.wsL G ss → compileLB cfg G ss K = some E →
    (∀ k, K = some k → FvIn (LStmt.gammaL G ss) k) → FvIn G E ∧ BlockSim G ss K E

mutual
theorem asg_nt : ∀ (s : LStmt) (G : List String), s.ws G → ∀ y, y ∈ s.asg → isTmpL y = false
  | .assign x e, G, h, y, hy => by simp only [LStmt.asg, List.mem_singleton] at hy; subst hy; exact h.2
  | .tassign xs e, G, h, y, hy => h.2.1 y hy
  | .with_ d b, G, h, y, hy => asgL_nt b G h y hy
  | .ifte c t f, G, h, y, hy => by
    simp only [LStmt.asg, List.mem_append] at hy
    rcases hy with hy | hy
    · exact asgL_nt t G h.2.1 y hy
    · exact asgL_nt f G h.2.2 y hy
  | .if1 c t, G, h, y, hy => asgL_nt t G h.2 y hy
  | .while_ c b, G, h, y, hy => asgL_nt b G h.2 y hy
  | .forRange x n b, G, h, y, hy => by
    simp only [LStmt.asg, List.mem_cons] at hy
    rcases hy with hy | hy
    · subst hy; exact h.1
    · exact asgL_nt b (x :: G) h.2.2.2 y hy
  | .ret e, G, h, y, hy => by simp [LStmt.asg] at hy
theorem asgL_nt : ∀ (ss : List LStmt) (G : List String), LStmt.wsL G ss → ∀ y, y ∈ LStmt.asgL ss → isTmpL y = false
  | [], G, h, y, hy => by simp [LStmt.asgL] at hy
  | s :: ss, G, h, y, hy => by
    simp only [LStmt.asgL, List.mem_append] at hy
    rcases hy with hy | hy
    · exact asg_nt s G h.1 y hy
    · exact asgL_nt ss (s.gamma G) h.2 y hy
end

theorem gamma_nt {s : LStmt} {G : List String} (hw : s.ws G) (hG : ∀ y, y ∈ G → isTmpL y = false) :
    ∀ y, y ∈ s.gamma G → isTmpL y = false := by
  intro y hy
  rcases gamma_sub s G y hy with h | h
  · exact hG y h
  · exact asg_nt s G hw y h

theorem gammaL_nt {ss : List LStmt} {G : List String} (hw : LStmt.wsL G ss) (hG : ∀ y, y ∈ G → isTmpL y = false) :
    ∀ y, y ∈ LStmt.gammaL G ss → isTmpL y = false := by
  intro y hy
  rcases gammaL_sub ss G y hy with h | h
  · exact hG y h
  · exact asgL_nt ss G hw y h

section
variable (cfg : Cfg)

theorem lblock_nil : LBlockAll cfg [] := by
  intro G K E _ hc hk
  simp only [compileLB] at hc
  subst hc
  refine ⟨hk E rfl, fun Φ fuel σ μ C o μ' P h hG hb hP hl => ?_⟩
  obtain ⟨f, rfl⟩ := evalB_pos Φ h
  rw [LStmt.toLangs, evalB_nil] at h
  cases h
  exact ⟨HeapExt.refl _, Ran.normal hb fun x _ => rfl, fun ρ hA => Sim.nil hA⟩

theorem lblock_cons {s : LStmt} {ss : List LStmt} (hS : LStmtAll cfg s) (hB : LBlockAll cfg ss) :
    LBlockAll cfg (s :: ss) := by
  intro G K E hws hc hk
  obtain ⟨hw1, hw2⟩ := hws
  -- the continuation `K1` that `s` was compiled with is scoped, and simulates the rest, by the hypothesis on `ss`
  obtain ⟨K1, hcs, hK1, hrest⟩ : ∃ K1, compileLS cfg G s K1 = some E ∧ (∀ k, K1 = some k → FvIn (s.gamma G) k) ∧
      ((ss = [] ∧ K = none ∧ K1 = none) ∨ ∃ K', K1 = some K' ∧
        BlockSim (s.gamma G) ss K K') := by
    rcases compileLB_cons_inv hc with ⟨rfl, rfl, hcs⟩ | ⟨K', hcK', hcs⟩
    · exact ⟨none, hcs, (fun k hk' => by cases hk'), Or.inl ⟨rfl, rfl, rfl⟩⟩
    · obtain ⟨hK', hsim2⟩ := hB (s.gamma G) K K' hw2 hcK' hk
      exact ⟨some K', hcs, forall_some hK', Or.inr ⟨K', rfl, hsim2⟩⟩
  obtain ⟨hfv, hsim1⟩ := hS G K1 E hw1 hcs hK1
  refine ⟨hfv, fun Φ fuel σ μ C o μ' P h hG hb hP hl => ?_⟩
  obtain ⟨f, rfl⟩ := evalB_pos Φ h
  rw [LStmt.toLangs, evalB_cons] at h
  replace h := bind_ok h
  obtain ⟨⟨o1, μ1⟩, h1, h⟩ := h
  dsimp only at h
  obtain ⟨hext1, hran1, hs1⟩ := hsim1 Φ f σ μ C o1 μ1 P h1 hG hb hP hl.1
  rcases hrest with ⟨rfl, rfl, rfl⟩ | ⟨K', rfl, hsim2⟩
  · obtain ⟨v, rfl⟩ := hran1.of_none
    cases h
    exact ⟨hext1, hran1, hs1⟩
  · obtain ⟨σ1, rfl, hb1, hkeep1⟩ := hran1.of_some
    obtain ⟨hext2, hran2, hs2⟩ := hsim2 Φ f σ1 μ1 C o μ' P h (gamma_nt hw1 hG) hb1 hP hl.2
    refine ⟨hext1.trans hext2, ?_, fun ρ hA => (hs1 ρ hA).seq hs2⟩
    cases o with
    | ret v => exact hran2
    | normal σ' =>
      refine ⟨hran2.1, hran2.2.1, fun x hx => ?_⟩
      simp only [LStmt.asgL, List.mem_append, not_or] at hx
      rw [hran2.2.2 x hx.2, hkeep1 x hx.1]

theorem stmt_assign (x : String) (e : LExpr) : LStmtAll cfg (.assign x e) := by
  intro G K E hws hc hk
  cases K with
  | none => cases hc
  | some k =>
    simp only [compileLS] at hc
    cases hc
    refine ⟨fvIn_bind1 (fvIn_toF hws.1) (fun y hy ht hne =>
      (List.mem_cons.1 (hk k rfl y hy ht)).resolve_left hne), fun Φ fuel σ μ C o μ' P h hG hb hP hl => ?_⟩
    obtain ⟨f, rfl⟩ := evalS_pos Φ h
    rw [LStmt.toLang] at h
    obtain ⟨v, h1, rfl⟩ := evalS_assign_var_inv h
    obtain ⟨rfl, ce⟩ := lexpr_sound Φ f e σ _ C v _ h1
    refine ⟨HeapExt.refl _, Ran.normal (hb.cons_set x v) fun y hy => ?_, fun ρ hA => Sim.normal_intro fun w hw => ?_⟩
    · simp only [LStmt.asg, List.mem_singleton] at hy; exact get?_set_ne hy
    · have hsub : SubOK ρ P σ FExpr.var e.vars :=
        subOK_var (fun y hy ht => hA y ((fv_bind1 x e.toF k y).2 (Or.inl (vars_sub_fvF e y hy))) ht)
          (fun y hy => hG y (hws.1 y hy))
      refine conv_let1 (ce ρ P FExpr.var hP hsub) (hw _ fun y hy ht => ?_)
      rw [Fpy.Xform.Env.get?_set, Fpy.Xform.Env.get?_set]
      split
      · rfl
      · next hne => exact hA y ((fv_bind1 x e.toF k y).2 (Or.inr ⟨hy, hne⟩)) ht

theorem stmt_ret (e : LExpr) : LStmtAll cfg (.ret e) := by
  intro G K E hws hc hk
  cases K with
  | some k => cases hc
  | none =>
    simp only [compileLS] at hc
    cases hc
    refine ⟨fvIn_toF hws, fun Φ fuel σ μ C o μ' P h hG hb hP hl => ?_⟩
    obtain ⟨f, rfl⟩ := evalS_pos Φ h
    rw [LStmt.toLang] at h
    obtain ⟨v, h1, rfl⟩ := evalS_ret_inv h
    obtain ⟨rfl, ce⟩ := lexpr_sound Φ f e σ _ C v _ h1
    exact ⟨HeapExt.refl _, rfl, fun ρ hA =>
      ce ρ P FExpr.var hP (subOK_var (fun y hy ht => hA y (vars_sub_fvF e y hy) ht) (fun y hy => hG y (hws y hy)))⟩

theorem stmt_with (d : CDesc) {body : List LStmt} (hB : LBlockAll cfg body) : LStmtAll cfg (.with_ d body) := by
  intro G K E hws hc hk
  have hws' : LStmt.wsL G body := hws
  simp only [compileLS] at hc
  cases hfd : fromDesc d with
  | none => rw [hfd] at hc; cases hc
  | some p =>
    rw [hfd] at hc
    simp only at hc
    have hrun : ∀ {Φ fuel σ μ C o μ'} {P : Props}, evalS Φ fuel σ μ C (LStmt.with_ d body).toLang = .ok (o, μ') →
        P.toCtx = .ok C → ∃ f C', evalB Φ f σ μ C' (LStmt.toLangs body) = .ok (o, μ') ∧ (P.update p).toCtx = .ok C' := by
      intro Φ fuel σ μ C o μ' P h hP
      obtain ⟨f, rfl⟩ := evalS_pos Φ h
      rw [LStmt.toLang] at h
      replace h := evalS_with_inv h
      obtain ⟨C', hC', hPu⟩ := fromDesc_ctx hfd P
      rw [hC'] at h
      exact ⟨_, C', h, hPu⟩
    cases K with
    | none =>
      obtain ⟨I, hcb, rfl⟩ := Option.map_eq_some_iff.1 hc
      obtain ⟨hI, hsim⟩ := hB G none I hws' hcb (fun k hk' => by cases hk')
      -- `fvF (.ann p I)` is `fvF I` by definition
      refine ⟨fun y hy ht => hI y hy ht, fun Φ fuel σ μ C o μ' P h hG hb hP hl => ?_⟩
      obtain ⟨f, C', hbody, hPu⟩ := hrun h hP
      simp only [LStmt.lits, hfd] at hl
      obtain ⟨hext, hran, hs⟩ := hsim Φ f σ μ C' o μ' (P.update p) hbody hG hb hPu hl.2.2
      obtain ⟨v, rfl⟩ := hran.of_none
      exact ⟨hext, hran, fun ρ hA => conv_ann (hs ρ (fun y hy ht => hA y hy ht))⟩
    | some k =>
      simp only at hc
      have hkG : FvIn (LStmt.gammaL G body) k := hk k rfl
      have hmem : ∀ y, y ∈ passedL G body k ↔ y ∈ LStmt.asgL body ∧ y ∈ LStmt.gammaL G body ∧ y ∈ occ k :=
        fun y => mem_passedL G body k y
      have hlen := length_passedL_le G body k
      generalize passedL G body k = D at hc hmem hlen
      obtain ⟨I, hcb, rfl⟩ := Option.map_eq_some_iff.1 hc
      obtain ⟨hI, hsim⟩ := hB G (some (retOf D)) I hws' hcb (forall_some (fvIn_retOf (fun y hy => ((hmem y).1 hy).2.1)))
      -- a free variable of `k` that is not handed over is not assigned in the block
      have hout : ∀ y, y ∈ fvF k → isTmpL y = false → y ∉ D → y ∉ LStmt.asgL body :=
        fun y hy ht hyD hd => hyD ((hmem y).2 ⟨hd, hkG y hy ht, fvF_sub_occ k y hy⟩)
      refine ⟨fun y hy ht => ?_, fun Φ fuel σ μ C o μ' P h hG hb hP hl => ?_⟩
      · rcases (fv_bundle _ _ _ y ht).1 hy with h | h
        · exact hI y h ht
        · exact (gammaL_sub body G y (hkG y h.1 ht)).resolve_right (hout y h.1 ht h.2)
      · obtain ⟨f, C', hbody, hPu⟩ := hrun h hP
        simp only [LStmt.lits, hfd] at hl
        obtain ⟨hlP, hlPu, hlb⟩ := hl
        obtain ⟨hext, hran, hs⟩ := hsim Φ f σ μ C' o μ' (P.update p) hbody hG hb hPu hlb
        obtain ⟨σb, rfl, hbnd, hkeep⟩ := hran.of_some
        refine ⟨hext, Ran.normal hbnd hkeep, fun ρ hA => Sim.normal_intro fun w hw => ?_⟩
        have hAI : AgreeL (fvF I) ρ σ := fun y hy ht =>
          hA y ((fv_bundle D (.ann p I) k y ht).2 (Or.inl hy)) ht
        have hDT : ∀ x, x ∈ D → isTmpL x = false := fun x hx => asgL_nt body G hws' x ((hmem x).1 hx).1
        have hDb : Bound D σb := fun x hx => hbnd x ((hmem x).1 hx).2.1
        have hCL : CtxLits C D.length := (hlP.1.ctx hP).mono (by omega)
        obtain ⟨r0, hr0⟩ := lit0 (hlPu.1.ctx hPu)
        have cI := (hs ρ hAI).normal_elim (v := carried D σb r0) (fun ρ' hA' => conv_retOf hPu (fun _ => hr0)
          (fun y hy => hA' y ((fv_retOf _ y).2 hy) (hDT y hy)) hDb)
        refine conv_bundle hP hCL (fun x hx => isTmp_of_isTmpL (hDT x hx)) hDb (conv_ann cI)
          (fun ρ' hρ' => hw ρ' (fun y hy ht => ?_))
        rw [hρ' y (isTmp_of_isTmpL ht)]
        by_cases hyD : y ∈ D
        · simp [hyD]
        · simp only [hyD, if_false]
          rw [hkeep y (hout y hy ht hyD)]
          exact hA y ((fv_bundle D (.ann p I) k y ht).2 (Or.inr ⟨hy, hyD⟩)) ht

end

end Fpy.C12
