/-
What the meta-theory of the evaluator (Model/Lang/Core.lean) uses below any particular relation: `RelM`, two results
of the monad `M` are the same error or related values; `ORel`, `All2`, the same for optional values and for lists; and
what the evaluator's own helpers (`heapGet`, `Env.set`, `ctxCtor`, `intVal`, the binding of parameters) do.
-/
import Fpy.Model.Lang.Core
namespace Fpy

theorem lt_of_getElem?_eq_some {α : Type} {l : List α} {i : Nat} {a : α} (h : l[i]? = some a) : i < l.length :=
  (List.getElem?_eq_some_iff.1 h).1

theorem getElem?_append_of_eq_some {α : Type} {l l' : List α} {i : Nat} {a : α} (h : l[i]? = some a) : (l ++ l')[i]? = some a := by
  rw [List.getElem?_append_left (lt_of_getElem?_eq_some h)]; exact h

end Fpy
namespace Fpy.Xform
open Fpy Fpy.Lang

theorem map_eq_bind {α β : Type} (f : α → β) (x : M α) : Except.map f x = x >>= fun a => .ok (f a) := by
  cases x <;> rfl

theorem heapGet_ok_iff {μ : Heap} {r : Nat} {l : List Val} : heapGet μ r = .ok l ↔ μ[r]? = some l := by
  unfold heapGet
  generalize μ[r]? = o
  cases o with
  | none => exact ⟨fun h => (nomatch h), fun h => (nomatch h)⟩
  | some l' => exact ⟨fun h => (by cases h; rfl), fun h => (by cases h; rfl)⟩

def RelM {α β : Type} (Q : α → β → Prop) : M α → M β → Prop
  | .ok x, .ok y => Q x y
  | .error e, .error e' => e = e'
  | _, _ => False

theorem RelM.bind {α β γ δ : Type} {P : α → β → Prop} {Q : γ → δ → Prop} {a : M α} {b : M β} {f : α → M γ} {g : β → M δ}
    (h : RelM P a b) (hf : ∀ x y, P x y → RelM Q (f x) (g y)) : RelM Q (a >>= f) (b >>= g) := by
  cases a <;> cases b <;> simp only [RelM] at h
  · subst h; rfl
  · exact hf _ _ h

theorem RelM.bind_same {α γ δ : Type} {Q : γ → δ → Prop} {a : M α} {f : α → M γ} {g : α → M δ}
    (hf : ∀ x, RelM Q (f x) (g x)) : RelM Q (a >>= f) (a >>= g) := by
  cases a
  · rfl
  · exact hf _

theorem RelM.eq_iff {α : Type} {a b : M α} : RelM Eq a b ↔ a = b := by
  cases a <;> cases b <;> simp [RelM]

theorem RelM.cases {α β : Type} {Q : α → β → Prop} {a : M α} {b : M β} (h : RelM Q a b) :
    (∃ e, a = .error e ∧ b = .error e) ∨ ∃ x y, a = .ok x ∧ b = .ok y ∧ Q x y := by
  cases a <;> cases b <;> simp only [RelM] at h
  · exact .inl ⟨_, rfl, h ▸ rfl⟩
  · exact .inr ⟨_, _, rfl, rfl, h⟩

theorem RelM.err {α β : Type} {Q : α → β → Prop} (e : Err) : RelM Q (.error e : M α) (.error e : M β) := rfl

theorem RelM.diag {α : Type} {Q : α → α → Prop} {a : M α} (h : ∀ x, a = .ok x → Q x x) : RelM Q a a := by
  cases a with
  | error e => rfl
  | ok x => exact h x rfl

theorem RelM.imp {α β : Type} {P Q : α → β → Prop} {a : M α} {b : M β} (h : RelM P a b) (hpq : ∀ x y, P x y → Q x y) :
    RelM Q a b := by
  rcases h.cases with ⟨e, rfl, rfl⟩ | ⟨x, y, rfl, rfl, hxy⟩
  · rfl
  · exact hpq x y hxy

theorem RelM.err_iff {α β : Type} {Q : α → β → Prop} {a : M α} {b : M β} (h : RelM Q a b) (e : Err) :
    a = .error e ↔ b = .error e := by
  rcases h.cases with ⟨_, rfl, rfl⟩ | ⟨_, _, rfl, rfl, _⟩
  · exact ⟨fun h' => by cases h'; rfl, fun h' => by cases h'; rfl⟩
  · exact ⟨nofun, nofun⟩

def ORel {α β : Type} (Q : α → β → Prop) : Option α → Option β → Prop
  | some a, some b => Q a b
  | none, none => True
  | _, _ => False

theorem ORel.cases {α β : Type} {Q : α → β → Prop} {a : Option α} {b : Option β} (h : ORel Q a b) :
    (a = none ∧ b = none) ∨ ∃ x y, a = some x ∧ b = some y ∧ Q x y := by
  cases a <;> cases b <;> simp only [ORel] at h
  · exact .inl ⟨rfl, rfl⟩
  · exact .inr ⟨_, _, rfl, rfl, h⟩

theorem ORel.diag {α : Type} {Q : α → α → Prop} {a : Option α} (h : ∀ x, a = some x → Q x x) : ORel Q a a := by
  cases a with
  | none => trivial
  | some x => exact h x rfl

theorem ORel.imp {α β : Type} {P Q : α → β → Prop} {a : Option α} {b : Option β} (h : ORel P a b)
    (hpq : ∀ x y, P x y → Q x y) : ORel Q a b := by
  rcases h.cases with ⟨rfl, rfl⟩ | ⟨x, y, rfl, rfl, hxy⟩
  · trivial
  · exact hpq x y hxy

/-- the shape of the callee environment in `evalE … (.call …)` -/
def setAll (σ : Env) (l : List (String × Val)) : Env := l.foldl (fun s (x, v) => s.set x v) σ

theorem setAll_nil (σ : Env) : setAll σ [] = σ := rfl
theorem setAll_cons (σ : Env) (x : String) (v : Val) (l : List (String × Val)) :
    setAll σ ((x, v) :: l) = setAll (σ.set x v) l := rfl

/-! A context constructor reads its arguments through `ctxIntArg` only.  Every alternative of `ctxCtor` takes
one or two arguments; each lemma splits the match on the left and, in the fall-through case, on the right. -/

theorem ctxCtor_congr1 (f : String) {a a' : Val} (h : ctxIntArg a = ctxIntArg a') : ctxCtor f [a] = ctxCtor f [a'] := by
  unfold ctxCtor
  generalize f.splitOn "/" = parts
  split
  · cases ‹[a] = [_]›; rw [h]
  · cases ‹[a] = [_, _]›
  · cases ‹[a] = [_, _]›
  · cases ‹[a] = [_]›; rw [h]
  · cases ‹[a] = [_, _]›
  · rename_i n1 _ _ n4 _
    split
    · exact (n1 _ _ rfl rfl).elim
    · cases ‹[a'] = [_, _]›
    · cases ‹[a'] = [_, _]›
    · exact (n4 _ _ rfl rfl).elim
    · cases ‹[a'] = [_, _]›
    · rfl

theorem ctxCtor_congr2 (f : String) {a a' b b' : Val} (h : ctxIntArg a = ctxIntArg a') (h' : ctxIntArg b = ctxIntArg b') :
    ctxCtor f [a, b] = ctxCtor f [a', b'] := by
  unfold ctxCtor
  generalize f.splitOn "/" = parts
  split
  · cases ‹[a, b] = [_]›
  · cases ‹[a, b] = [_, _]›; rw [h, h']
  · cases ‹[a, b] = [_, _]›; rw [h, h']
  · cases ‹[a, b] = [_]›
  · cases ‹[a, b] = [_, _]›; rw [h, h']
  · rename_i _ n2 n3 _ n5
    split
    · cases ‹[a', b'] = [_]›
    · exact (n2 _ _ _ rfl rfl).elim
    · exact (n3 _ _ _ _ rfl rfl).elim
    · cases ‹[a', b'] = [_]›
    · exact (n5 _ _ _ _ _ rfl rfl).elim
    · rfl

theorem ctxCtor_many (f : String) (a b c : Val) (vs : List Val) : ctxCtor f (a :: b :: c :: vs) = .error .unbound := by
  unfold ctxCtor
  split
  · cases ‹a :: b :: c :: vs = [_]›
  · cases ‹a :: b :: c :: vs = [_, _]›
  · cases ‹a :: b :: c :: vs = [_, _]›
  · cases ‹a :: b :: c :: vs = [_]›
  · cases ‹a :: b :: c :: vs = [_, _]›
  · rfl

/-! Association lists read with `find?` and written by `cons` after `filter`: environments, and the compile cache of
the boundary model. -/

theorem _root_.Fpy.assoc_get_set {κ α : Type} [BEq κ] [LawfulBEq κ] [DecidableEq κ] (l : List (κ × α)) (x y : κ) (v : α) :
    (((x, v) :: l.filter (·.1 != x)).find? (·.1 == y)).map (·.2) =
      if y = x then some v else (l.find? (·.1 == y)).map (·.2) := by
  by_cases h : y = x
  · subst h; simp
  · have hxy : ((x, v).1 == y) = false := beq_eq_false_iff_ne.2 fun h' => h h'.symm
    rw [if_neg h, List.find?_cons_of_neg (by rw [hxy]; exact Bool.false_ne_true), List.find?_filter]
    congr 2; funext a
    by_cases ha : a.1 = y
    · simp [ha, h]
    · simp [ha]

theorem Env.get?_set (σ : Env) (x y : String) (v : Val) :
    (σ.set x v).get? y = if y = x then some v else σ.get? y := assoc_get_set σ x y v

theorem Env.get?_set_self (σ : Env) (x : String) (v : Val) : (σ.set x v).get? x = some v := by
  rw [Env.get?_set, if_pos rfl]

theorem Env.get?_set_ne (σ : Env) {x y : String} (v : Val) (h : x ≠ y) : (σ.set x v).get? y = σ.get? y := by
  rw [Env.get?_set, if_neg fun e => h e.symm]

theorem get?_setAll : ∀ (l : List (String × Val)) (σ : Env) (z : String),
    (z ∉ l.map (·.1) ∧ (setAll σ l).get? z = σ.get? z) ∨ ∃ v, (z, v) ∈ l ∧ (setAll σ l).get? z = some v := by
  intro l
  induction l with
  | nil => intro σ z; exact .inl ⟨List.not_mem_nil, rfl⟩
  | cons a l ih =>
    intro σ z
    obtain ⟨x, v⟩ := a
    rw [setAll_cons]
    rcases ih (σ.set x v) z with ⟨hn, e⟩ | ⟨w, hw, e⟩
    · by_cases hz : z = x
      · subst hz; exact .inr ⟨v, List.mem_cons_self, by rw [e, Env.get?_set_self]⟩
      · refine .inl ⟨fun hm => ?_, by rw [e, Env.get?_set_ne _ _ (Ne.symm hz)]⟩
        rcases List.mem_cons.1 hm with h | h
        · exact hz h
        · exact hn h
    · exact .inr ⟨w, List.mem_cons_of_mem _ hw, e⟩

theorem toInt_ofInt (i : Int) : (RF.ofInt i).toInt? = some i := by
  unfold RF.toInt? RF.isInteger RF.isMoreSignificant RF.ofInt
  by_cases h : i = 0
  · subst h; simp
  · have hc : i.natAbs ≠ 0 := by omega
    simp [hc]
    omega

theorem nvInt_intVal (i : Int) : ∃ w, intVal i = .num w ∧ nvInt? w = some i :=
  ⟨_, rfl, toInt_ofInt i⟩

theorem asIndex_int {w : NV} {i : Nat} (hw : nvInt? w = some (i : Int)) : asIndex (.num w) = .ok i := by
  unfold asIndex asNum
  show (match nvInt? w with | none => _ | some i => _) = _
  rw [hw]
  show (if (i : Int) < 0 then _ else _) = _
  rw [if_neg (by omega)]
  simp

/-- `List.Forall₂`, which core Lean does not have -/
inductive All2 {α β : Type} (R : α → β → Prop) : List α → List β → Prop
  | nil : All2 R [] []
  | cons {a : α} {b : β} {as : List α} {bs : List β} : R a b → All2 R as bs → All2 R (a :: as) (b :: bs)

theorem All2.imp {α β : Type} {R S : α → β → Prop} (h : ∀ a b, R a b → S a b) {as : List α} {bs : List β}
    (hl : All2 R as bs) : All2 S as bs := by
  induction hl with
  | nil => exact .nil
  | cons h1 _ ih => exact .cons (h _ _ h1) ih

/-- a relation on the diagonal: the lists are equal and the predicate holds of every element -/
theorem All2.diag {α : Type} {P : α → Prop} {as : List α} : ∀ {bs : List α}, All2 (fun a b => a = b ∧ P a) as bs ↔ as = bs ∧ ∀ a ∈ as, P a := by
  induction as with
  | nil => exact ⟨fun h => by cases h; exact ⟨rfl, nofun⟩, by rintro ⟨rfl, _⟩; exact .nil⟩
  | cons a as ih =>
    intro bs
    rw [List.forall_mem_cons]
    constructor
    · rintro (_ | ⟨⟨rfl, ha⟩, h2⟩)
      obtain ⟨rfl, has⟩ := ih.1 h2
      exact ⟨rfl, ha, has⟩
    · rintro ⟨rfl, ha, has⟩
      exact .cons ⟨rfl, ha⟩ (ih.2 ⟨rfl, has⟩)

theorem all2_eq {α : Type} {vs ws : List α} : All2 Eq vs ws ↔ vs = ws :=
  ⟨fun h => (All2.diag.1 (All2.imp (S := fun a b => a = b ∧ True) (fun _ _ e => ⟨e, trivial⟩) h)).1,
    fun h => All2.imp (fun _ _ e => e.1) (All2.diag.2 ⟨h, fun _ _ => trivial⟩)⟩

theorem All2.length_eq {α β : Type} {R : α → β → Prop} {as : List α} {bs : List β} (hl : All2 R as bs) :
    as.length = bs.length := by
  induction hl with
  | nil => rfl
  | cons _ _ ih => simp only [List.length_cons, ih]

theorem All2.get {α β : Type} {R : α → β → Prop} {as : List α} {bs : List β} (hl : All2 R as bs) :
    ∀ (k : Nat), ORel R as[k]? bs[k]? := by
  induction hl with
  | nil => intro k; exact trivial
  | cons h1 _ ih =>
    intro k
    cases k with
    | zero => exact h1
    | succ k => rw [List.getElem?_cons_succ, List.getElem?_cons_succ]; exact ih k

theorem All2.set {α β : Type} {R : α → β → Prop} {a : α} {b : β} (hab : R a b) {as : List α} {bs : List β}
    (hl : All2 R as bs) : ∀ k, All2 R (as.set k a) (bs.set k b) := by
  induction hl with
  | nil => intro k; exact .nil
  | cons h1 h2 ih =>
    intro k
    cases k with
    | zero => exact .cons hab h2
    | succ k => exact .cons h1 (ih k)

theorem All2.append {α β : Type} {R : α → β → Prop} {a c : List α} {b e : List β} (h : All2 R a b) (h' : All2 R c e) :
    All2 R (a ++ c) (b ++ e) := by
  induction h with
  | nil => exact h'
  | cons h1 _ ih => exact .cons h1 ih

theorem All2.drop {α β : Type} {R : α → β → Prop} {as : List α} {bs : List β} (h : All2 R as bs) :
    ∀ k, All2 R (as.drop k) (bs.drop k) := by
  induction h with
  | nil => intro k; rw [List.drop_nil, List.drop_nil]; exact .nil
  | cons h1 h2 ih =>
    intro k
    cases k with
    | zero => exact .cons h1 h2
    | succ k => exact ih k

theorem All2.take {α β : Type} {R : α → β → Prop} {as : List α} {bs : List β} (h : All2 R as bs) :
    ∀ k, All2 R (as.take k) (bs.take k) := by
  induction h with
  | nil => intro k; rw [List.take_nil, List.take_nil]; exact .nil
  | cons h1 _ ih =>
    intro k
    cases k with
    | zero => exact .nil
    | succ k => exact .cons h1 (ih k)

theorem All2.map {α β γ : Type} {R : α → β → Prop} (f : γ → α) (g : γ → β) :
    ∀ (l : List γ), (∀ x ∈ l, R (f x) (g x)) → All2 R (l.map f) (l.map g)
  | [], _ => .nil
  | x :: l, h => .cons (h x List.mem_cons_self) (All2.map f g l fun y hy => h y (List.mem_cons_of_mem _ hy))

theorem All2.filterMap {α β γ : Type} {R : α → β → Prop} (f : γ → Option α) (g : γ → Option β) :
    ∀ (l : List γ), (∀ x ∈ l, ORel R (f x) (g x)) → All2 R (l.filterMap f) (l.filterMap g)
  | [], _ => .nil
  | x :: l, h => by
    have hl := All2.filterMap f g l (fun y hy => h y (List.mem_cons_of_mem _ hy))
    rcases (h x List.mem_cons_self).cases with ⟨hf, hg⟩ | ⟨v, w, hf, hg, hx⟩
    · rw [List.filterMap_cons_none hf, List.filterMap_cons_none hg]; exact hl
    · rw [List.filterMap_cons_some hf, List.filterMap_cons_some hg]; exact .cons hx hl

/-! The two facts the `zip` case needs of its list of lists: the same test for unequal lengths, related columns. -/

theorem All2.any_len {α β : Type} {R : α → β → Prop} (n : Nat) {ls : List (List α)} {ls' : List (List β)}
    (h : All2 (All2 R) ls ls') : ls.any (fun l => l.length != n) = ls'.any (fun l => l.length != n) := by
  induction h with
  | nil => rfl
  | cons h1 _ ih => simp only [List.any_cons, h1.length_eq, ih]

theorem All2.column {α β : Type} {R : α → β → Prop} (i : Nat) {ls : List (List α)} {ls' : List (List β)}
    (h : All2 (All2 R) ls ls') : All2 R (ls.filterMap (fun l => l[i]?)) (ls'.filterMap (fun l => l[i]?)) := by
  induction h with
  | nil => exact .nil
  | cons h1 _ ih =>
    rcases (h1.get i).cases with ⟨e1, e2⟩ | ⟨x, y, e1, e2, hi⟩
    · rw [List.filterMap_cons_none (f := fun l : List α => l[i]?) e1,
        List.filterMap_cons_none (f := fun l : List β => l[i]?) e2]; exact ih
    · rw [List.filterMap_cons_some (f := fun l : List α => l[i]?) e1,
        List.filterMap_cons_some (f := fun l : List β => l[i]?) e2]; exact .cons hi ih

end Fpy.Xform
