/-
C03 — helper lemmas for the wrapper model `Fpy/Model/Elem.lean`: truncations of a dyadic value and of a rational
as contract oracles, the wrapper on an oracle that answers like the truncations of a dyadic value, scaling by a
power of two.
-/
import Fpy.Model.Elem
import Fpy.Proof.EngineLemmas
namespace Fpy.C03
open Fpy Fpy.Spec

theorem rtoBit_false (c : Nat) : rtoBit c false = c := by unfold rtoBit; simp

theorem truncRF_keep (x : RF) (q : Nat) (h : x.p ≤ q) : truncRF x q = (x, false) := by
  unfold truncRF; simp only [h, if_true]

theorem truncRF_le (x : RF) (q : Nat) (h : q ≤ x.p) :
    truncRF x q = (⟨x.s, x.exp + ((x.p - q : Nat) : Int), x.c / 2 ^ (x.p - q)⟩, x.c % 2 ^ (x.p - q) != 0) := by
  by_cases h' : x.p ≤ q
  · rw [truncRF_keep x q h', show x.p - q = 0 by omega]
    simp only [Nat.pow_zero, Nat.div_one, Nat.mod_one, Int.natCast_zero, Int.add_zero]
    rfl
  · unfold truncRF; rw [if_neg h']

theorem truncRF_digits (x : RF) (q : Nat) (hq : 1 ≤ q) (h : q ≤ x.p) : bitLength (x.c / 2 ^ (x.p - q)) = q :=
  bitLength_div_pow x.c (x.p - q) q hq (by unfold RF.p at h ⊢; omega)

theorem truncRF_props (x : RF) (q : Nat) (hq : 1 ≤ q) (hx : x.c ≠ 0) :
    (truncRF x q).1.c ≠ 0 ∧ (truncRF x q).1.e = x.e ∧ (truncRF x q).1.s = x.s ∧ (truncRF x q).1.p ≤ q ∧
    ((truncRF x q).2 = true → (truncRF x q).1.p = q) := by
  by_cases h : x.p ≤ q
  · rw [truncRF_keep x q h]; exact ⟨hx, rfl, rfl, h, by simp⟩
  · have h3 := truncRF_digits x q hq (by omega)
    rw [truncRF_le x q (by omega)]
    refine ⟨?_, ?_, rfl, Nat.le_of_eq h3, fun _ => h3⟩
    · exact ne_zero_of_bitLength (by rw [h3]; exact hq)
    · show x.exp + ((x.p - q : Nat) : Int) + (bitLength (x.c / 2 ^ (x.p - q)) : Int) - 1 = x.exp + (x.p : Int) - 1
      rw [h3]; omega

theorem roundOdd_truncRF (x : RF) (q : Nat) : roundOdd (truncRF x q).1 (truncRF x q).2 = rtoRF x q := by
  unfold roundOdd truncRF rtoRF rtoBit
  by_cases h : x.p ≤ q
  · simp [h]
  · simp only [h, if_false]

theorem mpfrCallModel_workPrec (t : Oracle) (prec : Option Nat) (n : Option Int)
    (hpn : (prec.isNone && n.isNone) = false) (h2 : (t 2).1.c ≠ 0) :
    mpfrCallModel t prec n =
      .ok (roundOdd (t (workPrec prec n (t 2).1.e)).1 (t (workPrec prec n (t 2).1.e)).2) := by
  unfold mpfrCallModel workPrec
  cases prec with
  | some p => rfl
  | none =>
    cases n with
    | none => exact absurd hpn (by decide)
    | some n =>
      simp only [h2, if_false]
      split <;> rfl

theorem mpfrCall_of_agree (t : Oracle) (x : RF) (hx : x.c ≠ 0) (prec : Option Nat) (n : Option Int)
    (hpn : (prec.isNone && n.isNone) = false) (W : Nat)
    (hW : workPrec prec n x.e ≤ W) (h : ∀ q, 1 ≤ q → q ≤ W → t q = truncRF x q) :
    mpfrCallModel t prec n = mpfrRtoRF x prec n := by
  have hW2 := two_le_workPrec prec n x.e
  obtain ⟨hc, he, _⟩ := truncRF_props x 2 (by omega) hx
  have h2 := h 2 (by omega) (by omega)
  rw [mpfrCallModel_workPrec t prec n hpn (by rw [h2]; exact hc), mpfrRtoRF_workPrec x hx prec n hpn, h2, he,
    h _ (by omega) hW, roundOdd_truncRF]

theorem wrapper_dyadic (C : Ctx) (hC : C.det) (t : Oracle) (x : RF) (hx : x.c ≠ 0) (W : Nat)
    (hW : workPrec C.roundParams.1 C.roundParams.2 x.e ≤ W) (h : ∀ q, 1 ≤ q → q ≤ W → t q = truncRF x q) :
    Res.agree (elemEval C t) (C.roundAtCore (.fin x) none false 0) := by
  obtain ⟨x', h1, h2⟩ := rto_normalize C hC x hx
  unfold elemEval
  rw [mpfrCall_of_agree t x hx _ _ (det_params C hC) W hW h, h1]
  exact h2

theorem truncRF_coherent (x : RF) (hx : x.c ≠ 0) : Coherent (truncRF x) where
  nz q hq := (truncRF_props x q hq hx).1
  short q hq := (truncRF_props x q hq hx).2.2.2.1
  full q hq := (truncRF_props x q hq hx).2.2.2.2
  step q W hq hqW := by
    unfold truncStep
    by_cases hW : x.p ≤ W
    · rw [truncRF_keep x W hW, Bool.or_false]
    · have hp : bitLength (x.c / 2 ^ (x.p - W)) = W := truncRF_digits x W (by omega) (by omega)
      rw [truncRF_le x W (by omega), truncRF_le x q (by omega)]
      dsimp only
      rw [truncRF_le _ q (by show q ≤ bitLength (x.c / 2 ^ (x.p - W)); omega)]
      simp only [RF.p] at hW hp ⊢
      rw [hp]
      -- dropping `p - W` digits and then `W - q` is dropping `p - q`; something is lost iff it is lost at either step
      have hJ : 0 < 2 ^ (bitLength x.c - W) := Nat.pow_pos (by decide)
      have hsum : bitLength x.c - q = (bitLength x.c - W) + (W - q) := by omega
      rw [hsum, Nat.pow_add, Nat.div_div_eq_div_mul]
      exact Prod.ext (by simp only [RF.mk.injEq, true_and, and_true]; omega) (lost_mul _ _ _ hJ)

/-- the appended half unit is the only digit dropped -/
theorem truncRF_refDyadic (t : Oracle) (ht : Coherent t) (W : Nat) (hW : 1 ≤ W) :
    (refDyadic t W).c ≠ 0 ∧ truncRF (refDyadic t W) W = t W := by
  have hnz := ht.nz W hW
  unfold refDyadic
  cases hb : (t W).2
  · exact ⟨hnz, (truncRF_keep _ W (ht.short W hW)).trans (Prod.ext rfl hb.symm)⟩
  · have hbl : bitLength (2 * (t W).1.c + 1) = W + 1 := bitLength_double_succ _ W hW (ht.full W hW hb)
    refine ⟨by simp only [if_true]; omega, ?_⟩
    rw [if_pos rfl, truncRF_le _ W (by show W ≤ bitLength (2 * (t W).1.c + 1); omega)]
    simp only [RF.p, hbl, Nat.add_sub_cancel_left, Nat.pow_one]
    refine Prod.ext ?_ (by rw [hb, Nat.mul_add_mod]; rfl)
    show (⟨(t W).1.s, (t W).1.exp - 1 + ((1 : Nat) : Int), (2 * (t W).1.c + 1) / 2⟩ : RF) = (t W).1
    rw [show (2 * (t W).1.c + 1) / 2 = (t W).1.c by omega, show (t W).1.exp - 1 + ((1 : Nat) : Int) = (t W).1.exp by omega]

theorem coherent_witness (t : Oracle) (ht : Coherent t) (W : Nat) (hW : 1 ≤ W) :
    (refDyadic t W).c ≠ 0 ∧ (refDyadic t W).e = (t W).1.e ∧ (refDyadic t W).s = (t W).1.s ∧
    ∀ q, 1 ≤ q → q ≤ W → t q = truncRF (refDyadic t W) q := by
  obtain ⟨hc, hT⟩ := truncRF_refDyadic t ht W hW
  obtain ⟨_, he, hs, _⟩ := truncRF_props (refDyadic t W) W hW hc
  rw [hT] at he hs
  refine ⟨hc, he.symm, hs.symm, fun q hq hqW => ?_⟩
  rw [ht.step q W hq hqW, ← hT]
  exact ((truncRF_coherent _ hc).step q W hq hqW).symm

theorem roundOdd_exact (x : RF) : roundOdd x false = x := by
  unfold roundOdd; rw [rtoBit_false]

theorem wrapper_exact (t : Oracle) (x : RF) (hx : x.c ≠ 0) (prec : Option Nat) (n : Option Int)
    (hpn : (prec.isNone && n.isNone) = false) (W : Nat) (hW : workPrec prec n x.e ≤ W)
    (h : ∀ q, 1 ≤ q → q ≤ W → t q = truncRF x q) (hfit : x.p ≤ workPrec prec n x.e) :
    mpfrCallModel t prec n = .ok x := by
  rw [mpfrCall_of_agree t x hx prec n hpn W hW h, mpfrRtoRF_workPrec x hx prec n hpn, rtoRF_keep x _ hfit]

/-- `x / 2^k` -/
def shiftRF (x : RF) (k : Nat) : RF := ⟨x.s, x.exp - (k : Int), x.c⟩

theorem truncRF_shift (x : RF) (k q : Nat) :
    truncRF (shiftRF x k) q = (shiftRF (truncRF x q).1 k, (truncRF x q).2) := by
  unfold truncRF shiftRF
  by_cases h : x.p ≤ q
  · have h' : (⟨x.s, x.exp - (k : Int), x.c⟩ : RF).p ≤ q := h
    simp only [h, h', if_true]
  · have h' : ¬ (⟨x.s, x.exp - (k : Int), x.c⟩ : RF).p ≤ q := h
    simp only [h, h', if_false]
    have hp : (⟨x.s, x.exp - (k : Int), x.c⟩ : RF).p = x.p := rfl
    rw [hp]
    congr 2
    omega

theorem mpfrCall_ratOracle (neg : Bool) (num den : Nat) (prec : Option Nat) (n : Option Int)
    (hnz : (truncRat num den 2).1 ≠ 0) :
    mpfrCallModel (ratOracle neg num den) prec n = mpfrValue neg num den prec n := by
  cases prec with
  | some p => rfl
  | none =>
    cases n with
    | none => rfl
    | some n =>
      have h2 : (ratOracle neg num den 2).1.c ≠ 0 := hnz
      unfold mpfrCallModel
      simp only [h2, if_false]
      split <;> rename_i he
      · exact (if_pos he).symm
      · exact (if_neg he).symm

/-- contract oracle of the rational `±(N/D)·2^E`, `D ≤ 2N < 2D`: `q` leading digits `⌊N·2^q/D⌋`, flag "remainder ≠ 0" -/
def normOracle (neg : Bool) (N D : Nat) (E : Int) : Oracle := fun q =>
  (⟨neg, E - (q : Int), N * 2 ^ q / D⟩, N * 2 ^ q % D != 0)

theorem normOracle_digits (N D : Nat) (h1 : D ≤ 2 * N) (h2 : N < D) (q : Nat) (hq : 1 ≤ q) :
    bitLength (N * 2 ^ q / D) = q := by
  have hD : 0 < D := by omega
  apply (bitLength_eq_iff _ q hq).2
  constructor
  · apply (Nat.le_div_iff_mul_le hD).2
    have hp := two_pow_pred q hq
    rw [hp]
    generalize 2 ^ (q - 1) = P
    have h3 := Nat.mul_le_mul_left P h1
    have e : P * (2 * N) = N * (2 * P) := by
      rw [Nat.mul_left_comm P 2 N, Nat.mul_left_comm N 2 P, Nat.mul_comm P N]
    omega
  · apply (Nat.div_lt_iff_lt_mul hD).2
    rw [Nat.mul_comm (2 ^ q) D]
    exact Nat.mul_lt_mul_of_pos_right h2 (Nat.pow_pos (by decide))

theorem quot_flag (A D G : Nat) (hD : 0 < D) (hG : 0 < G) :
    (A % D != 0) = ((A * G / D % G != 0) || (A * G % D != 0)) := by
  rw [← lost_mul (A * G) D G hD, Nat.mul_mod_mul_right, Bool.eq_iff_iff]
  simp only [bne_iff_ne, ne_eq, Nat.mul_eq_zero, Nat.ne_of_gt hG, or_false]

theorem normOracle_coherent (neg : Bool) (N D : Nat) (E : Int) (h1 : D ≤ 2 * N) (h2 : N < D) :
    Coherent (normOracle neg N D E) where
  nz q hq := ne_zero_of_bitLength (c := N * 2 ^ q / D) (by rw [normOracle_digits N D h1 h2 q hq]; exact hq)
  short q hq := Nat.le_of_eq (normOracle_digits N D h1 h2 q hq)
  full q hq _ := normOracle_digits N D h1 h2 q hq
  step q W hq hqW := by
    have hD : 0 < D := by omega
    have hpW : (normOracle neg N D E W).1.p = W := normOracle_digits N D h1 h2 W (by omega)
    have hG : 0 < 2 ^ (W - q) := Nat.pow_pos (by decide)
    have hWq : N * 2 ^ W = N * 2 ^ q * 2 ^ (W - q) := by
      rw [Nat.mul_assoc, ← Nat.pow_add]; congr 2; omega
    unfold truncStep
    rw [truncRF_le (normOracle neg N D E W).1 q (by rw [hpW]; exact hqW), hpW]
    apply Prod.ext
    · show (⟨neg, E - (q : Int), N * 2 ^ q / D⟩ : RF) = ⟨neg, E - (W : Int) + ((W - q : Nat) : Int), N * 2 ^ W / D / 2 ^ (W - q)⟩
      congr 1
      · omega
      · rw [Nat.div_div_eq_div_mul, hWq, Nat.mul_div_mul_right _ _ hG]
    · show (N * 2 ^ q % D != 0) = ((N * 2 ^ W / D % 2 ^ (W - q) != 0) || (N * 2 ^ W % D != 0))
      rw [hWq]
      exact quot_flag (N * 2 ^ q) D (2 ^ (W - q)) hD hG

end Fpy.C03
