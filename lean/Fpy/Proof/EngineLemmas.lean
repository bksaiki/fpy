/-
`Res.agree` and `Ctx.det`, the vocabulary of C02, C03 and the round-to-value statements; the round-to-odd intermediate
under every context family that rounds through `Ctx.core` (`rto_normalize`).  Then `ops.<op>` under a context in
`Ctx.det`: the shape of `_normalize` (`OpAgree`), of the engine dispatch, and of the MPFR arms whose exact result is a
dyadic value (`op_exact_correct`).  At the end the integer roots of the engine model (`iroot_spec`).
-/
import Fpy.Proof.RoundOdd
import Fpy.Proof.CtxCore
import Fpy.Proof.Exact
namespace Fpy
open Fpy.Spec

/-- Of the flags only `inexact` and `overflow` are compared (here and in `OpAgree`): they are what C02 and C03 speak of; of
`tinyPre`, `tinyPost` and `carry` nothing is claimed. -/
def Res.agree (a b : Except Err Res) : Prop :=
  match a, b with
  | .ok r, .ok r' => r.v = r'.v ∧ r.fl.inexact = r'.fl.inexact ∧ r.fl.overflow = r'.fl.overflow
  | .error e, .error e' => e = e'
  | _, _ => False

theorem Res.agree_refl (a : Except Err Res) : Res.agree a a := by
  cases a <;> simp [Res.agree]

theorem Res.agree_symm {a b : Except Err Res} (h : Res.agree a b) : Res.agree b a := by
  cases a <;> cases b <;> simp_all [Res.agree]

theorem Res.agree_trans {a b c : Except Err Res} (h1 : Res.agree a b) (h2 : Res.agree b c) : Res.agree a c := by
  cases a <;> cases b <;> cases c <;> simp_all [Res.agree]

/-- deterministic, non-exact contexts with at least one digit, of the six families that round through `Ctx.core`;
`ExpContext` is deterministic too, but its `_round_at` is not a `Ctx.core` rounding followed by `Ctx.post`
(`core = none`), which is what `rto_normalize` goes through: it is left out -/
def Ctx.det : Ctx → Prop
  | .real => False
  | .mp p _ k _ => k = some 0 ∧ 1 ≤ p
  | .mps p _ _ k _ => k = some 0 ∧ 1 ≤ p
  | .mpb c => c.k = some 0 ∧ 1 ≤ c.p
  | .efloat c => c.k = some 0 ∧ 1 ≤ c.mpb.p
  | .mpfix _ _ k _ _ => k = some 0
  | .mpbfix c => c.k = some 0
  | .exp _ => False

theorem Ctx.det_core {C : Ctx} (hC : C.det) :
    ∃ P N rm, C.core = some (P, N, rm, some 0) ∧ ((∃ p, P = some p ∧ 1 ≤ p) ∨ (P = none ∧ ∃ n, N = some n)) := by
  cases C <;> try exact absurd hC id
  case mp p rm k o => exact ⟨_, _, rm, by rw [Ctx.core, hC.1], Or.inl ⟨p, rfl, hC.2⟩⟩
  case mps p emin rm k o => exact ⟨_, _, rm, by rw [Ctx.core, hC.1], Or.inl ⟨p, rfl, hC.2⟩⟩
  case mpb c => exact ⟨_, _, c.rm, by rw [Ctx.core, hC.1], Or.inl ⟨c.p, rfl, hC.2⟩⟩
  case efloat c => exact ⟨_, _, c.mpb.rm, by rw [Ctx.core, show c.mpb.k = some 0 from hC.1], Or.inl ⟨c.mpb.p, rfl, hC.2⟩⟩
  case mpfix nmin rm k nz o => exact ⟨_, _, rm, by rw [Ctx.core, show k = some 0 from hC], Or.inr ⟨rfl, nmin, rfl⟩⟩
  case mpbfix c => exact ⟨_, _, c.rm, by rw [Ctx.core, show c.k = some 0 from hC], Or.inr ⟨rfl, c.nmin, rfl⟩⟩

theorem Ctx.post_agree (C : Ctx) (xs : Bool) (y : RF) {fl fl' : Flags}
    (hi : fl'.inexact = fl.inexact) (ho : fl'.overflow = fl.overflow) :
    Res.agree (C.post xs y fl') (C.post xs y fl) := by
  cases h : C.inRange y
  · rw [(Ctx.post_out h xs fl').1, (Ctx.post_out h xs fl).1]; exact Res.agree_refl _
  · rw [Ctx.post_in h, Ctx.post_in h]; exact ⟨rfl, hi, ho⟩

theorem Ctx.roundAtCore_agree {C : Ctx} {P : Option Nat} {N : Option Int} {rm : RM} {k : Option Nat}
    (h : C.core = some (P, N, rm, k)) {x x' : RF} (hx : x.c ≠ 0) (hx' : x'.c ≠ 0) (hs : x'.s = x.s) (r : Nat)
    (hr : ∃ y fl fl', x.round P N rm k r false = .ok (y, fl) ∧ x'.round P N rm k r false = .ok (y, fl') ∧
      fl'.inexact = fl.inexact ∧ fl'.overflow = fl.overflow) :
    Res.agree (C.roundAtCore (.fin x') none false r) (C.roundAtCore (.fin x) none false r) := by
  obtain ⟨y, fl, fl', h1, h2, hi, ho⟩ := hr
  rw [Ctx.roundAtCore_fin h hx, Ctx.roundAtCore_fin h hx', h1, h2, hs]
  exact Ctx.post_agree C x.s y hi ho

theorem det_params (C : Ctx) (hC : C.det) : (C.roundParams.1.isNone && C.roundParams.2.isNone) = false := by
  obtain ⟨P, N, rm, hcore, ⟨p, rfl, _⟩ | ⟨rfl, n, rfl⟩⟩ := Ctx.det_core hC <;> rw [Ctx.roundParams_core hcore] <;> rfl

/-- in both shapes the `C03.workPrec` digits kept reach two positions below the rounding position -/
theorem rto_normalize (C : Ctx) (hC : C.det) (x : RF) (hx : x.c ≠ 0) :
    ∃ x', mpfrRtoRF x C.roundParams.1 C.roundParams.2 = .ok x' ∧
      Res.agree (C.roundAtCore (.fin x') none false 0) (C.roundAtCore (.fin x) none false 0) := by
  refine ⟨_, C03.mpfrRtoRF_workPrec x hx _ _ (det_params C hC), ?_⟩
  obtain ⟨P, N, rm, hcore, hPN⟩ := Ctx.det_core hC
  rw [Ctx.roundParams_core hcore]
  obtain ⟨hc', he', hs'⟩ := rtoRF_props x (C03.workPrec P N x.e) (by have := C03.two_le_workPrec P N x.e; omega) hx
  refine Ctx.roundAtCore_agree hcore hx hc' hs' 0 ?_
  rcases hPN with ⟨p, rfl, hp⟩ | ⟨rfl, n, rfl⟩
  · rw [RF.round_float, RF.round_float, he']
    exact rto_round_prec x p (p + 2) _ _ rm hx hp (Nat.le_refl _) (roundPos_ge x.e p N)
  · rw [RF.round_fixed, RF.round_fixed]
    exact rto_round_at x _ n rm hx (by have := C03.two_le_workPrec none (some n) x.e; omega) (C03.workPrec_reach x.e n)

def OpAgree (a : Except Err (NV × Flags)) (b : Except Err Res) : Prop :=
  match a, b with
  | .ok (v, fl), .ok r => v = .fv r.v ∧ fl.inexact = r.fl.inexact ∧ fl.overflow = r.fl.overflow
  | .error e, .error e' => e = e'
  | _, _ => False

theorem OpAgree.trans {a : Except Err (NV × Flags)} {b c : Except Err Res}
    (h1 : OpAgree a b) (h2 : Res.agree b c) : OpAgree a c := by
  rcases a with _ | ⟨v, fl⟩ <;> cases b <;> cases c <;> simp_all [OpAgree, Res.agree]

theorem normFlags_inexact_overflow (args : List NV) (res : NV) (fl : Flags) :
    (normFlags args res fl).inexact = fl.inexact ∧ (normFlags args res fl).overflow = fl.overflow := by
  unfold normFlags
  split
  · split <;> exact ⟨rfl, rfl⟩
  · split
    · split <;> exact ⟨rfl, rfl⟩
    · exact ⟨rfl, rfl⟩

/-- `_normalize` on a `Float` engine result is one `ctx.round` (the `invalid`/`divzero` logic touches no
other flag) -/
theorem opNormalize_fv (C : Ctx) (args : List NV) (v : FV) (b : Bool) :
    OpAgree (opNormalize C args (.fv v) b) (C.roundAtCore v none false 0) := by
  unfold opNormalize roundNV resToNV
  cases hr : C.roundAtCore v none false 0 with
  | error e => cases C.isReal <;> simp [hr, Except.map, OpAgree]
  | ok r =>
    cases C.isReal <;> cases b <;> simp [hr, Except.map, OpAgree, normFlags_inexact_overflow]

theorem all_fv (fvs : List FV) :
    (fvs.map NV.fv).all nvIsFloat = true := by
  induction fvs with
  | nil => rfl
  | cons a t ih => simp only [List.map_cons, List.all_cons, ih, Bool.and_true, nvIsFloat]

theorem filterMap_fv (fvs : List FV) :
    (fvs.map NV.fv).filterMap nvFloat? = fvs := by
  induction fvs with
  | nil => rfl
  | cons a t ih => simp only [List.map_cons, List.filterMap_cons, ih, nvFloat?]

theorem opEngines_mpfr (C : Ctx) (hC : C.det) (op : Op) (fvs : List FV) (v : FV)
    (h : mpfrOp op fvs C.roundParams.1 C.roundParams.2 = some (.ok v)) :
    opEngines C op (fvs.map NV.fv) = opNormalize C (fvs.map NV.fv) (.fv v) true := by
  unfold opEngines
  simp only [all_fv, filterMap_fv, det_params C hC, Bool.not_false, Bool.and_self, if_true, h]

/-- under `REAL` the MPFR engine is not asked, and whatever the exact engine answers is returned unchanged (with some
flags) -/
theorem opEngines_real {op : Op} {args : List NV} {r : NV} (h : exactEngine op args = some (.ok r)) :
    ∃ fl, opEngines .real op args = .ok (r, fl) := by
  unfold opEngines
  simp only [Ctx.roundParams, Option.isNone_none, Bool.and_self, Bool.not_true, Bool.and_false, Bool.false_eq_true,
    if_false, h]
  unfold opNormalize
  cases r with
  | q num den => exact ⟨_, rfl⟩
  | fv v => exact ⟨_, rfl⟩

/-- `hm`: the MPFR arm answers as for an operation whose exact result is the dyadic value `z` (`mpfrExactFV`: zero keeps
the sign `z.s`, non-zero is rounded to odd at the working precision).  `hop` is `rfl` for every `op` that `opEvalFl`
hands to `opEngines` (all but the rounding and round-to-integer operations). -/
theorem op_exact_correct (C : Ctx) (hC : C.det) (op : Op) (fvs : List FV) (z : RF)
    (hop : opEvalFl C op (fvs.map NV.fv) = opEngines C op (fvs.map NV.fv))
    (hm : mpfrOp op fvs C.roundParams.1 C.roundParams.2 = some (mpfrExactFV (.fin z) C.roundParams.1 C.roundParams.2)) :
    OpAgree (opEvalFl C op (fvs.map NV.fv)) (C.roundAtCore (.fin z) none false 0) := by
  rw [hop]
  by_cases hz : z.c = 0
  · have hv : mpfrExactFV (.fin z) C.roundParams.1 C.roundParams.2 = .ok (.fin ⟨z.s, 0, 0⟩) := if_pos hz
    rw [hv] at hm
    obtain ⟨P, N, rm, hcore, _⟩ := Ctx.det_core hC
    have hsome : C.core.isSome = true := by rw [hcore]; rfl
    -- of a zero operand `_round_at` keeps only the sign
    rw [opEngines_mpfr C hC op fvs _ hm, Ctx.roundAtCore_zero hsome hz, ← Ctx.roundAtCore_zero hsome (x := ⟨z.s, 0, 0⟩) rfl]
    exact opNormalize_fv C _ _ true
  · obtain ⟨z', h1, hag⟩ := rto_normalize C hC z hz
    have hv : mpfrExactFV (.fin z) C.roundParams.1 C.roundParams.2 = .ok (.fin z') :=
      (if_neg hz).trans (congrArg (Except.map FV.fin) h1)
    rw [hv] at hm
    rw [opEngines_mpfr C hC op fvs _ hm]
    exact (opNormalize_fv C _ _ true).trans hag

theorem toInt_ofInt (i : Int) : (RF.ofInt i).toInt? = some i :=
  (RF.toInt_eq_some_iff _ i).2 (RF.ofInt_val i).symm

/-- the `add`-style MPFR arm (also inside `sub` and `fma`) is `mpfrExactFV` of the exact sum -/
theorem addArm_form (a b : RF) (prec : Option Nat) (n : Option Int) :
    (if (a.c = 0 && b.c = 0) = true then (Except.ok (FV.fin ⟨a.s && b.s, 0, 0⟩) : Except Err FV)
     else if (a.add b).c = 0 then .ok (.fin ⟨false, 0, 0⟩) else (mpfrRtoRF (a.add b) prec n).map FV.fin)
      = mpfrExactFV (.fin (a.add b)) prec n := by
  show _ = if (a.add b).c = 0 then _ else _
  by_cases h : a.c = 0 ∧ b.c = 0
  · have e : a.add b = ⟨a.s && b.s, min a.exp b.exp, 0⟩ := by unfold RF.add; simp [h.1, h.2]
    simp [h.1, h.2, e]
  · have h' : ¬ ((a.c = 0 && b.c = 0) = true) := by simpa using h
    rw [if_neg h']
    by_cases hz : (a.add b).c = 0
    · rw [if_pos hz, if_pos hz,
        Bool.eq_false_iff.2 fun hs => h ⟨(RF.add_neg_zero a b hz hs).1, (RF.add_neg_zero a b hz hs).2.2.1⟩]
    · rw [if_neg hz, if_neg hz]

theorem irootGo_spec (k n : Nat) : ∀ i r, r ^ k ≤ n → n < (r + 2 ^ i) ^ k →
    (irootGo k n i r) ^ k ≤ n ∧ n < (irootGo k n i r + 1) ^ k := by
  intro i
  induction i with
  | zero => intro r h1 h2; simpa [irootGo] using ⟨h1, h2⟩
  | succ i ih =>
    intro r h1 h2
    unfold irootGo
    have e : r + 2 ^ (i + 1) = r + 2 ^ i + 2 ^ i := by rw [Nat.pow_succ]; omega
    by_cases h : (r + 2 ^ i) ^ k ≤ n
    · simp only [h, if_true]; exact ih _ h (by rw [← e]; exact h2)
    · simp only [h, if_false]; exact ih _ h1 (by omega)

theorem iroot_spec (k n : Nat) (hk : 1 ≤ k) : (iroot k n) ^ k ≤ n ∧ n < (iroot k n + 1) ^ k := by
  unfold iroot
  apply irootGo_spec
  · rw [Nat.zero_pow (by omega)]; exact Nat.zero_le _
  · rw [Nat.zero_add, ← Nat.pow_mul]
    have h1 := lt_two_pow_bitLength n
    have h2 : bitLength n ≤ (bitLength n / k + 1) * k := by
      have := Nat.lt_mul_div_succ (bitLength n) (show 0 < k by omega)
      rw [Nat.mul_comm] at this; omega
    exact Nat.lt_of_lt_of_le h1 (Nat.pow_le_pow_right (by decide) h2)

theorem iroot_unique (k n r : Nat) (hk : 1 ≤ k) (h1 : r ^ k ≤ n) (h2 : n < (r + 1) ^ k) : iroot k n = r := by
  obtain ⟨a, b⟩ := iroot_spec k n hk
  have mono : ∀ u v : Nat, u < v → (u + 1) ^ k ≤ v ^ k := fun u v h => Nat.pow_le_pow_left h k
  rcases Nat.lt_trichotomy (iroot k n) r with h | h | h
  · have := mono _ _ h; omega
  · exact h
  · have := mono _ _ h; omega

end Fpy
