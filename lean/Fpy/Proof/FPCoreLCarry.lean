/-
C12, the compiler model with loops — how the emitted FPCore forms evaluate (`pack` / `unpack`, `while`, `for` over
`(tensor ([%j n]) %j)`, `size`, `ref`), and the variables a loop / one-armed `if` carries: the relation between the FPCore
environment and the source environment while they are carried (`CarryRel`), how each piece evaluates, the bounds on
the number of integer literals a shape writes (`length_*_le`, with `LitsP.*`), and the free variables of
the loop-like shapes seen from their pieces.
-/
import Fpy.Proof.FPCoreLSyn
namespace Fpy.C12
open Fpy Fpy.Lang

theorem asIndex_intVal (i : Nat) : asIndex (intVal (Int.ofNat i)) = .ok i :=
  Fpy.Xform.asIndex_int (Fpy.Xform.toInt_ofInt i)

theorem asIndex_q (n : Nat) : asIndex (.num (.q (n : Int) 1)) = .ok n :=
  Fpy.Xform.asIndex_int rfl

theorem positions_one (n : Nat) : positions [n] = (List.range n).map fun i => [i] := by
  simp [positions, List.flatMap]
  induction (List.range n) with
  | nil => rfl
  | cons a l ih => simp [ih]

theorem conv_pack {ρ : Env} {P : Props} {xs : List String} {K : FExpr} {ws : List Val} {v : Val}
    (h1 : ConvL ρ P (xs.map FExpr.var) ws) (h2 : Conv (ρ.set "%t" (.tuple ws)) P K v) : Conv ρ P (pack xs K) v :=
  conv_let1 (conv_array h1) h2

theorem conv_unpack {ρ : Env} {P : Props} {C : Ctx} (hP : P.toCtx = .ok C) (xs : List String) (e K : FExpr)
    (g : String → Val) (w : Val) (hL : CtxLits C xs.length) (hT : ∀ x, x ∈ xs → isTmpL x = false)
    (hi : Conv ρ P e (.tuple (xs.map g)))
    (hK : ∀ ρ', (∀ y, isTmpL y = false → ρ'.get? y = if y ∈ xs then some (g y) else ρ.get? y) → Conv ρ' P K w) :
    Conv ρ P (unpack xs e K) w := by
  unfold unpack
  exact conv_bundle_many hP xs e K g w hL (fun x hx => isTmp_of_isTmpL (hT x hx)) hi
    (fun ρ' h => hK ρ' (fun y hy => h y (isTmp_of_isTmpL hy)))

/-- the loop of `(while c binds K)` from the environment `ρ` of an iteration -/
def ConvW (ρ : Env) (P : Props) (c : FExpr) (binds : List (String × FExpr × FExpr)) (K : FExpr) (v : Val) : Prop :=
  Ev (fun n => whileLoop n false ρ P c binds K) v

theorem convW_exit {ρ : Env} {P : Props} {c K : FExpr} {binds : List (String × FExpr × FExpr)} {v : Val}
    (hc : Conv ρ P c (.bool false)) (hK : Conv ρ P K v) : ConvW ρ P c binds K v :=
  Ev.step (fun n => whileLoop_succ n false ρ P c binds K) (Ev.bind hc hK)

theorem convW_step {ρ : Env} {P : Props} {c K U init : FExpr} {m : String} {w v : Val}
    (hc : Conv ρ P c (.bool true)) (hU : Conv ρ P U w) (hrest : ConvW (ρ.set m w) P c [(m, init, U)] K v) :
    ConvW ρ P c [(m, init, U)] K v :=
  Ev.step (fun n => whileLoop_succ n false ρ P c [(m, init, U)] K)
    (Ev.bind hc (Ev.bind (Ev.pure true) (Ev.bind (evBinds_one hU) hrest)))

theorem conv_while {ρ : Env} {P : Props} {c K U init : FExpr} {m : String} {w0 v : Val}
    (hi : Conv ρ P init w0) (hloop : ConvW (ρ.set m w0) P c [(m, init, U)] K v) :
    Conv ρ P (.while_ false c [(m, init, U)] K) v :=
  Ev.step (fun n => eval_while n ρ P false c [(m, init, U)] K) (Ev.bind (evBinds_one hi) hloop)

/-- the loop of a one-dimensional `for` over the remaining positions `poss` of the index `k` -/
def ConvF (ρ : Env) (P : Props) (k : String) (poss : List (List Nat)) (binds : List (String × FExpr × FExpr)) (K : FExpr) (v : Val) : Prop :=
  Ev (fun n => C12.forLoop n false ρ P [k] poss binds K) v

theorem convF_done {ρ : Env} {P : Props} {k : String} {binds : List (String × FExpr × FExpr)} {K : FExpr} {v : Val}
    (hK : Conv ρ P K v) : ConvF ρ P k [] binds K v :=
  Ev.step (fun n => forLoop_nil n false ρ P [k] binds K) hK

theorem convF_step {ρ : Env} {P : Props} {k m : String} {i : Nat} {more : List (List Nat)} {init U K : FExpr} {w v : Val}
    (hU : Conv (ρ.set k (intVal (Int.ofNat i))) P U w)
    (hrest : ConvF ((ρ.set k (intVal (Int.ofNat i))).set m w) P k more [(m, init, U)] K v) :
    ConvF ρ P k ([i] :: more) [(m, init, U)] K v :=
  Ev.step (fun n => forLoop_cons n false ρ P [k] [i] more [(m, init, U)] K) (Ev.bind (evBinds_one hU) hrest)

theorem evDims_one {ρ : Env} {P : Props} {k : String} {e : FExpr} {dv : Val} {n : Nat}
    (hd : Conv ρ P e dv) (hidx : asIndex dv = .ok n) : Ev (fun j => evalDims j ρ P [(k, e)]) [n] :=
  Ev.step (fun j => evalDims_cons j ρ P k e [])
    (Ev.bind hd (by rw [hidx]; exact Ev.bind (Ev.pure n) (Ev.bind (Ev.step (fun j => evalDims_nil j ρ P) (Ev.pure [])) (Ev.pure _))))

theorem conv_for {ρ : Env} {P : Props} {k m : String} {dimE init U K : FExpr} {dv w0 v : Val} {n : Nat}
    (hd : Conv ρ P dimE dv) (hidx : asIndex dv = .ok n) (hi : Conv ρ P init w0)
    (hloop : ConvF (ρ.set m w0) P k ((List.range n).map fun i => [i]) [(m, init, U)] K v) :
    Conv ρ P (.for_ false [(k, dimE)] [(m, init, U)] K) v :=
  Ev.step (fun j => eval_for j ρ P false [(k, dimE)] [(m, init, U)] K)
    (Ev.bind (evDims_one hd hidx) (Ev.bind (evBinds_one hi) (by rw [positions_one]; exact hloop)))

theorem tensorLoop_range (ρ : Env) (P : Props) (j : String) : ∀ (l : List Nat),
    Ev (fun f => tensorLoop f ρ P [j] (l.map fun i => [i]) (.var j)) (l.map fun (i : Nat) => intVal (Int.ofNat i))
  | [] => Ev.step (fun f => tensorLoop_nil f ρ P [j] (.var j)) (Ev.pure _)
  | a :: l => Ev.step (fun f => tensorLoop_cons f ρ P [j] [a] (l.map fun i => [i]) (.var j))
      (Ev.bind (conv_var (get?_set_self _ _ _)) (Ev.bind (tensorLoop_range ρ P j l) (Ev.pure _)))

/-- the list `range(n)` allocates -/
def rangeVals (n : Nat) : List Val := (List.range n).map fun (i : Nat) => intVal (Int.ofNat i)

/-- the iterable of `for x in range(round(n))` -/
theorem conv_range {ρ : Env} {P : Props} {C : Ctx} (hP : P.toCtx = .ok C) (n : Nat) (hL : CtxLits C (n + 1)) :
    Conv ρ P (.tensor [("%j", .num (.q (n : Int) 1))] (.var "%j")) (.tuple (rangeVals n)) := by
  obtain ⟨r, hr, hidx⟩ := hL n (by omega)
  exact Ev.step (fun f => eval_tensor f ρ P _ _)
    (Ev.bind (evDims_one (conv_num hP hr) hidx) (by
      rw [positions_one]
      exact Ev.bind (tensorLoop_range ρ P "%j" (List.range n)) (Ev.pure _)))

theorem conv_size0 {ρ : Env} {P : Props} {C : Ctx} (hP : P.toCtx = .ok C) (hL : CtxLits C 1) {a : FExpr} {vs : List Val}
    (ha : Conv ρ P a (.tuple vs)) : Conv ρ P (.size a (.num (.q 0 1))) (.num (.q (vs.length : Int) 1)) := by
  obtain ⟨r, hr, hidx⟩ := hL 0 (by omega)
  exact Ev.step (fun n => eval_size n ρ P a _) (Ev.bind ha (Ev.bind (conv_num hP hr) (by
    rw [hidx]; exact Ev.pure _)))

theorem conv_ref_var {ρ : Env} {P : Props} {it k : String} {vs : List Val} {i : Nat} {x : Val}
    (hit : ρ.get? it = some (.tuple vs)) (hk : ρ.get? k = some (intVal (Int.ofNat i))) (hx : vs[i]? = some x) :
    Conv ρ P (.ref (.var it) [.var k]) x :=
  conv_ref1 hit (conv_var hk) (asIndex_intVal i) hx

theorem mem_of_indexIn : ∀ (M : List String) (x : String) (i j : Nat), indexIn M x i = some j →
    ∃ k, j = k + i ∧ M[k]? = some x := by
  intro M
  induction M with
  | nil => intro x i j h; cases h
  | cons y ys ih =>
    intro x i j h
    rw [indexIn] at h
    split at h
    · next hxy =>
      cases h
      exact ⟨0, (Nat.zero_add i).symm, congrArg some (eq_of_beq hxy).symm⟩
    · obtain ⟨k, rfl, hk⟩ := ih x (i + 1) j h
      exact ⟨k + 1, (Nat.add_right_comm k 1 i).symm, hk⟩

theorem indexIn_eq_none : ∀ (M : List String) (x : String) (i : Nat), indexIn M x i = none ↔ x ∉ M := by
  intro M
  induction M with
  | nil => intro x i; simp [indexIn]
  | cons y ys ih =>
    intro x i
    simp only [indexIn, List.mem_cons, not_or]
    split
    · next hxy => simp [show x = y by simpa using hxy]
    · next hxy =>
      have hne : x ≠ y := by simpa using hxy
      rw [ih x (i + 1)]
      exact ⟨fun h => ⟨hne, h⟩, fun h => h.2⟩

/-- `ρ` represents `σ` on the names `S` while `M` is carried: the bundled variables live in `%t`, the others agree -/
def CarryRel (M S : List String) (ρ σ : Env) : Prop :=
  (isMany M = true → ρ.get? "%t" = some (.tuple (M.map (gv σ)))) ∧
  ∀ y, y ∈ S → isTmpL y = false → (isMany M = true → y ∉ M) → ρ.get? y = σ.get? y

theorem CarryRel.set_tmp {M S : List String} {ρ σ : Env} (hrel : CarryRel M S ρ σ) {t : String} (v : Val)
    (ht : isTmpL t = true) (hne : "%t" ≠ t) : CarryRel M S (ρ.set t v) σ := by
  refine ⟨fun hm => ?_, fun y hy hty hm => ?_⟩
  · rw [get?_set_ne hne]; exact hrel.1 hm
  · rw [get?_set_ne (fun e => by rw [e, ht] at hty; cases hty)]; exact hrel.2 y hy hty hm

theorem CarryRel.set_src {M S : List String} {ρ σ : Env} (hrel : CarryRel M S ρ σ) {x : String} (v : Val)
    (hxM : x ∉ M) (hne : "%t" ≠ x) : CarryRel M (x :: S) (ρ.set x v) (σ.set x v) := by
  refine ⟨fun hm => ?_, fun y hy ht hm => ?_⟩
  · have hmap : M.map (gv (σ.set x v)) = M.map (gv σ) :=
      List.map_congr_left fun y hy => by simp [gv, get?_set_ne fun (e : y = x) => hxM (e ▸ hy)]
    rw [get?_set_ne hne, hmap]
    exact hrel.1 hm
  · by_cases hyx : y = x
    · rw [hyx, get?_set_self, get?_set_self]
    · rw [get?_set_ne hyx, get?_set_ne hyx]
      exact hrel.2 y ((List.mem_cons.1 hy).resolve_left hyx) ht hm

theorem CarryRel.agree {M S : List String} {ρ σ : Env} (hrel : CarryRel M S ρ σ) :
    ∀ y, y ∈ S → isTmpL y = false → y ∉ M → ρ.get? y = σ.get? y := fun y hy ht hyM => hrel.2 y hy ht (fun _ => hyM)

/-- binding the carrier to the values `M` has in `σ'`: `ρ` need only agree with `σ` outside `M` (it may hold another
tuple in `%t`, as at the end of an `if/else`, which hands on more than it carried in) -/
theorem CarryRel.step {M S : List String} {ρ σ σ' : Env} {r0 : NV}
    (hagree : ∀ y, y ∈ S → isTmpL y = false → y ∉ M → ρ.get? y = σ.get? y) (hb' : Bound M σ')
    (hkeep : ∀ y, y ∈ S → isTmpL y = false → y ∉ M → σ'.get? y = σ.get? y) :
    CarryRel M S (ρ.set (carrier M) (carried M σ' r0)) σ' := by
  match M with
  | [] =>
    refine ⟨fun h => by simp [isMany_nil] at h, fun y hy ht hm => ?_⟩
    simp only [carrier]
    rw [get?_set_ne (isTmpL_ne ht).2.2.2.2, hkeep y hy ht (by simp)]
    exact hagree y hy ht (by simp)
  | [x] =>
    refine ⟨fun h => by simp [isMany_one] at h, fun y hy ht hm => ?_⟩
    obtain ⟨w, hw⟩ := hb' x (by simp)
    simp only [carrier, carried, gv_of_get hw]
    rw [Fpy.Xform.Env.get?_set]
    split
    · next hyx => subst hyx; exact hw.symm
    · next hyx =>
      rw [hkeep y hy ht (by simpa using hyx)]
      exact hagree y hy ht (by simpa using hyx)
  | x :: x2 :: rest =>
    refine ⟨fun _ => get?_set_self _ _ _, fun y hy ht hm => ?_⟩
    simp only [carrier]
    have hyM := hm (isMany_cons2 _ _ _)
    rw [get?_set_ne (isTmpL_ne ht).1, hkeep y hy ht hyM]
    exact hagree y hy ht hyM

theorem CarryRel.set_carrier {M S : List String} {ρ σ : Env} {r0 : NV} (hrel : CarryRel M S ρ σ) (hb : Bound M σ) :
    CarryRel M S (ρ.set (carrier M) (carried M σ r0)) σ :=
  CarryRel.step hrel.agree hb (fun _ _ _ _ => rfl)

section
variable {P : Props} {C : Ctx} (hP : P.toCtx = .ok C)
include hP

theorem conv_carryInit {M S : List String} {ρ σ : Env} {r0 : NV} (hrel : CarryRel M S ρ σ)
    (hr0 : opEval C .round [cvtReal (.q 0 1)] = .ok r0)
    (hMS : ∀ x, x ∈ M → x ∈ S) (hMT : ∀ x, x ∈ M → isTmpL x = false) (hb : Bound M σ) :
    Conv ρ P (carryInit M) (carried M σ r0) := by
  match M with
  | [] => exact conv_num hP hr0
  | [x] =>
    obtain ⟨w, hw⟩ := hb x (by simp)
    simp only [carryInit, carried, gv_of_get hw]
    exact conv_var (by rw [hrel.2 x (hMS x (by simp)) (hMT x (by simp)) (by simp [isMany_one])]; exact hw)
  | x :: x2 :: rest =>
    exact conv_var (hrel.1 (isMany_cons2 _ _ _))

theorem conv_carryRet {M : List String} {ρ' σ' : Env} {r0 : NV}
    (hr0 : opEval C .round [cvtReal (.q 0 1)] = .ok r0)
    (hA : AgreeL (fvF (carryRet M)) ρ' σ') (hMT : ∀ x, x ∈ M → isTmpL x = false) (hb : Bound M σ') :
    Conv ρ' P (carryRet M) (carried M σ' r0) := by
  match M with
  | [] => exact conv_num hP hr0
  | [x] =>
    obtain ⟨w, hw⟩ := hb x (by simp)
    simp only [carryRet, carried, gv_of_get hw]
    exact conv_var (by rw [hA x ((fv_var x x).2 rfl) (hMT x (by simp))]; exact hw)
  | x :: x2 :: rest =>
    exact conv_pack (convL_vars P σ' ρ' _ (fun y hy => hA y ((fv_repack _ y (hMT y hy)).2 hy) (hMT y hy)) hb)
      (conv_var (get?_set_self _ _ _))

theorem conv_carryIn {M S : List String} {ρ σ : Env} {B : FExpr} {w : Val} (hrel : CarryRel M S ρ σ)
    (hL : CtxLits C M.length) (hMT : ∀ x, x ∈ M → isTmpL x = false) (hb : Bound M σ)
    (hB : ∀ ρ2, AgreeL S ρ2 σ → Conv ρ2 P B w) : Conv ρ P (carryIn M B) w := by
  unfold carryIn
  by_cases hm : isMany M = true
  · rw [if_pos hm]
    refine conv_unpack hP M (.var "%t") B (gv σ) w hL hMT (conv_var (hrel.1 hm)) (fun ρ' hρ' => hB ρ' ?_)
    intro y hy ht
    rw [hρ' y ht]
    by_cases hyM : y ∈ M
    · obtain ⟨w', hw'⟩ := hb y hyM
      simp [hyM, gv_of_get hw', hw']
    · simp only [hyM, if_false]
      exact hrel.agree y hy ht hyM
  · rw [if_neg hm]
    exact hB ρ (fun y hy ht => hrel.2 y hy ht (fun h => absurd h hm))

theorem conv_carryCond (Φ : Funs) {M S : List String} {ρ σ : Env} {c : LExpr} {cv : Val} {μ μ' : Heap} {f : Nat}
    (hrel : CarryRel M S ρ σ) (hLi : LitsP (P.update intProps) M.length)
    (hcS : ∀ x, x ∈ c.vars → x ∈ S) (hcT : ∀ x, x ∈ c.vars → isTmpL x = false)
    (hev : evalE Φ f σ μ C c.toLang = .ok (cv, μ')) : Conv ρ P (carryCond M c) cv := by
  have hE := (lexpr_sound Φ f c σ μ C cv μ' hev).2
  unfold carryCond
  by_cases hm : isMany M = true
  · rw [if_pos hm]
    refine hE ρ P (subIdx M) hP (fun x hx w hw => ?_)
    unfold subIdx
    cases hi : indexIn M x 0 with
    | none =>
      simp only
      have hxM := (indexIn_eq_none M x 0).1 hi
      exact conv_var (by rw [hrel.agree x (hcS x hx) (hcT x hx) hxM]; exact hw)
    | some i =>
      simp only
      obtain ⟨k, (rfl : i = k), hMi⟩ := mem_of_indexIn M x 0 i hi
      obtain ⟨Ci, hCi, hLits⟩ := hLi
      obtain ⟨hlt, _⟩ := List.getElem?_eq_some_iff.1 hMi
      obtain ⟨r, hr, hidx⟩ := hLits i hlt
      have htup : (M.map (gv σ))[i]? = some w := by
        rw [List.getElem?_map, hMi]; simp [gv_of_get hw]
      exact conv_ref1 (hrel.1 hm) (conv_ann (conv_num hCi hr)) hidx htup
  · rw [if_neg hm]
    exact hE ρ P FExpr.var hP (fun x hx w hw =>
      conv_var (by rw [hrel.2 x (hcS x hx) (hcT x hx) (fun h => absurd h hm)]; exact hw))

end

theorem conv_carryOut {P : Props} {M S : List String} {ρ σ : Env} {E : FExpr} {v : Val}
    (hA : AgreeL S ρ σ) (hMS : ∀ x, x ∈ M → x ∈ S)
    (hMT : ∀ x, x ∈ M → isTmpL x = false) (hb : Bound M σ)
    (hE : ∀ ρ1, CarryRel M S ρ1 σ → Conv ρ1 P E v) : Conv ρ P (carryOut M E) v := by
  unfold carryOut
  by_cases hm : isMany M = true
  · rw [if_pos hm]
    refine conv_pack (convL_vars P σ ρ M (fun y hy => hA y (hMS y hy) (hMT y hy)) hb) (hE _ ⟨fun _ => get?_set_self _ _ _, ?_⟩)
    intro y hy ht _
    rw [get?_set_ne (isTmpL_ne ht).1]
    exact hA y hy ht
  · rw [if_neg hm]
    exact hE ρ ⟨fun h => absurd h hm, fun y hy ht _ => hA y hy ht⟩

theorem length_sortNames_filter_le (p : String → Bool) (l : List String) : (sortNames (l.filter p)).length ≤ l.length :=
  Nat.le_trans (length_sortNames_le _) (List.length_filter_le _ _)

theorem length_mutatedOf_le (G : List String) (ss : List LStmt) : (mutatedOf G ss).length ≤ (LStmt.asgL ss).length :=
  length_sortNames_filter_le _ _

theorem length_passedL_le (G : List String) (body : List LStmt) (K : FExpr) :
    (passedL G body K).length ≤ (LStmt.asgL body).length :=
  length_sortNames_filter_le _ _

theorem length_mutsIf_le (G : List String) (t f : List LStmt) :
    (mutsIf G t f).length ≤ (LStmt.asgL t).length + (LStmt.asgL f).length := by
  unfold mutsIf
  have := length_mutatedOf_le G (t ++ f)
  rw [asgL_append, List.length_append] at this
  exact this

theorem length_introsIf_le (G : List String) (t f : List LStmt) : (introsIf G t f).length ≤ (LStmt.gammaL G t).length :=
  Nat.le_trans (length_sortNames_filter_le _ _) (List.length_filter_le _ _)

theorem LitsP.ctx {P : Props} {C : Ctx} {n : Nat} (h : LitsP P n) (hP : P.toCtx = .ok C) : CtxLits C n := by
  obtain ⟨C', hC', hL⟩ := h
  rw [hP] at hC'
  cases hC'
  exact hL

theorem LitsP.mono {P : Props} {n m : Nat} (h : LitsP P n) (hm : m ≤ n) : LitsP P m := by
  obtain ⟨C', hC', hL⟩ := h
  exact ⟨C', hC', hL.mono hm⟩

theorem LitsOK.mono {P : Props} {n m : Nat} (h : LitsOK P n) (hm : m ≤ n) : LitsOK P m := ⟨h.1.mono hm, h.2.mono hm⟩

theorem fv_carryCond_rev (M : List String) (c : LExpr) (y : String) (hy : y ∈ c.vars) (hM : isMany M = true → y ∉ M) :
    y ∈ fvF (carryCond M c) := by
  unfold carryCond
  by_cases hm : isMany M = true
  · rw [if_pos hm]
    refine (fvF_toFsub_iff (subIdx M) c y).2 ⟨y, hy, ?_⟩
    unfold subIdx
    rw [(indexIn_eq_none M y 0).2 (hM hm)]
    exact (fv_var y y).2 rfl
  · rw [if_neg hm]
    exact vars_sub_fvF c y hy

theorem fv_carryIn_rev (M : List String) (B : FExpr) (y : String) (ht : isTmpL y = false) (hy : y ∈ fvF B)
    (hM : isMany M = true → y ∉ M) : y ∈ fvF (carryIn M B) := by
  unfold carryIn
  by_cases hm : isMany M = true
  · rw [if_pos hm]
    exact (fv_unpack M (.var "%t") B y ht).2 (Or.inr ⟨hy, hM hm⟩)
  · rw [if_neg hm]; exact hy

theorem fv_carryOut_rev (M : List String) (E : FExpr) (y : String) (ht : isTmpL y = false)
    (hy : (isMany M = true ∧ y ∈ M) ∨ y ∈ fvF E) : y ∈ fvF (carryOut M E) := by
  unfold carryOut
  by_cases hm : isMany M = true
  · rw [if_pos hm]
    rcases hy with h | h
    · exact (fv_pack M E y).2 (Or.inl h.2)
    · exact (fv_pack M E y).2 (Or.inr ⟨h, (isTmpL_ne ht).1⟩)
  · rw [if_neg hm]
    rcases hy with h | h
    · exact absurd h.1 hm
    · exact h

/-- Every name of `M`, of the condition `c`, of the compiled body `B` and of the continuation `k` (compiler temporaries aside) is
free in `carryOut M E`, for any `E` in which `carryInit M` is free (`hinit`) and so are `carryCond M c`, `carryIn M B` and
`carryIn M k` except for the name `carrier M`, which `E` binds (`hrest`): the `while`, one-armed `if` and `for` shapes are such `E`.
With it the hypothesis `AgreeL (fvF E)` of `StmtSim` gives agreement on the names `S` of `LoopCtx`. -/
theorem fv_carried (M : List String) (c : LExpr) (B k E : FExpr) (y : String) (ht : isTmpL y = false)
    (hinit : y ∈ fvF (carryInit M) → y ∈ fvF E)
    (hrest : y ≠ carrier M → y ∈ fvF (carryCond M c) ∨ y ∈ fvF (carryIn M B) ∨ y ∈ fvF (carryIn M k) → y ∈ fvF E)
    (hy : y ∈ M ∨ y ∈ c.vars ∨ y ∈ fvF B ∨ y ∈ fvF k) : y ∈ fvF (carryOut M E) := by
  obtain ⟨h1, _, _, _, h5⟩ := isTmpL_ne ht
  have gen : (isMany M = true → y ∉ M) → y ≠ carrier M → (y ∈ c.vars ∨ y ∈ fvF B ∨ y ∈ fvF k) →
      y ∈ fvF (carryOut M E) := by
    intro hM hne h
    refine fv_carryOut_rev M E y ht (Or.inr (hrest hne ?_))
    rcases h with h | h | h
    · exact Or.inl (fv_carryCond_rev M c y h hM)
    · exact Or.inr (Or.inl (fv_carryIn_rev M B y ht h hM))
    · exact Or.inr (Or.inr (fv_carryIn_rev M k y ht h hM))
  rcases M with _ | ⟨x, _ | ⟨x2, rest⟩⟩
  · exact gen (by simp [isMany_nil]) h5 (hy.resolve_left (by simp))
  · by_cases hyx : y = x
    · exact fv_carryOut_rev _ E y ht (Or.inr (hinit ((fv_var x y).2 hyx)))
    · exact gen (by simp [isMany_one]) hyx (hy.resolve_left (by simpa using hyx))
  · by_cases hyM : y ∈ x :: x2 :: rest
    · exact fv_carryOut_rev _ E y ht (Or.inl ⟨isMany_cons2 _ _ _, hyM⟩)
    · exact gen (fun _ => hyM) h1 (hy.resolve_left hyM)

end Fpy.C12
