/-
Helper lemmas for C14: membership in an abstract format in terms of scaled integers, and the
soundness of the bound / precision computations of `AbstractFormat`'s operators.

Everything is read at one scale `g` below every exponent in sight (`AbsFmt.lvl`): a finite value `x` becomes the
integer `x.sc g`, and a bound becomes an extended integer seen from its side: `Bnd.side s` is "within an upper bound"
for `s = false` and "within a lower bound" for `s = true`, with `X` negated there so that "within" always reads `≤`.
The order of two bounds `Bnd.leS s`, the test of `max`/`min` `Bnd.beyond s` and their result `Bnd.outer s` take the
side too, so each fact about bounds is stated once.  A member of a format becomes `AbsFmt.MemAt a g X`.  The operators
are then statements about integers; the `RealFloat`s come back in only through `memAt_of_finMem` / `MemAt.finMem`.
Last, the executable `Writable` test against the Spec's, and what `round` does to a writable value.
-/
import Fpy.Proof.Exact
namespace Fpy
open RF

/-- `X` seen from side `s` (`true` = from below): negated there, so that "within the bound" reads
`≤` on both sides -/
def toSide (s : Bool) (X : Int) : Int := if s then -X else X

theorem toSide_zero (s : Bool) : toSide s 0 = 0 := by cases s <;> rfl

theorem toSide_add (s : Bool) (X Y : Int) : toSide s (X + Y) = toSide s X + toSide s Y := by
  cases s
  · rfl
  · exact Int.neg_add

theorem toSide_not (s : Bool) (X : Int) : toSide (!s) X = -toSide s X := by
  cases s
  · rfl
  · exact (Int.neg_neg X).symm

theorem toSide_mul (s t : Bool) (X Y : Int) : toSide (s != t) (X * Y) = toSide s X * toSide t Y := by
  cases s <;> cases t
  · rfl
  · exact (Int.mul_neg X Y).symm
  · exact (Int.neg_mul X Y).symm
  · exact (Int.neg_mul_neg X Y).symm

theorem toSide_nonneg (X : Int) : ∃ s, 0 ≤ toSide s X := by
  by_cases h : X < 0
  · exact ⟨true, show 0 ≤ -X by omega⟩
  · exact ⟨false, show 0 ≤ X by omega⟩

namespace RF

theorem s_eq_of_toSide_nonneg {x : RF} {g : Int} {s : Bool} (hc : x.c ≠ 0) (h : 0 ≤ toSide s (x.sc g)) : x.s = s := by
  cases s <;> cases hs : x.s <;> try rfl
  · exact absurd (sc_neg x g hc hs) (Int.not_lt.2 h)
  · have := sc_pos x g hc hs
    have h' : 0 ≤ -x.sc g := h
    omega

end RF

namespace Bnd

/-- a finite bound is whole at the scale `g` (`RF.okAt`); an infinite one asks nothing -/
def okAt (b : Bnd) (g : Int) : Prop :=
  match b with | fin p => p.okAt g | _ => True

/-- the exponent a bound contributes to `AbsFmt.lvl`: at a scale `g ≤ b.lvl` the bound is whole (`okAt_of_le_lvl`).
An infinite bound asks nothing of the scale, and `0` stands for that (any value would do, scales only have to be
small enough); likewise `olvl` for an exponent `-∞` -/
def lvl : Bnd → Int | fin p => p.exp | _ => 0

theorem okAt_of_le_lvl (b : Bnd) (g : Int) (h : g ≤ b.lvl) : b.okAt g := by
  cases b
  · exact Or.inr h
  all_goals trivial

def ub (b : Bnd) (g : Int) (X : Int) : Prop :=
  match b with | fin p => X ≤ p.sc g | inf s => s = false | nan => False

def lb (b : Bnd) (g : Int) (X : Int) : Prop :=
  match b with | fin n => n.sc g ≤ X | inf s => s = true | nan => False

theorem ub_mono {b : Bnd} {g : Int} {X Y : Int} (h : b.ub g X) (hxy : Y ≤ X) : b.ub g Y := by
  cases b
  · exact Int.le_trans hxy h
  all_goals exact h

theorem lb_mono {b : Bnd} {g : Int} {X Y : Int} (h : b.lb g X) (hxy : X ≤ Y) : b.lb g Y := by
  cases b
  · exact Int.le_trans h hxy
  all_goals exact h

/-- `X` is within the bound `b` taken as the bound of side `s`: `X ≤ b` for an upper bound (`s = false`), `b ≤ X`,
both negated, for a lower one (`s = true`) -/
def side (s : Bool) (b : Bnd) (g : Int) (X : Int) : Prop :=
  match b with | fin p => toSide s X ≤ toSide s (p.sc g) | inf t => t = s | nan => False

theorem side_ne_nan {s : Bool} {b : Bnd} {g X : Int} (h : b.side s g X) : b ≠ .nan := by
  intro h0; rw [h0] at h; exact h

theorem side_mono {s : Bool} {b : Bnd} {g X Y : Int} (h : b.side s g X) (hxy : toSide s Y ≤ toSide s X) :
    b.side s g Y := by
  cases b
  · exact Int.le_trans hxy h
  all_goals exact h

theorem above_iff (b : Bnd) (x : RF) (g : Int) (hb : b.okAt g) (hx : x.okAt g) :
    b.above x ↔ b.side false g (x.sc g) := by
  cases b with
  | fin p => exact leV_iff x p g hx hb
  | inf s => exact Iff.rfl
  | nan => exact Iff.rfl

theorem below_iff (b : Bnd) (x : RF) (g : Int) (hb : b.okAt g) (hx : x.okAt g) :
    b.below x ↔ b.side true g (x.sc g) := by
  cases b with
  | fin p => exact (leV_iff p x g hb hx).trans Int.neg_le_neg_iff.symm
  | inf s => exact Iff.rfl
  | nan => exact Iff.rfl

theorem fin_zero_side {s : Bool} {g Z : Int} (h : toSide s Z ≤ 0) : (Bnd.fin (RF.ofInt 0)).side s g Z := by
  show toSide s Z ≤ toSide s ((RF.ofInt 0).sc g)
  rw [ofInt_zero_sc, toSide_zero]; exact h

theorem add_side {s : Bool} {u v : Bnd} {g X Y : Int} (hu : u.okAt g) (hv : v.okAt g)
    (h1 : u.side s g X) (h2 : v.side s g Y) : (u.add v).okAt g ∧ (u.add v).side s g (X + Y) := by
  cases u with
  | nan => exact h1.elim
  | fin p =>
    cases v with
    | nan => exact h2.elim
    | inf t => exact ⟨trivial, h2⟩
    | fin q =>
      have := add_sc p q g hu hv
      refine ⟨this.1, ?_⟩
      show toSide s (X + Y) ≤ toSide s ((p.add q).sc g)
      rw [this.2, toSide_add, toSide_add]
      exact Int.add_le_add h1 h2
  | inf a =>
    cases v with
    | nan => exact h2.elim
    | fin q => exact ⟨trivial, h1⟩
    | inf b =>
      cases h1; cases h2
      cases s <;> exact ⟨trivial, rfl⟩

theorem neg_okAt {b : Bnd} {g : Int} (h : b.okAt g) : b.neg.okAt g := by
  cases b <;> exact h

theorem neg_side {s : Bool} {b : Bnd} {g X : Int} (h : b.side (!s) g X) : b.neg.side s g (-X) := by
  cases b with
  | fin p =>
    have h : toSide (!s) X ≤ toSide (!s) (p.sc g) := h
    show toSide s (-X) ≤ toSide s (p.neg.sc g)
    rw [neg_sc]
    cases s
    · exact h
    · exact Int.neg_le_neg (Int.neg_le_neg h)
  | inf t => exact (congrArg (!·) h).trans (Bool.not_not s)
  | nan => exact h

theorem abs_okAt {b : Bnd} {g : Int} (h : b.okAt g) : b.abs.okAt g := by
  cases b <;> exact h

theorem abs_isFloat (b : Bnd) : b.abs.isFloat = b.isFloat := by cases b <;> rfl

theorem abs_side_neg {b : Bnd} {g X : Int} (h : b.side true g X) : b.abs.side false g (-X) := by
  cases b with
  | nan => exact h.elim
  | inf s => rfl
  | fin n =>
    have h : -X ≤ -n.sc g := h
    show -X ≤ n.abs.sc g
    have := abs_sc_ge n g; omega

/-- `v` is at least as far out as `u`, seen from side `s`: `u ≤ v` above, `v ≤ u` below -/
def leS (s : Bool) (g : Int) (u v : Bnd) : Prop :=
  match u, v with
  | fin p, fin q => toSide s (p.sc g) ≤ toSide s (q.sc g)
  | fin _, inf t => t = s
  | inf a, fin _ => a = !s
  | inf a, inf t => a = !s ∨ t = s
  | _, _ => False

theorem leS.side {s : Bool} {g : Int} {u v : Bnd} (h : u.leS s g v) {X : Int} (hx : u.side s g X) : v.side s g X := by
  cases u with
  | nan => exact hx.elim
  | fin p =>
    cases v with
    | nan => exact h
    | fin q => exact Int.le_trans hx h
    | inf t => exact h
  | inf a =>
    cases hx
    cases v with
    | nan => exact h
    | fin q => cases s <;> cases h
    | inf t => exact h.resolve_left (by cases s <;> decide)

theorem leS_flip {s : Bool} {g : Int} {u v : Bnd} (h : u.leS (!s) g v) : v.leS s g u := by
  cases u with
  | nan => exact h.elim
  | fin p =>
    cases v with
    | nan => exact h
    | fin q =>
      have h : toSide (!s) (p.sc g) ≤ toSide (!s) (q.sc g) := h
      rw [toSide_not, toSide_not] at h
      exact Int.neg_le_neg_iff.1 h
    | inf t => exact h
  | inf a =>
    cases v with
    | nan => exact h
    | fin q => exact h.trans (Bool.not_not s)
    | inf t => exact h.symm.imp id (·.trans (Bool.not_not s))

theorem cmp_spec {u v : Bnd} {g : Int} (hu : u.okAt g) (hv : v.okAt g) (hun : u ≠ .nan) (hvn : v ≠ .nan) :
    ∃ o, Bnd.cmp u v = some o ∧ (o ≠ .gt → u.leS false g v) ∧ (o ≠ .lt → v.leS false g u) := by
  cases u with
  | nan => exact absurd rfl hun
  | fin p =>
    cases v with
    | nan => exact absurd rfl hvn
    | fin q =>
      refine ⟨_, rfl, fun h => Int.not_lt.1 fun c => h ?_, fun h => Int.not_lt.1 fun c => h ?_⟩ <;>
        rw [compare_spec p q g hu hv]
      · exact Int.compare_eq_gt.2 c
      · exact Int.compare_eq_lt.2 c
    | inf t => cases t <;> simp [Bnd.cmp, leS]
  | inf s =>
    cases v with
    | nan => exact absurd rfl hvn
    | fin q => cases s <;> simp [Bnd.cmp, leS]
    | inf t => cases s <;> cases t <;> simp [Bnd.cmp, leS]

/-- is `v` strictly further out than `u` on side `s`?  `v > u` above, `v < u` below: the tests of Python's `max`, `min` -/
def beyond (s : Bool) (v u : Bnd) : Bool := cond s (Bnd.lt v u) (Bnd.gt v u)

theorem beyond_spec {s : Bool} {u v : Bnd} {g : Int} (hu : u.okAt g) (hv : v.okAt g) (hun : u ≠ .nan) (hvn : v ≠ .nan) :
    if beyond s v u then u.leS s g v else v.leS s g u := by
  obtain ⟨o, ho, h1, h2⟩ := cmp_spec hv hu hvn hun
  cases s <;> simp only [beyond, cond, Bnd.gt, Bnd.lt, ho]
  · cases o
    · exact h1 (by decide)
    · exact h1 (by decide)
    · exact h2 (by decide)
  · cases o
    · exact leS_flip (s := true) (h1 (by decide))
    · exact leS_flip (s := true) (h2 (by decide))
    · exact leS_flip (s := true) (h2 (by decide))

theorem leS_of_not_beyond {s : Bool} {u v : Bnd} {g : Int} (hu : u.okAt g) (hv : v.okAt g) (hun : u ≠ .nan)
    (hvn : v ≠ .nan) (h : beyond s v u = false) : v.leS s g u := by
  have := beyond_spec (s := s) (g := g) hu hv hun hvn
  rwa [h, if_neg (by decide)] at this

theorem beyond_nan_left (s : Bool) (u : Bnd) : beyond s .nan u = false := by cases s <;> cases u <;> rfl

/-- the outermost of two bounds on side `s`: Python's `max(u, v)` above, `min(u, v)` below -/
def outer (s : Bool) (u v : Bnd) : Bnd := cond s (u.min2 v) (u.max2 v)

theorem outer_eq (s : Bool) (u v : Bnd) : outer s u v = if beyond s v u then v else u := by cases s <;> rfl

theorem outer_okAt {s : Bool} {u v : Bnd} {g : Int} (hu : u.okAt g) (hv : v.okAt g) : (outer s u v).okAt g := by
  rw [outer_eq]; split <;> assumption

/-- a `nan` in second place is dropped (`nan > u` is `False`); one in first place would be kept: `hn` -/
theorem outer_side {s : Bool} {u v : Bnd} {g X : Int} (hu : u.okAt g) (hv : v.okAt g) (hn : u ≠ .nan)
    (h : u.side s g X ∨ v.side s g X) : (outer s u v).side s g X := by
  rw [outer_eq]
  by_cases hvn : v = .nan
  · subst hvn
    rw [beyond_nan_left, if_neg (by decide)]
    exact h.resolve_right id
  · have := beyond_spec (s := s) (g := g) hu hv hn hvn
    split <;> rename_i hb
    · rw [if_pos hb] at this; exact h.elim this.side id
    · rw [if_neg hb] at this; exact h.elim id this.side

end Bnd

/-- `X`, in units of `2^g`, is a multiple of `2^E` -/
def IMul (E g : Int) (X : Int) : Prop := ∃ k : Int, X = k * 2 ^ (E - g).toNat

/-- integer form of `Writable` -/
def IW (prec : Option Nat) (exp : Option Int) (g : Int) (X : Int) : Prop :=
  ∃ (m : Nat) (e : Int), g ≤ e ∧ X.natAbs = m * 2 ^ (e - g).toNat ∧
    (∀ p, prec = some p → m < 2 ^ p) ∧ (∀ E, exp = some E → E ≤ e)

theorem two_pow_add {a b g h : Int} (hg : g ≤ a) (hh : h ≤ b) :
    (2 : Nat) ^ (a + b - (g + h)).toNat = 2 ^ (a - g).toNat * 2 ^ (b - h).toNat := by
  rw [← Nat.pow_add, ← Int.toNat_add (Int.sub_nonneg_of_le hg) (Int.sub_nonneg_of_le hh)]
  congr 2; omega

theorem IMul_add {E g : Int} {X Y : Int} (h1 : IMul E g X) (h2 : IMul E g Y) : IMul E g (X + Y) := by
  obtain ⟨k1, rfl⟩ := h1; obtain ⟨k2, rfl⟩ := h2
  exact ⟨k1 + k2, (Int.add_mul ..).symm⟩

theorem IMul_weaken {E E' g : Int} {X : Int} (h : IMul E g X) (hg : g ≤ E') (hE : E' ≤ E) : IMul E' g X := by
  obtain ⟨k, rfl⟩ := h
  refine ⟨k * 2 ^ (E - E').toNat, ?_⟩
  have := congrArg (Nat.cast (R := Int)) (two_pow_split hg hE)
  rw [Int.natCast_mul, Int.natCast_pow, Int.natCast_pow, Int.natCast_pow] at this
  rw [Int.mul_assoc]; exact congrArg (k * ·) this

theorem IW_IMul {prec : Option Nat} {E g : Int} {X : Int} (h : IW prec (some E) g X) (hg : g ≤ E) : IMul E g X := by
  obtain ⟨m, e, hge, hm, _, hE⟩ := h
  rw [two_pow_split hg (hE E rfl), ← Nat.mul_assoc] at hm
  have hc : ((X.natAbs : Nat) : Int) = ((m * 2 ^ (e - E).toNat : Nat) : Int) * 2 ^ (E - g).toNat := by
    rw [hm, Int.natCast_mul _ (2 ^ _), Int.natCast_pow]; rfl
  rcases Int.natAbs_eq X with hX | hX
  · exact ⟨_, hX.trans hc⟩
  · exact ⟨-_, hX.trans (by rw [hc, Int.neg_mul])⟩

theorem writable_iff (a : AbsFmt) (x : RF) (g : Int) (hg : g ≤ x.exp) :
    a.Writable x ↔ IW a.prec a.exp g (x.sc g) := by
  constructor
  · rintro ⟨w, hwx, hws, hp, hE⟩
    by_cases hwg : g ≤ w.exp
    · refine ⟨w.c, w.exp, hwg, ?_, hp, hE⟩
      have := (eqV_iff w x g (Or.inr hwg) (Or.inr hg)).1 hwx
      rw [← this, natAbs_sc]; rfl
    · -- the witness sits below the scale: then `x`'s own digits are a witness
      have hle : x.c ≤ w.c := by
        rw [← natAbs_sc_self w, (eqV_iff w x w.exp (okAt_self w) (Or.inr (by omega))).1 hwx, natAbs_sc]
        exact Nat.le_mul_of_pos_right _ (Nat.pow_pos (by decide))
      refine ⟨x.c, x.exp, hg, natAbs_sc x g, fun p hpp => Nat.lt_of_le_of_lt hle (hp p hpp), fun E hEE => ?_⟩
      have := hE E hEE; omega
  · rintro ⟨m, e, hge, hm, hp, hE⟩
    refine ⟨⟨x.s, e, m⟩, ?_, rfl, hp, hE⟩
    rw [eqV_iff _ x g (Or.inr hge) (Or.inr hg)]
    rw [natAbs_sc] at hm
    rw [sc_eq_mag, sc_eq_mag]
    simp only [mag] at hm ⊢
    rw [hm]

theorem natAbs_le_of_mul_le {k : Int} {C : Nat} {U : Int} (hU : 0 < U) (h : (k * U).natAbs ≤ (C * U).natAbs) :
    k.natAbs ≤ C := by
  rw [Int.natAbs_mul, Int.natAbs_mul] at h
  have hU' : 0 < U.natAbs := by omega
  have := Nat.le_of_mul_le_mul_right h hU'
  simpa using this

theorem IW_free (g X : Int) : IW none none g X :=
  ⟨X.natAbs, g, Int.le_refl _, by simp, nofun, nofun⟩

theorem IW_zero (prec : Option Nat) (exp : Option Int) (g : Int) : IW prec exp g 0 := by
  cases exp with
  | none => exact ⟨0, g, Int.le_refl _, (Nat.zero_mul _).symm, fun _ _ => Nat.pow_pos (by decide), nofun⟩
  | some E =>
    exact ⟨0, max g E, Int.le_max_left .., (Nat.zero_mul _).symm, fun _ _ => Nat.pow_pos (by decide),
      fun E' h => by cases h; exact Int.le_max_right ..⟩

theorem natAbs_mul_pow (k : Int) (n : Nat) : (k * 2 ^ n).natAbs = k.natAbs * 2 ^ n := by
  rw [Int.natAbs_mul, Int.natAbs_pow]; rfl

theorem IW_of_mul (prec : Option Nat) (E g X k : Int) (hg : g ≤ E) (hk : X = k * 2 ^ (E - g).toNat)
    (hp : ∀ p, prec = some p → k.natAbs < 2 ^ p) : IW prec (some E) g X :=
  ⟨k.natAbs, E, hg, by rw [hk, natAbs_mul_pow], hp, fun E' h => by cases h; exact Int.le_refl _⟩

/-- a multiple of `2^E` no larger in magnitude than `B` is writable with the digits `B` has once
normalised to exponent `E` (`normalize(n = E - 1)`) -/
theorem IW_of_normalize {B y : RF} {E g X : Int} {n : Nat} (hy : B.normalize none (some (E - 1)) = some y)
    (hB : B.okAt g) (hg : g ≤ E) (hX : IMul E g X) (h1 : X ≤ B.sc g) (h2 : -X ≤ B.sc g)
    (hn : bitLength y.c ≤ n) : IW (some n) (some E) g X := by
  obtain ⟨k, hk⟩ := hX
  refine IW_of_mul _ E g X k hg hk fun p hp => ?_
  cases hp
  have hnorm := normalize_sc B y E hy g hB hg
  have hmag : X.natAbs ≤ (y.sc g).natAbs := by rw [hnorm.2.2]; omega
  rw [natAbs_sc, mag, hnorm.1, hk, natAbs_mul_pow] at hmag
  exact (bitLength_le_iff _ _).1 (Nat.le_trans
    (bitLength_le_of_le (Nat.le_of_mul_le_mul_right hmag (Nat.pow_pos (by decide)))) hn)

theorem IW_neg {prec : Option Nat} {exp : Option Int} {g X : Int} (h : IW prec exp g X) : IW prec exp g (-X) := by
  obtain ⟨m, e, h1, h2, h3, h4⟩ := h
  exact ⟨m, e, h1, by rw [Int.natAbs_neg]; exact h2, h3, h4⟩

/-- `p ≤ p'` on optional precisions, `none` being `+∞` -/
def PrecLe (p p' : Option Nat) : Prop := ∀ q', p' = some q' → ∃ q, p = some q ∧ q ≤ q'

/-- `E' ≤ E` on optional least exponents, `none` being `-∞` -/
def ExpLe (E' E : Option Int) : Prop := ∀ e', E' = some e' → ∃ e, E = some e ∧ e' ≤ e

theorem PrecLe.refl (p : Option Nat) : PrecLe p p := fun q' hq' => ⟨q', hq', Nat.le_refl _⟩

theorem IW_weaken {p p' : Option Nat} {E E' : Option Int} {g X : Int} (h : IW p E g X)
    (hp : PrecLe p p') (hE : ExpLe E' E) : IW p' E' g X := by
  obtain ⟨m, e, h1, h2, h3, h4⟩ := h
  refine ⟨m, e, h1, h2, fun q' hq' => ?_, fun e' he' => ?_⟩
  · obtain ⟨q, hq, hle⟩ := hp q' hq'
    exact Nat.lt_of_lt_of_le (h3 q hq) (Nat.pow_le_pow_right (by decide) hle)
  · obtain ⟨e0, he0, hle⟩ := hE e' he'
    have := h4 e0 he0; omega

theorem IW_exp_none_of_mul (prec : Option Nat) (E g X k : Int) (hg : g ≤ E) (hk : X = k * 2 ^ (E - g).toNat)
    (hp : ∀ p, prec = some p → k.natAbs < 2 ^ p) : IW prec none g X :=
  IW_weaken (IW_of_mul prec E g X k hg hk hp) (PrecLe.refl _) nofun

def olvl : Option Int → Int | some e => e | none => 0

namespace AbsFmt

/-- the bound of side `s`: `neg_bound` below, `pos_bound` above -/
def bnd (a : AbsFmt) (s : Bool) : Bnd := cond s a.neg a.pos

theorem finMem_iff (a : AbsFmt) (x : RF) (g : Int) (hc : x.c ≠ 0) (hg : g ≤ x.exp)
    (hp : a.pos.okAt g) (hn : a.neg.okAt g) :
    a.finMem x ↔ IW a.prec a.exp g (x.sc g) ∧ a.neg.side true g (x.sc g) ∧ a.pos.side false g (x.sc g) := by
  unfold finMem
  simp only [hc, if_false]
  rw [writable_iff a x g hg, Bnd.below_iff _ x g hn (Or.inr hg), Bnd.above_iff _ x g hp (Or.inr hg)]

theorem finMem_zero (a : AbsFmt) (x : RF) (hc : x.c = 0) : a.finMem x ↔ (x.s = true → a.negZero = true) := by
  unfold finMem; rw [if_pos hc]

theorem wf_side {a : AbsFmt} (h : a.WF) (s : Bool) (g : Int) : (a.bnd s).side s g 0 := by
  obtain ⟨hp, hn, _⟩ := h
  cases s
  · rcases hp with h | ⟨p, h, hs⟩ <;> simp only [bnd, cond, h]
    · rfl
    · exact sc_nonneg_of_pos p g hs
  · rcases hn with h | ⟨n, h, hs⟩ <;> simp only [bnd, cond, h]
    · rfl
    · exact Int.neg_le_neg (sc_nonpos_of_neg n g hs)

theorem wf_ne_nan {a : AbsFmt} (h : a.WF) (s : Bool) : a.bnd s ≠ .nan := Bnd.side_ne_nan (wf_side h s 0)

/-- a scale `g ≤ a.lvl` is below both bounds and the least exponent of `a` -/
def lvl (a : AbsFmt) : Int := min (min a.pos.lvl a.neg.lvl) (olvl a.exp)

theorem le_of_le_lvl {a : AbsFmt} {g : Int} (hg : g ≤ a.lvl) (E : Int) (hE : a.exp = some E) : g ≤ E := by
  have : g ≤ olvl a.exp := Int.le_trans hg (Int.min_le_right ..)
  rwa [hE] at this

theorem okAt_of_le_lvl {a : AbsFmt} {g : Int} (hg : g ≤ a.lvl) (s : Bool) : (a.bnd s).okAt g := by
  have h : g ≤ min a.pos.lvl a.neg.lvl := Int.le_trans hg (Int.min_le_left ..)
  cases s
  · exact Bnd.okAt_of_le_lvl _ g (Int.le_trans h (Int.min_le_left ..))
  · exact Bnd.okAt_of_le_lvl _ g (Int.le_trans h (Int.min_le_right ..))

/-- the integer view of a member: `X`, in units of `2^g`, is within the bounds of `a` (both sides: `side`) and writable
(zero is writable in every format, `IW_zero`); the scale is below the bounds (`ok`) and the least exponent (`exp`) -/
structure MemAt (a : AbsFmt) (g X : Int) : Prop where
  ok : ∀ s, (a.bnd s).okAt g
  side : ∀ s, (a.bnd s).side s g X
  iw : IW a.prec a.exp g X
  exp : ∀ E, a.exp = some E → g ≤ E

theorem MemAt.imul {a : AbsFmt} {g X E : Int} (h : MemAt a g X) (hE : a.exp = some E) : IMul E g X :=
  IW_IMul (hE ▸ h.iw) (h.exp E hE)

theorem memAt_of_finMem_ne {a : AbsFmt} {x : RF} {g : Int} (hm : a.finMem x) (hc : x.c ≠ 0) (hgx : g ≤ x.exp)
    (hg : g ≤ a.lvl) : MemAt a g (x.sc g) := by
  have ok := okAt_of_le_lvl hg
  have := (finMem_iff a x g hc hgx (ok false) (ok true)).1 hm
  exact ⟨ok, fun s => by cases s; exact this.2.2; exact this.2.1, this.1, le_of_le_lvl hg⟩

theorem memAt_of_finMem {a : AbsFmt} (hwf : a.WF) {x : RF} {g : Int} (hm : a.finMem x) (hx : x.okAt g)
    (hg : g ≤ a.lvl) : MemAt a g (x.sc g) := by
  by_cases hc : x.c = 0
  · rw [sc_zero x g hc]
    exact ⟨okAt_of_le_lvl hg, fun s => wf_side hwf s g, IW_zero .., le_of_le_lvl hg⟩
  · exact memAt_of_finMem_ne hm hc (hx.resolve_left hc) hg

theorem MemAt.finMem {a : AbsFmt} {r : RF} {g : Int} (h : MemAt a g (r.sc g)) (hr : r.okAt g)
    (hz : r.c = 0 → r.s = true → a.negZero = true) : a.finMem r := by
  by_cases hc : r.c = 0
  · exact (finMem_zero a r hc).2 (hz hc)
  · exact (finMem_iff a r g hc (hr.resolve_left hc) (h.ok false) (h.ok true)).2 ⟨h.iw, h.side true, h.side false⟩

/-- the digits to drop are `k = max(bitLength c - prec, exp - x.exp)`; `x` is writable iff they are all zero -/
theorem writableB_iff (a : AbsFmt) (x : RF) (hc : x.c ≠ 0) : a.writableB x = true ↔ a.Writable x := by
  rw [writable_iff a x x.exp (Int.le_refl _)]
  unfold writableB IW
  rw [beq_iff_eq, natAbs_sc_self]
  generalize hk : max (dropPrec a.prec x.c) (dropExp a.exp x.exp) = k
  constructor
  · intro h
    refine ⟨x.c / 2 ^ k, x.exp + k, Int.le_add_of_nonneg_right (Int.natCast_nonneg k), ?_, fun p hp => ?_,
      fun E hE => ?_⟩
    · rw [Int.add_comm, Int.add_sub_cancel, Int.toNat_natCast]
      exact (Nat.div_mul_cancel (Nat.dvd_of_mod_eq_zero h)).symm
    · rw [hp] at hk
      have hk : bitLength x.c - p ≤ k := hk ▸ Nat.le_max_left ..
      apply Nat.div_lt_of_lt_mul
      rw [← Nat.pow_add]
      exact Nat.lt_of_lt_of_le (lt_two_pow_bitLength x.c) (Nat.pow_le_pow_right (by decide) (Nat.sub_le_iff_le_add.1 hk))
    · rw [hE] at hk
      have hk : (E - x.exp).toNat ≤ k := hk ▸ Nat.le_max_right ..
      omega
  · rintro ⟨m, e, hge, hm, hp, hE⟩
    have hm0 : m ≠ 0 := fun h0 => hc (by rw [hm, h0, Nat.zero_mul])
    have hkj : k ≤ (e - x.exp).toNat := by
      rw [← hk]
      refine Nat.max_le.2 ⟨?_, ?_⟩
      · cases hpp : a.prec with
        | none => exact Nat.zero_le _
        | some p =>
          have hb : bitLength m ≤ p := (bitLength_le_iff m p).2 (hp p hpp)
          have := bitLength_shift m (e - x.exp).toNat hm0
          rw [← hm] at this
          show bitLength x.c - p ≤ _
          omega
      · cases hee : a.exp with
        | none => exact Nat.zero_le _
        | some E => exact Int.toNat_le_toNat (Int.sub_le_sub_right (hE E hee) _)
    rw [hm]
    exact Nat.mod_eq_zero_of_dvd (Nat.dvd_trans (Nat.pow_dvd_pow 2 hkj) (Nat.dvd_mul_left _ _))

/-- `RealFloat.round(max_p = p)` is what `MPFloatContext(p).round` calls; `hz`: the digits beyond `p` are all zero -/
theorem round_of_dropped_zero (x : RF) (p : Nat) (hc : x.c ≠ 0) (rm : RM)
    (hz : x.c % 2 ^ (bitLength x.c - p) = 0) :
    ∃ y fl, x.round (some p) none rm = .ok (y, fl) ∧ y.eqV x ∧ y.s = x.s ∧ fl.inexact = false := by
  -- rounding is at position `n = x.e - p`; what `split` puts below it is the hypothesis' digits, or nothing
  rcases roundAtCore_outcome x (some p) (x.e - p) none rm false with ⟨y, fl, h, hv, hs, hi, -⟩ | ⟨hl, -⟩
  · exact ⟨y, fl, h, (eqV_iff_val y x).2 hv, hs, hi⟩
  · refine absurd ?_ hl
    rcases split_cases x (x.e - p) with ⟨h0, -⟩ | ⟨-, -, hs⟩ | ⟨-, hle, hs⟩
    · exact absurd h0 hc
    · rw [hs]
    · rw [hs, ← hz]
      have hk : (x.e - p + 1 - x.exp).toNat = bitLength x.c - p := by unfold RF.e RF.p at hle ⊢; omega
      rw [hk]

end AbsFmt

end Fpy
