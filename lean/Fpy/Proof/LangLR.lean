/-
The fundamental theorem of the evaluator `evalE … evalB` (Model/Lang/Core.lean), proved once by induction on the
fuel over the ten mutually recursive functions: the runs of two programs of the same shape (`SimE`, `SimS`, `All2`:
LangRel), from related environments and related heaps, have related outcomes (`fund`).  What "related" means is a
parameter:

* `LR` — a Kripke logical relation: worlds `W` ordered by `Fut`, and what it means in a world for two values, two
  references, two heaps to be related, and two environments of THE SAME program.  Values are related structurally
  (`inv`, `flat`, `tup`); an instance only says when two references are (`LocR`) and closes the heap primitives
  (`load`, `alloc`, `store`).
* `NR L` — the environments of the two programs: which names correspond at reads and at binders, and a relation on
  environments that `get` and `set` respect at corresponding names.  `NR.diag L`: equal names, `L.ER`.  A callee is the
  same function on both sides and runs at `NR.diag L`, so `N` is quantified inside the induction.
* `MK` — how a run with fuel `n` is compared with a run with fuel `m`: `MK.sym` (equal fuel: the same error, or
  related results, `RelM`) and `MK.le` (`n ≤ m`, and the run with less fuel may also be out of fuel).

Not instances: `scalAt` (LangFold) compares the runs of one scalar expression from two UNRELATED heaps: with no relation
between the heaps `alloc` cannot hold, and what it needs instead, that the run leaves its heap alone, is a fact about a
single run; `execAt` (LangFrame) compares the environment after one run with the one before, with a post-condition that
depends on the syntax (`bvS s`, `noRetS s`).
-/
import Fpy.Model.Lang.Scalar
import Fpy.Proof.LangRel
namespace Fpy.Xform
open Fpy Fpy.Lang

theorem ite_rel {A B : Type} (T : A → B → Prop) {c : Prop} [Decidable c] {a b : A} {a' b' : B}
    (ht : c → T a a') (hf : ¬ c → T b b') : T (if c then a else b) (if c then a' else b') := by
  split
  · exact ht ‹c›
  · exact hf ‹¬ c›

/-- `MR` is a field and not fixed to the form of `MK.le`: at equal fuel `parAt` and the passage to the fuel-free
semantics (`RelM.tends`) need that the two runs are out of fuel TOGETHER, which the asymmetric form does not say and
which cannot be recovered by exchanging the runs (the relation of `parLR` is not symmetric). -/
structure MK where
  FR : Nat → Nat → Prop
  MR : ∀ {α β : Type}, (α → β → Prop) → M α → M β → Prop
  succ : ∀ {n m}, FR (n+1) m → ∃ m', m = m' + 1 ∧ FR n m'
  /-- the side condition is for `MK.sym`, where `m = 0` and `b` is a run without fuel -/
  zero : ∀ {α β : Type} {Q : α → β → Prop} {m : Nat} {b : M β}, FR 0 m → (m = 0 → b = .error .outOfFuel) →
    MR Q (.error .outOfFuel) b
  lift : ∀ {α β : Type} {Q : α → β → Prop} {a : M α} {b : M β}, RelM Q a b → MR Q a b
  bind : ∀ {α β γ δ : Type} {P : α → β → Prop} {Q : γ → δ → Prop} {a : M α} {b : M β} {f : α → M γ} {g : β → M δ},
    MR P a b → (∀ x y, P x y → MR Q (f x) (g y)) → MR Q (a >>= f) (b >>= g)

def MK.sym : MK where
  FR := Eq
  MR := RelM
  succ h := ⟨_, h.symm, rfl⟩
  zero h hb := by cases h; rw [hb rfl]; exact rfl
  lift h := h
  bind := RelM.bind

def MK.le : MK where
  FR n m := n ≤ m
  MR Q a b := a = .error .outOfFuel ∨ RelM Q a b
  succ {n m} h := by
    cases m with
    | zero => exact absurd h (Nat.not_succ_le_zero n)
    | succ m => exact ⟨m, rfl, Nat.le_of_succ_le_succ h⟩
  zero _ _ := .inl rfl
  lift := .inr
  bind h hf := by
    rcases h with rfl | h
    · exact .inl rfl
    · rcases h.cases with ⟨e, rfl, rfl⟩ | ⟨x, y, rfl, rfl, hxy⟩
      · exact .inr rfl
      · exact hf x y hxy

theorem MK.err (K : MK) {α β : Type} {Q : α → β → Prop} (e : Err) : K.MR Q (.error e : M α) (.error e : M β) :=
  K.lift rfl

theorem MK.imp (K : MK) {α β : Type} {P Q : α → β → Prop} {a : M α} {b : M β} (h : K.MR P a b)
    (hpq : ∀ x y, P x y → Q x y) : K.MR Q a b := by
  have := K.bind h fun x y hxy => K.lift (show RelM Q (pure x) (pure y) from hpq x y hxy)
  rwa [bind_pure, bind_pure] at this

theorem MK.bind_same (K : MK) {α γ δ : Type} {Q : γ → δ → Prop} {a : M α} {f : α → M γ} {g : α → M δ}
    (hf : ∀ x, K.MR Q (f x) (g x)) : K.MR Q (a >>= f) (a >>= g) :=
  K.bind (P := Eq) (K.lift (RelM.eq_iff.2 rfl)) fun x _ h => h ▸ hf x

structure LR where
  W : Type
  /-- `w'` is a later world than `w` -/
  Fut : W → W → Prop
  VR : W → Val → Val → Prop
  /-- References have a relation of their own, weaker than `VR w (.list r) (.list r')`: the loops `forLoop` and
  `compLoop` are stated for any related references, and `ParAt` puts no bound on the reference it iterates over
  while `VR` of `parLR` does. -/
  LocR : W → Nat → Nat → Prop
  ER : W → Env → Env → Prop
  HR : W → Heap → Heap → Prop
  frefl : ∀ w, Fut w w
  ftrans : ∀ {a b c}, Fut a b → Fut b c → Fut a c
  vmono : ∀ {w w' v v'}, Fut w w' → VR w v v' → VR w' v v'
  lmono : ∀ {w w' r r'}, Fut w w' → LocR w r r' → LocR w' r r'
  emono : ∀ {w w' σ σ'}, Fut w w' → ER w σ σ' → ER w' σ σ'
  inv : ∀ {w v v'}, VR w v v' → (flatV v = true ∧ v' = v) ∨
    (∃ vs ws, v = .tuple vs ∧ v' = .tuple ws ∧ All2 (VR w) vs ws) ∨ (∃ r r', v = .list r ∧ v' = .list r' ∧ LocR w r r')
  flat : ∀ {w v}, flatV v = true → VR w v v
  tup : ∀ {w vs ws}, All2 (VR w) vs ws → VR w (.tuple vs) (.tuple ws)
  get : ∀ {w σ σ'}, ER w σ σ' → ∀ x, ORel (VR w) (σ.get? x) (σ'.get? x)
  set : ∀ {w σ σ' v v'} (x : String), ER w σ σ' → VR w v v' → ER w (σ.set x v) (σ'.set x v')
  enil : ∀ w, ER w [] []
  load : ∀ {w μ μ' r r'}, HR w μ μ' → LocR w r r' → RelM (All2 (VR w)) (heapGet μ r) (heapGet μ' r')
  alloc : ∀ {w μ μ' l l'}, HR w μ μ' → All2 (VR w) l l' →
    ∃ w', Fut w w' ∧ HR w' (μ ++ [l]) (μ' ++ [l']) ∧ VR w' (.list μ.length) (.list μ'.length)
  /-- a store is `l0.set k v`, which keeps the length of the cell: `parLR` needs that for `Ext.len`, `eqLR` and `frLR`
  do not use it -/
  store : ∀ {w μ μ' r r' l0 l0' l l'}, HR w μ μ' → LocR w r r' → heapGet μ r = .ok l0 →
    heapGet μ' r' = .ok l0' → All2 (VR w) l l' → l.length = l0.length → l'.length = l0'.length →
    ∃ w', Fut w w' ∧ HR w' (heapSet μ r l) (heapSet μ' r' l')

/-- Apart from `LR` because it varies over the same relation on values.  `rd x y`: a read of `x` on the left stands
where a read of `y` stands on the right; `bd x y`: the same for binders. -/
structure NR (L : LR) where
  rd : String → String → Prop
  bd : String → String → Prop
  ER : L.W → Env → Env → Prop
  emono : ∀ {w w' σ σ'}, L.Fut w w' → ER w σ σ' → ER w' σ σ'
  get : ∀ {w σ σ'}, ER w σ σ' → ∀ {x y}, rd x y → ORel (L.VR w) (σ.get? x) (σ'.get? y)
  set : ∀ {w σ σ' v v' x y}, bd x y → ER w σ σ' → L.VR w v v' → ER w (σ.set x v) (σ'.set y v')

def NR.diag (L : LR) : NR L where
  rd := Eq
  bd := Eq
  ER := L.ER
  emono := L.emono
  get h _ _ e := e ▸ L.get h _
  set e := e ▸ L.set _

def NR.OR {L : LR} (N : NR L) (w : L.W) : Outcome → Outcome → Prop
  | .normal σ1, .normal σ2 => N.ER w σ1 σ2
  | .ret v, .ret v' => L.VR w v v'
  | _, _ => False

theorem NR.OR.cases {L : LR} {N : NR L} {w : L.W} {o1 o2 : Outcome} (h : N.OR w o1 o2) :
    (∃ σ1 σ2, o1 = .normal σ1 ∧ o2 = .normal σ2 ∧ N.ER w σ1 σ2) ∨ ∃ v v', o1 = .ret v ∧ o2 = .ret v' ∧ L.VR w v v' := by
  cases o1 <;> cases o2 <;> simp only [NR.OR] at h
  · exact .inl ⟨_, _, rfl, rfl, h⟩
  · exact .inr ⟨_, _, rfl, rfl, h⟩

/-- how a client reads `N.OR` as its own relation on outcomes -/
theorem NR.OR.elim {L : LR} {N : NR L} {w : L.W} {P : Outcome → Outcome → Prop} {o1 o2 : Outcome} (h : N.OR w o1 o2)
    (hn : ∀ σ1 σ2, N.ER w σ1 σ2 → P (.normal σ1) (.normal σ2)) (hr : ∀ v v', L.VR w v v' → P (.ret v) (.ret v')) : P o1 o2 := by
  rcases h.cases with ⟨_, _, rfl, rfl, h⟩ | ⟨_, _, rfl, rfl, h⟩
  · exact hn _ _ h
  · exact hr _ _ h

namespace LR
variable (L : LR)

abbrev OR : L.W → Outcome → Outcome → Prop := (NR.diag L).OR

/-- what two successful runs started in world `w` return: in some later world the results are `Q`-related and the
final heaps related -/
def Res {α β : Type} (Q : L.W → α → β → Prop) (w : L.W) (a : α × Heap) (b : β × Heap) : Prop :=
  ∃ w', L.Fut w w' ∧ Q w' a.1 b.1 ∧ L.HR w' a.2 b.2

variable {L}

theorem ret (K : MK) {α β : Type} {Q : L.W → α → β → Prop} {w : L.W} {x : α} {y : β} {m m' : Heap} (h : Q w x y)
    (hh : L.HR w m m') : K.MR (L.Res Q w) (.ok (x, m)) (.ok (y, m')) := K.lift ⟨w, L.frefl w, h, hh⟩

theorem bind {K : MK} {α β γ δ : Type} {P : L.W → α → β → Prop} {Q : L.W → γ → δ → Prop} {w : L.W}
    {a : M (α × Heap)} {b : M (β × Heap)} {f : α × Heap → M (γ × Heap)} {g : β × Heap → M (δ × Heap)}
    (h : K.MR (L.Res P w) a b)
    (hk : ∀ w' x m y m', L.Fut w w' → P w' x y → L.HR w' m m' → K.MR (L.Res Q w') (f (x, m)) (g (y, m'))) :
    K.MR (L.Res Q w) (a >>= f) (b >>= g) :=
  K.bind h fun (x, m) (y, m') ⟨w', hf, hp, hh⟩ =>
    K.imp (hk w' x m y m' hf hp hh) fun _ _ ⟨w'', hf', hq, hh'⟩ => ⟨w'', L.ftrans hf hf', hq, hh'⟩

theorem blind {w : L.W} {α : Type} (f : Val → α) (ht : ∀ vs ws, f (.tuple vs) = f (.tuple ws))
    (hl : ∀ r s, f (.list r) = f (.list s)) {v v' : Val} (h : L.VR w v v') : f v = f v' := by
  rcases L.inv h with ⟨_, rfl⟩ | ⟨vs, ws, rfl, rfl, _⟩ | ⟨r, r', rfl, rfl, hr⟩
  · rfl
  · exact ht vs ws
  · exact hl r r'

theorem asNum_rel {w : L.W} {v v' : Val} (h : L.VR w v v') : asNum v = asNum v' :=
  blind asNum (fun _ _ => rfl) (fun _ _ => rfl) h

theorem asBool_rel {w : L.W} {v v' : Val} (h : L.VR w v v') : asBool v = asBool v' :=
  blind asBool (fun _ _ => rfl) (fun _ _ => rfl) h

theorem asIndex_rel {w : L.W} {v v' : Val} (h : L.VR w v v') : asIndex v = asIndex v' :=
  blind asIndex (fun _ _ => rfl) (fun _ _ => rfl) h

theorem mapM_blind {w : L.W} {α : Type} (f : Val → M α) (hf : ∀ v v', L.VR w v v' → f v = f v') {vs ws : List Val}
    (h : All2 (L.VR w) vs ws) : vs.mapM f = ws.mapM f := by
  induction h with
  | nil => rfl
  | cons h1 _ ih => simp only [List.mapM_cons, hf _ _ h1, ih]

theorem asSeq_rel {w : L.W} {μ μ' : Heap} (hh : L.HR w μ μ') {v v' : Val} (h : L.VR w v v') :
    RelM (All2 (L.VR w)) (asSeq μ v) (asSeq μ' v') := by
  rcases L.inv h with ⟨hf, rfl⟩ | ⟨vs, ws, rfl, rfl, hvs⟩ | ⟨r, r', rfl, rfl, hr⟩
  · cases v' <;> first | exact rfl | cases hf
  · exact hvs
  · exact L.load hh hr

theorem asList_rel {w : L.W} {μ μ' : Heap} (hh : L.HR w μ μ') {v v' : Val} (h : L.VR w v v') :
    RelM (All2 (L.VR w)) (asList μ v) (asList μ' v') := by
  rcases L.inv h with ⟨hf, rfl⟩ | ⟨vs, ws, rfl, rfl, hvs⟩ | ⟨r, r', rfl, rfl, hr⟩
  · cases v' <;> first | exact rfl | cases hf
  · exact rfl
  · exact L.load hh hr

theorem bindPat_rel (K : MK) (N : NR L) {w : L.W} : ∀ (n m : Nat), K.FR n m → ∀ {p q : Pat} (v v' : Val) (σ1 σ2 : Env),
    SimP N.bd p q → N.ER w σ1 σ2 → L.VR w v v' → K.MR (N.ER w) (bindPat n p v σ1) (bindPat m q v' σ2) := by
  intro n
  induction n with
  | zero =>
    intro m hfr p q v v' σ1 σ2 _ _ _
    rw [show bindPat 0 p v σ1 = .error .outOfFuel by simp only [bindPat]]
    exact K.zero hfr fun h => by subst h; simp only [bindPat]
  | succ n ih =>
    intro m0 hfr0
    obtain ⟨m, rfl, hfr⟩ := K.succ hfr0
    have hgo : ∀ {ps qs : List Pat}, All2 (SimP N.bd) ps qs → ∀ (vs ws : List Val) (σ1 σ2 : Env), N.ER w σ1 σ2 →
        All2 (L.VR w) vs ws → K.MR (N.ER w) (bindPat.go n ps vs σ1) (bindPat.go m qs ws σ2) := by
      intro ps qs hps
      induction hps with
      | nil => intro vs ws σ1 σ2 he _; simp only [bindPat.go]; exact K.lift he
      | cons hp _ ihp =>
        intro vs ws σ1 σ2 he hv
        cases hv with
        | nil => simp only [bindPat.go]; exact K.lift he
        | cons h1 h2 =>
          simp only [bindPat.go]
          exact K.bind (ih m hfr _ _ σ1 σ2 hp he h1) (fun σ1' σ2' he' => ihp _ _ σ1' σ2' he' h2)
    intro p q v v' σ1 σ2 hp he hv
    cases hp with
    | var hb => simp only [bindPat]; exact K.lift (N.set hb he hv)
    | wild => simp only [bindPat]; exact K.lift he
    | tup hps =>
      rcases L.inv hv with ⟨hf, rfl⟩ | ⟨vs, ws, rfl, rfl, hvs⟩ | ⟨r, r', rfl, rfl, hr⟩
      · cases v' <;> simp only [flatV, Bool.false_eq_true] at hf <;> simp only [bindPat] <;> exact K.err _
      · simp only [bindPat, hvs.length_eq, hps.length_eq]
        split
        · exact K.err _
        · exact hgo hps vs ws σ1 σ2 he hvs
      · simp only [bindPat]; exact K.err _

theorem setAll_rel {w : L.W} : ∀ (ps : List String) {vs ws : List Val} {σ1 σ2 : Env}, L.ER w σ1 σ2 → All2 (L.VR w) vs ws →
    L.ER w (setAll σ1 (ps.zip vs)) (setAll σ2 (ps.zip ws))
  | [], _, _, _, _, he, _ => he
  | p :: ps, _, _, σ1, σ2, he, hv => by
    cases hv with
    | nil => exact he
    | cons h1 h2 =>
      rw [List.zip_cons_cons, List.zip_cons_cons, setAll_cons, setAll_cons]
      exact setAll_rel ps (L.set p he h1) h2

theorem walk_rel {w : L.W} {μ1 μ2 : Heap} (hh : L.HR w μ1 μ2) : ∀ (ks : List Nat) (v v' : Val), L.VR w v v' →
    RelM (fun a b => L.LocR w a.1 b.1 ∧ a.2 = b.2) (evalS.walk μ1 v ks) (evalS.walk μ2 v' ks) := by
  have hnil : ∀ (μ : Heap) (v : Val), evalS.walk μ v [] = .error .typeError := fun μ v => by
    cases v <;> simp only [evalS.walk]
  intro ks
  induction ks with
  | nil => intro v v' _; rw [hnil, hnil]; exact rfl
  | cons k ks ih =>
    intro v v' hv
    rcases L.inv hv with ⟨hf, rfl⟩ | ⟨vs, ws, rfl, rfl, hvs⟩ | ⟨r, r', rfl, rfl, hr⟩
    · cases v' <;> simp only [flatV, Bool.false_eq_true] at hf <;> simp only [evalS.walk] <;> exact rfl
    · simp only [evalS.walk]; exact rfl
    · cases ks with
      | nil => simp only [evalS.walk]; exact ⟨hr, rfl⟩
      | cons k' ks' =>
        simp only [evalS.walk]
        refine RelM.bind (L.load hh hr) fun l1 l2 hl => ?_
        rcases (hl.get k).cases with ⟨h1, h2⟩ | ⟨x, y, h1, h2, hxy⟩
        · rw [h1, h2]; exact rfl
        · rw [h1, h2]; exact ih _ _ hxy

theorem valEq_flat_succ (μ μ' : Heap) (n m : Nat) {a b : Val} (ha : flatV a = true) (hb : flatV b = true) :
    valEq μ (n+1) a b = valEq μ' (m+1) a b := by
  rw [valEq.eq_def, valEq.eq_def μ']
  dsimp only
  split <;> first | rfl | exact absurd ha Bool.false_ne_true

theorem valEq_rel (K : MK) {w : L.W} {μ1 μ2 : Heap} (hh : L.HR w μ1 μ2) : ∀ n m, K.FR n m →
    ∀ a a' b b', L.VR w a a' → L.VR w b b' → K.MR Eq (valEq μ1 n a b) (valEq μ2 m a' b') := by
  intro n
  induction n with
  | zero =>
    intro m hfr a a' b b' _ _
    rw [show valEq μ1 0 a b = .error .outOfFuel by simp only [valEq]]
    exact K.zero hfr fun h => by subst h; simp only [valEq]
  | succ n ih =>
    intro m0 hfr0
    obtain ⟨m, rfl, hfr⟩ := K.succ hfr0
    have hgo : ∀ xs xs' ys ys', All2 (L.VR w) xs xs' → All2 (L.VR w) ys ys' →
        K.MR Eq (valEq.go μ1 n xs ys) (valEq.go μ2 m xs' ys') := by
      intro xs xs' ys ys' hx
      induction hx generalizing ys ys' with
      | nil => intro hy; cases hy <;> simp only [valEq.go] <;> exact K.lift rfl
      | cons hx1 _ ihx =>
        intro hy
        cases hy with
        | nil => simp only [valEq.go]; exact K.lift rfl
        | cons hy1 hy2 =>
          simp only [valEq.go]
          refine K.bind (ih m hfr _ _ _ _ hx1 hy1) fun c c' hc => ?_
          subst hc
          split
          · exact ihx _ _ hy2
          · exact K.lift rfl
    intro a a' b b' ha hb
    rcases L.inv ha with ⟨hfa, rfl⟩ | ⟨vs, ws, rfl, rfl, hvs⟩ | ⟨r, r', rfl, rfl, hr⟩ <;>
    rcases L.inv hb with ⟨hfb, rfl⟩ | ⟨vs', ws', rfl, rfl, hvs'⟩ | ⟨s, s', rfl, rfl, hs⟩
    -- nine cases in the order (flat | tuple | list) × (flat | tuple | list), `a` outermost
    · rw [valEq_flat_succ μ1 μ2 n m hfa hfb]; exact K.lift (RelM.eq_iff.2 rfl)
    all_goals rw [valEq.eq_def, valEq.eq_def μ2]
    · cases a' <;> first | exact K.err _ | cases hfa
    · cases a' <;> first | exact K.err _ | cases hfa
    · cases b' <;> first | exact K.err _ | cases hfb
    · dsimp only
      rw [hvs.length_eq, hvs'.length_eq]
      split
      · exact K.lift rfl
      · exact hgo vs ws vs' ws' hvs hvs'
    · exact K.err _
    · cases b' <;> first | exact K.err _ | cases hfb
    · exact K.err _
    · dsimp only
      refine K.bind (K.lift (L.load hh hr)) fun l1 l2 h1 => ?_
      refine K.bind (K.lift (L.load hh hs)) fun l1' l2' h2 => ?_
      rw [h1.length_eq, h2.length_eq]
      split
      · exact K.lift rfl
      · exact hgo _ _ _ _ h1 h2

theorem allocRet (K : MK) {w : L.W} {μ μ' : Heap} {l l' : List Val} (hh : L.HR w μ μ') (hl : All2 (L.VR w) l l') :
    K.MR (L.Res L.VR w) (.ok ((Lang.alloc μ l).2, (Lang.alloc μ l).1)) (.ok ((Lang.alloc μ' l').2, (Lang.alloc μ' l').1)) := by
  obtain ⟨w', hf, hh', hv⟩ := L.alloc hh hl
  exact K.lift ⟨w', hf, hv, hh'⟩

theorem foldlM_blind {w : L.W} {α : Type} (f : α → Val → M α) (hf : ∀ a v v', L.VR w v v' → f a v = f a v')
    {vs ws : List Val} (h : All2 (L.VR w) vs ws) : ∀ (a : α), vs.foldlM f a = ws.foldlM f a := by
  induction h with
  | nil => intro a; rfl
  | cons h1 _ ih =>
    intro a
    simp only [List.foldlM_cons, hf a _ _ h1]
    congr 1; funext a'
    exact ih a'

theorem mapM_asList_rel {w : L.W} {μ1 μ2 : Heap} (hh : L.HR w μ1 μ2) {vs ws : List Val} (h : All2 (L.VR w) vs ws) :
    RelM (All2 (All2 (L.VR w))) (vs.mapM (asList μ1)) (ws.mapM (asList μ2)) := by
  induction h with
  | nil => simp only [List.mapM_nil]; exact (.nil : All2 _ [] [])
  | cons h1 _ ih =>
    simp only [List.mapM_cons]
    refine RelM.bind (asList_rel hh h1) fun l1 l2 hl => ?_
    refine RelM.bind ih fun ls1 ls2 hls => ?_
    exact (.cons hl hls : All2 _ (l1 :: ls1) (l2 :: ls2))

theorem zip_rows_rel {w : L.W} {ls ls' : List (List Val)} (h : All2 (All2 (L.VR w)) ls ls') (n : Nat) :
    All2 (L.VR w) ((List.range n).map (fun i => Val.tuple (ls.filterMap (fun l => l[i]?))))
      ((List.range n).map (fun i => Val.tuple (ls'.filterMap (fun l => l[i]?)))) :=
  All2.map _ _ _ fun i _ => L.tup (h.column i)

theorem enum_rows_rel {w : L.W} {l l' : List Val} (h : All2 (L.VR w) l l') (n : Nat) :
    All2 (L.VR w) ((List.range n).filterMap (fun (i : Nat) => (l[i]?).map (fun x => Val.tuple [intVal (i : Int), x])))
      ((List.range n).filterMap (fun (i : Nat) => (l'[i]?).map (fun x => Val.tuple [intVal (i : Int), x]))) := by
  refine All2.filterMap _ _ _ fun i _ => ?_
  rcases (h.get i).cases with ⟨e1, e2⟩ | ⟨x, y, e1, e2, hi⟩
  · rw [e1, e2]; exact trivial
  · rw [e1, e2]; exact L.tup (.cons (L.flat rfl) (.cons hi .nil))

theorem ctxCtor_rel {w : L.W} (f : String) {vs ws : List Val} (h : All2 (L.VR w) vs ws) : ctxCtor f vs = ctxCtor f ws := by
  have hc : ∀ {v v'}, L.VR w v v' → ctxIntArg v = ctxIntArg v' := blind ctxIntArg (fun _ _ => rfl) (fun _ _ => rfl)
  rcases h with _ | ⟨h1, _ | ⟨h2, _ | ⟨h3, _⟩⟩⟩
  · rfl
  · exact ctxCtor_congr1 f (hc h1)
  · exact ctxCtor_congr2 f (hc h1) (hc h2)
  · rw [ctxCtor_many, ctxCtor_many]

theorem minmax_vals_rel {w : L.W} {μ1 μ2 : Heap} (hh : L.HR w μ1 μ2) (vs ws : List Val) : All2 (L.VR w) vs ws →
    (match vs with
      | [single] => (match single with
          | .list _ => do let l ← asList μ1 single; if l.isEmpty then .error .valueError else l.mapM asNum
          | _ => .error .typeError)
      | _ => vs.mapM asNum : M (List NV)) =
    (match ws with
      | [single] => (match single with
          | .list _ => do let l ← asList μ2 single; if l.isEmpty then .error .valueError else l.mapM asNum
          | _ => .error .typeError)
      | _ => ws.mapM asNum) := by
  intro h
  have hm := mapM_blind asNum (fun _ _ h => asNum_rel h) h
  rcases h with _ | ⟨h1, _ | ⟨h3, h4⟩⟩
  · rfl
  · rcases L.inv h1 with ⟨hf, rfl⟩ | ⟨xs, ys, rfl, rfl, _⟩ | ⟨r, r', rfl, rfl, hr⟩
    · rename_i a'; cases a' <;> first | rfl | cases hf
    · rfl
    · show (asList μ1 (.list r) >>= _) = (asList μ2 (.list r') >>= _)
      rcases (asList_rel hh h1).cases with ⟨e, e1, e2⟩ | ⟨l1, l2, e1, e2, hl⟩
      · rw [e1, e2]
      · rw [e1, e2]
        show (if l1.isEmpty = true then _ else _) = (if l2.isEmpty = true then _ else _)
        have hemp : l1.isEmpty = l2.isEmpty := by
          rw [Bool.eq_iff_iff, List.isEmpty_iff_length_eq_zero, List.isEmpty_iff_length_eq_zero, hl.length_eq]
        rw [hemp, mapM_blind asNum (fun _ _ h => asNum_rel h) hl]
  · exact hm

end LR

structure Fund (K : MK) (L : LR) (Φ : Funs) (n m : Nat) : Prop where
  fr : K.FR n m
  evalE : ∀ {N : NR L} {w σ1 σ2 μ1 μ2}, N.ER w σ1 σ2 → L.HR w μ1 μ2 → ∀ C {e1 e2}, SimE N.rd N.bd e1 e2 →
    K.MR (L.Res L.VR w) (evalE Φ n σ1 μ1 C e1) (evalE Φ m σ2 μ2 C e2)
  evalEs : ∀ {N : NR L} {w σ1 σ2 μ1 μ2}, N.ER w σ1 σ2 → L.HR w μ1 μ2 → ∀ C {es1 es2}, All2 (SimE N.rd N.bd) es1 es2 →
    K.MR (L.Res (fun w => All2 (L.VR w)) w) (evalEs Φ n σ1 μ1 C es1) (evalEs Φ m σ2 μ2 C es2)
  evalChain : ∀ {N : NR L} {w σ1 σ2 μ1 μ2}, N.ER w σ1 σ2 → L.HR w μ1 μ2 → ∀ C {a1 a2} ops {es1 es2},
    All2 (SimE N.rd N.bd) es1 es2 → L.VR w a1 a2 →
    K.MR (L.Res L.VR w) (evalChain Φ n σ1 μ1 C a1 ops es1) (evalChain Φ m σ2 μ2 C a2 ops es2)
  evalAnd : ∀ {N : NR L} {w σ1 σ2 μ1 μ2}, N.ER w σ1 σ2 → L.HR w μ1 μ2 → ∀ C {es1 es2}, All2 (SimE N.rd N.bd) es1 es2 →
    K.MR (L.Res L.VR w) (evalAnd Φ n σ1 μ1 C es1) (evalAnd Φ m σ2 μ2 C es2)
  evalOr : ∀ {N : NR L} {w σ1 σ2 μ1 μ2}, N.ER w σ1 σ2 → L.HR w μ1 μ2 → ∀ C {es1 es2}, All2 (SimE N.rd N.bd) es1 es2 →
    K.MR (L.Res L.VR w) (evalOr Φ n σ1 μ1 C es1) (evalOr Φ m σ2 μ2 C es2)
  evalComp : ∀ {N : NR L} {w σ1 σ2 μ1 μ2}, N.ER w σ1 σ2 → L.HR w μ1 μ2 → ∀ C {ps qs its its' elt elt'},
    All2 (SimP N.bd) ps qs → All2 (SimE N.rd N.bd) its its' → SimE N.rd N.bd elt elt' →
    K.MR (L.Res (fun w => All2 (L.VR w)) w) (evalComp Φ n σ1 μ1 C ps its elt) (evalComp Φ m σ2 μ2 C qs its' elt')
  compLoop : ∀ {N : NR L} {w σ1 σ2 μ1 μ2}, N.ER w σ1 σ2 → L.HR w μ1 μ2 → ∀ C {r r'} i {p q ps qs its its' elt elt'},
    SimP N.bd p q → All2 (SimP N.bd) ps qs → All2 (SimE N.rd N.bd) its its' → SimE N.rd N.bd elt elt' → L.LocR w r r' →
    K.MR (L.Res (fun w => All2 (L.VR w)) w) (compLoop Φ n σ1 μ1 C r i p ps its elt) (compLoop Φ m σ2 μ2 C r' i q qs its' elt')
  evalS : ∀ {N : NR L} {w σ1 σ2 μ1 μ2}, N.ER w σ1 σ2 → L.HR w μ1 μ2 → ∀ C {s1 s2}, SimS N.rd N.bd s1 s2 →
    K.MR (L.Res (N.OR) w) (evalS Φ n σ1 μ1 C s1) (evalS Φ m σ2 μ2 C s2)
  forLoop : ∀ {N : NR L} {w σ1 σ2 μ1 μ2}, N.ER w σ1 σ2 → L.HR w μ1 μ2 → ∀ C {r r'} i {p q b b'},
    SimP N.bd p q → All2 (SimS N.rd N.bd) b b' → L.LocR w r r' →
    K.MR (L.Res (N.OR) w) (forLoop Φ n σ1 μ1 C r i p b) (forLoop Φ m σ2 μ2 C r' i q b')
  evalB : ∀ {N : NR L} {w σ1 σ2 μ1 μ2}, N.ER w σ1 σ2 → L.HR w μ1 μ2 → ∀ C {ss1 ss2}, All2 (SimS N.rd N.bd) ss1 ss2 →
    K.MR (L.Res (N.OR) w) (evalB Φ n σ1 μ1 C ss1) (evalB Φ m σ2 μ2 C ss2)

/-- a condition evaluated on both sides: related values are read as the SAME Boolean (`asBool_rel`), so the
continuations are compared at one `b` and need nothing of the condition's values -/
theorem Fund.cond {K : MK} {L : LR} {Φ : Funs} {n m : Nat} (ih : Fund K L Φ n m) {N : NR L} {w : L.W} {σ1 σ2 : Env}
    {μ1 μ2 : Heap} (he : N.ER w σ1 σ2) (hh : L.HR w μ1 μ2) (C : Ctx) {c c' : Expr} (hc : SimE N.rd N.bd c c')
    {γ δ : Type} {Q : L.W → γ → δ → Prop}
    {f : Bool → Val × Heap → M (γ × Heap)} {g : Bool → Val × Heap → M (δ × Heap)}
    (hk : ∀ w' b v1 m1 v2 m2, N.ER w' σ1 σ2 → L.HR w' m1 m2 → K.MR (L.Res Q w') (f b (v1, m1)) (g b (v2, m2))) :
    K.MR (L.Res Q w) (do let r ← Lang.evalE Φ n σ1 μ1 C c; let b ← asBool r.1; f b r)
      (do let r ← Lang.evalE Φ m σ2 μ2 C c'; let b ← asBool r.1; g b r) := by
  refine LR.bind (ih.evalE he hh C hc) fun w' v1 m1 v2 m2 hf hv hh' => ?_
  dsimp only
  rw [LR.asBool_rel hv]
  exact K.bind_same fun b => hk w' b v1 m1 v2 m2 (N.emono hf he) hh'

section
variable {K : MK} {L : LR} {Φ : Funs} {n m : Nat} (ih : Fund K L Φ n m) {N : NR L} {w : L.W} {σ1 σ2 : Env} {μ1 μ2 : Heap}
  (he : N.ER w σ1 σ2) (hh : L.HR w μ1 μ2) (C : Ctx)
include ih he hh

theorem fund_evalE_step {e1 e2 : Expr} (h : SimE N.rd N.bd e1 e2) :
    K.MR (L.Res L.VR w) (evalE Φ (n+1) σ1 μ1 C e1) (evalE Φ (m+1) σ2 μ2 C e2) := by
  cases h with
  | var hx =>
    dsimp only [evalE]
    rcases (N.get he hx).cases with ⟨e1, e2⟩ | ⟨v1, v2, e1, e2, hv⟩
    · rw [e1, e2]; exact K.err _
    · rw [e1, e2]; exact LR.ret K hv hh
  | bool _ | num _ | ctxLit _ => dsimp only [evalE]; exact LR.ret K (L.flat rfl) hh
  | op o hargs =>
    dsimp only [evalE]
    refine LR.bind (ih.evalEs he hh C hargs) fun w' vs m ws m' _ hvs hh' => ?_
    dsimp only
    rw [LR.mapM_blind asNum (fun _ _ h => LR.asNum_rel h) hvs]
    refine K.bind_same fun ns => K.bind_same fun r => ?_
    exact LR.ret K (L.flat rfl) hh'
  | pred p ha =>
    dsimp only [evalE]
    refine LR.bind (ih.evalE he hh C ha) fun w' v m v' m' _ hv hh' => ?_
    dsimp only
    rw [LR.asNum_rel hv]
    refine K.bind_same fun x => K.bind_same fun b => ?_
    exact LR.ret K (L.flat rfl) hh'
  | cmp ops hargs =>
    cases hargs with
    | nil => dsimp only [evalE]; exact LR.ret K (L.flat rfl) hh
    | cons ha hrest =>
      dsimp only [evalE]
      refine LR.bind (ih.evalE he hh C ha) fun w' v m v' m' hf hv hh' => ?_
      exact ih.evalChain (N.emono hf he) hh' C ops hrest hv
  | not ha =>
    dsimp only [evalE]
    refine ih.cond he hh C ha fun w' b _ _ _ _ _ hh' => ?_
    exact LR.ret K (L.flat rfl) hh'
  | and hes => dsimp only [evalE]; exact ih.evalAnd he hh C hes
  | or hes => dsimp only [evalE]; exact ih.evalOr he hh C hes
  | ite hc ht hf =>
    dsimp only [evalE]
    refine ih.cond he hh C hc fun w' b _ _ _ _ he' hh' => ?_
    exact ite_rel (K.MR _) (fun _ => ih.evalE he' hh' C ht) fun _ => ih.evalE he' hh' C hf
  | tuple hes =>
    dsimp only [evalE]
    refine LR.bind (ih.evalEs he hh C hes) fun w' vs m ws m' _ hvs hh' => ?_
    exact LR.ret K (L.tup hvs) hh'
  | list hes =>
    dsimp only [evalE]
    refine LR.bind (ih.evalEs he hh C hes) fun w' vs m ws m' _ hvs hh' => ?_
    exact LR.allocRet K hh' hvs
  | index ha hi =>
    dsimp only [evalE]
    refine LR.bind (ih.evalE he hh C ha) fun w' av m av' m' hf hav hh' => ?_
    refine LR.bind (ih.evalE (N.emono hf he) hh' C hi) fun w'' iv m2 iv' m2' hf' hiv hh'' => ?_
    refine K.bind (K.lift (LR.asSeq_rel hh'' (L.vmono hf' hav))) fun l1 l2 hl => ?_
    rw [LR.asIndex_rel hiv]
    refine K.bind_same fun k => ?_
    rcases (hl.get k).cases with ⟨e1, e2⟩ | ⟨x, y, e1, e2, hk⟩
    · rw [e1, e2]; exact K.err _
    · rw [e1, e2]; exact LR.ret K hk hh''
  | comp hps hits helt =>
    dsimp only [evalE]
    refine LR.bind (ih.evalComp he hh C hps hits helt) fun w' vs m ws m' _ hvs hh' => ?_
    exact LR.allocRet K hh' hvs
  | len ha =>
    dsimp only [evalE]
    refine LR.bind (ih.evalE he hh C ha) fun w' v m v' m' _ hv hh' => ?_
    refine K.bind (K.lift (LR.asList_rel hh' hv)) fun l1 l2 hl => ?_
    rw [hl.length_eq]
    exact LR.ret K (L.flat rfl) hh'
  | any ha | all ha =>
    dsimp only [evalE]
    refine LR.bind (ih.evalE he hh C ha) fun w' v m v' m' _ hv hh' => ?_
    refine K.bind (K.lift (LR.asList_rel hh' hv)) fun l1 l2 hl => ?_
    rw [LR.mapM_blind asBool (fun _ _ h => LR.asBool_rel h) hl]
    refine K.bind_same fun bs => ?_
    exact LR.ret K (L.flat rfl) hh'
  | call f hargs =>
    dsimp only [evalE]
    refine LR.bind (ih.evalEs he hh C hargs) fun w' vs m ws m' _ hvs hh' => ?_
    cases hfd : Φ.find? f with
    | none =>
      dsimp only
      rw [LR.ctxCtor_rel f hvs]
      cases ctxCtor f ws with
      | error err => exact K.err _
      | ok c => exact LR.ret K (L.flat rfl) hh'
    | some fd =>
      dsimp only
      rw [hvs.length_eq]
      refine ite_rel (K.MR _) (fun _ => K.err _) fun _ => ?_
      · refine LR.bind (ih.evalB (N := NR.diag L) (LR.setAll_rel fd.params (L.enil w') hvs) hh' _ (SimB.refl fd.body))
          fun w'' o1 m2 o2 m2' _ ho hh'' => ?_
        rcases ho.cases with ⟨_, _, rfl, rfl, _⟩ | ⟨v1, v2, rfl, rfl, hv⟩
        · exact K.err _
        · exact LR.ret K hv hh''
  | range hargs =>
    dsimp only [evalE]
    refine LR.bind (ih.evalEs he hh C hargs) fun w' vs m ws m' _ hvs hh' => ?_
    dsimp only
    rw [LR.mapM_blind _ (fun v v' h => by rw [LR.asNum_rel h]) hvs]
    refine K.bind_same fun ints => K.bind_same fun (a, b, st) => ?_
    dsimp only
    exact ite_rel (K.MR _) (fun _ => K.err _) fun _ => LR.allocRet K hh' (All2.map _ _ _ fun _ _ => L.flat (v := intVal _) rfl)
  | zip hes =>
    dsimp only [evalE]
    refine LR.bind (ih.evalEs he hh C hes) fun w' vs m ws m' _ hvs hh' => ?_
    refine K.bind (K.lift (LR.mapM_asList_rel hh' hvs)) fun ls1 ls2 hls => ?_
    cases hls with
    | nil => exact LR.allocRet K hh' .nil
    | cons h0 hrest =>
      dsimp only
      rw [hrest.any_len, h0.length_eq]
      exact ite_rel (K.MR _) (fun _ => K.err _) fun _ => LR.allocRet K hh' (LR.zip_rows_rel (.cons h0 hrest) _)
  | enumerate ha =>
    dsimp only [evalE]
    refine LR.bind (ih.evalE he hh C ha) fun w' v m v' m' _ hv hh' => ?_
    refine K.bind (K.lift (LR.asList_rel hh' hv)) fun l1 l2 hl => ?_
    rw [hl.length_eq]
    exact LR.allocRet K hh' (LR.enum_rows_rel hl _)
  | sum ha =>
    dsimp only [evalE]
    refine LR.bind (ih.evalE he hh C ha) fun w' v m v' m' _ hv hh' => ?_
    refine K.bind (K.lift (LR.asList_rel hh' hv)) fun l1 l2 hl => ?_
    cases hl with
    | nil => exact LR.ret K (L.flat rfl) hh'
    | cons hxy hxs =>
      dsimp only
      rw [LR.asNum_rel hxy]
      refine K.bind_same fun x0 => ?_
      rw [LR.foldlM_blind _ (fun a v v' h => by rw [LR.asNum_rel h]) hxs x0]
      refine K.bind_same fun acc => ?_
      exact LR.ret K (L.flat rfl) hh'
  | min hes | max hes =>
    dsimp only [evalE]
    refine LR.bind (ih.evalEs he hh C hes) fun w' vs m ws m' _ hvs hh' => ?_
    dsimp only
    refine K.bind (P := Eq) (K.lift (RelM.eq_iff.2 (LR.minmax_vals_rel hh' vs ws hvs))) ?_
    rintro vals _ rfl
    refine K.bind_same fun r => ?_
    exact LR.ret K (L.flat rfl) hh'
  | roundAt ha hk =>
    dsimp only [evalE]
    refine LR.bind (ih.evalE he hh C ha) fun w' av m1 av' m1' hf hav hh' => ?_
    refine LR.bind (ih.evalE (N.emono hf he) hh' C hk) fun w'' nv m2 nv' m2' hf' hnv hh'' => ?_
    dsimp only
    rw [LR.asNum_rel hav, LR.asNum_rel hnv]
    refine K.bind_same fun x => K.bind_same fun nn => ?_
    cases nn with
    | q _ _ => exact K.err _
    | fv u =>
      dsimp only
      cases nvInt? (.fv u) with
      | none => exact K.err _
      | some k =>
        dsimp only
        split
        · exact K.err _
        · exact K.bind_same fun r => LR.ret K (L.flat rfl) hh''
  | slice ha hs ht =>
    have optE : ∀ {o o' : Option Expr}, SimO N.rd N.bd o o' → ∀ {w' : L.W} {m1 m2 : Heap}, N.ER w' σ1 σ2 → L.HR w' m1 m2 →
        K.MR (L.Res (fun w => ORel (L.VR w)) w')
          (match o with
            | none => (Except.ok (none, m1) : M (Option Val × Heap))
            | some s => do let (v, m) ← evalE Φ n σ1 m1 C s; .ok (some v, m))
          (match o' with
            | none => (Except.ok (none, m2) : M (Option Val × Heap))
            | some s => do let (v, m) ← evalE Φ m σ2 m2 C s; .ok (some v, m)) := by
      intro o o' ho w' m1 m2 he' hh'
      cases ho with
      | none => exact LR.ret K (Q := fun w => ORel (L.VR w)) trivial hh'
      | some hs =>
        refine LR.bind (ih.evalE he' hh' C hs) fun w'' v1 _ v2 _ _ hv hh'' => ?_
        exact LR.ret K (Q := fun w => ORel (L.VR w)) hv hh''
    dsimp only [evalE]
    refine LR.bind (ih.evalE he hh C ha) fun wa av1 ma av2 ma' hfa hav hha => ?_
    have hea := N.emono hfa he
    refine LR.bind (optE hs hea hha) fun wb sv1 mb sv2 mb' hfb hsv hhb => ?_
    have heb := N.emono hfb hea
    refine LR.bind (optE ht heb hhb) fun wc tv1 mc tv2 mc' hfc htv hhc => ?_
    refine K.bind (K.lift (LR.asList_rel hhc (L.vmono hfc (L.vmono hfb hav)))) fun l1 l2 hl => ?_
    rw [hl.length_eq]
    refine K.bind (P := Eq) (K.lift (RelM.eq_iff.2 ?_)) ?_
    · rcases hsv.cases with ⟨rfl, rfl⟩ | ⟨x, y, rfl, rfl, hxy⟩
      · rfl
      · dsimp only; rw [LR.asNum_rel hxy]
    rintro si _ rfl
    refine K.bind (P := Eq) (K.lift (RelM.eq_iff.2 ?_)) ?_
    · rcases htv.cases with ⟨rfl, rfl⟩ | ⟨x, y, rfl, rfl, hxy⟩
      · rfl
      · dsimp only; rw [LR.asNum_rel hxy]
    rintro ti _ rfl
    exact ite_rel (K.MR _) (fun _ => K.err _) fun _ => ite_rel (K.MR _) (fun _ => K.err _) fun _ =>
      ite_rel (K.MR _) (fun _ => K.err _) fun _ => LR.allocRet K hhc ((hl.drop _).take _)

theorem fund_evalEs_step {es1 es2 : List Expr} (h : All2 (SimE N.rd N.bd) es1 es2) :
    K.MR (L.Res (fun w => All2 (L.VR w)) w) (evalEs Φ (n+1) σ1 μ1 C es1) (evalEs Φ (m+1) σ2 μ2 C es2) := by
  cases h with
  | nil => dsimp only [evalEs]; exact LR.ret K .nil hh
  | cons h1 h2 =>
    dsimp only [evalEs]
    refine LR.bind (ih.evalE he hh C h1) fun w' v m v' m' hf hv hh' => ?_
    refine LR.bind (ih.evalEs (N.emono hf he) hh' C h2) fun w'' vs m2 ws m2' hf' hvs hh'' => ?_
    exact LR.ret K (.cons (L.vmono hf' hv) hvs) hh''

theorem fund_evalChain_step {a1 a2 : Val} (ops : List CmpOp) {es1 es2 : List Expr} (h : All2 (SimE N.rd N.bd) es1 es2)
    (ha : L.VR w a1 a2) :
    K.MR (L.Res L.VR w) (evalChain Φ (n+1) σ1 μ1 C a1 ops es1) (evalChain Φ (m+1) σ2 μ2 C a2 ops es2) := by
  cases ops with
  | nil => cases h <;> dsimp only [evalChain] <;> exact LR.ret K (L.flat rfl) hh
  | cons op ops =>
    cases h with
    | nil => dsimp only [evalChain]; exact LR.ret K (L.flat rfl) hh
    | cons hb hrest =>
      dsimp only [evalChain]
      refine LR.bind (ih.evalE he hh C hb) fun w' bv1 m1 bv2 m2 hf hbv hh' => ?_
      have ha' := L.vmono hf ha
      refine K.bind (P := Eq) ?_ ?_
      · cases op with
        | eq => exact LR.valEq_rel K hh' n m ih.fr a1 a2 bv1 bv2 ha' hbv
        | ne =>
          dsimp only
          rw [map_eq_bind, map_eq_bind]
          exact K.bind (LR.valEq_rel K hh' n m ih.fr a1 a2 bv1 bv2 ha' hbv) fun x y h => K.lift (by subst h; exact rfl)
        | _ => dsimp only; rw [LR.asNum_rel ha', LR.asNum_rel hbv]; exact K.lift (RelM.eq_iff.2 rfl)
      rintro ok _ rfl
      exact ite_rel (K.MR _) (fun _ => ih.evalChain (N.emono hf he) hh' C ops hrest hbv) fun _ => LR.ret K (L.flat rfl) hh'

theorem fund_evalAnd_step {es1 es2 : List Expr} (h : All2 (SimE N.rd N.bd) es1 es2) :
    K.MR (L.Res L.VR w) (evalAnd Φ (n+1) σ1 μ1 C es1) (evalAnd Φ (m+1) σ2 μ2 C es2) := by
  rcases h with _ | ⟨h1, _ | ⟨h2, h3⟩⟩
  · dsimp only [evalAnd]; exact LR.ret K (L.flat rfl) hh
  · dsimp only [evalAnd]; exact ih.evalE he hh C h1
  · dsimp only [evalAnd]
    refine ih.cond he hh C h1 fun w' b _ _ _ _ he' hh' => ?_
    exact ite_rel (K.MR _) (fun _ => ih.evalAnd he' hh' C (.cons h2 h3)) fun _ => LR.ret K (L.flat rfl) hh'

theorem fund_evalOr_step {es1 es2 : List Expr} (h : All2 (SimE N.rd N.bd) es1 es2) :
    K.MR (L.Res L.VR w) (evalOr Φ (n+1) σ1 μ1 C es1) (evalOr Φ (m+1) σ2 μ2 C es2) := by
  rcases h with _ | ⟨h1, _ | ⟨h2, h3⟩⟩
  · dsimp only [evalOr]; exact LR.ret K (L.flat rfl) hh
  · dsimp only [evalOr]; exact ih.evalE he hh C h1
  · dsimp only [evalOr]
    refine ih.cond he hh C h1 fun w' b _ _ _ _ he' hh' => ?_
    exact ite_rel (K.MR _) (fun _ => LR.ret K (L.flat rfl) hh') fun _ => ih.evalOr he' hh' C (.cons h2 h3)

theorem fund_evalComp_step {ps qs : List Pat} {its its' : List Expr} {elt elt' : Expr} (hps : All2 (SimP N.bd) ps qs)
    (hits : All2 (SimE N.rd N.bd) its its') (helt : SimE N.rd N.bd elt elt') :
    K.MR (L.Res (fun w => All2 (L.VR w)) w) (evalComp Φ (n+1) σ1 μ1 C ps its elt) (evalComp Φ (m+1) σ2 μ2 C qs its' elt') := by
  cases hps with
  | nil =>
    dsimp only [evalComp]
    refine LR.bind (ih.evalE he hh C helt) fun w' v m v' m' _ hv hh' => ?_
    exact LR.ret K (.cons hv .nil) hh'
  | cons hp hps =>
    cases hits with
    | nil => dsimp only [evalComp]; exact K.err _
    | cons hit hits =>
      dsimp only [evalComp]
      refine LR.bind (ih.evalE he hh C hit) fun w' iv m iv' m' hf hiv hh' => ?_
      refine K.bind (K.lift (LR.asList_rel hh' hiv)) fun _ _ _ => ?_
      rcases L.inv hiv with ⟨hfl, rfl⟩ | ⟨xs, ys, rfl, rfl, _⟩ | ⟨r, r', rfl, rfl, hr⟩
      · cases iv' <;> first | exact K.err _ | cases hfl
      · exact K.err _
      · exact ih.compLoop (N.emono hf he) hh' C 0 hp hps hits helt hr

theorem fund_compLoop_step {r r' : Nat} (i : Nat) {p q : Pat} {ps qs : List Pat} {its its' : List Expr} {elt elt' : Expr}
    (hp : SimP N.bd p q) (hps : All2 (SimP N.bd) ps qs) (hits : All2 (SimE N.rd N.bd) its its')
    (helt : SimE N.rd N.bd elt elt') (hr : L.LocR w r r') :
    K.MR (L.Res (fun w => All2 (L.VR w)) w) (compLoop Φ (n+1) σ1 μ1 C r i p ps its elt)
      (compLoop Φ (m+1) σ2 μ2 C r' i q qs its' elt') := by
  dsimp only [compLoop]
  refine K.bind (K.lift (L.load hh hr)) fun l1 l2 hl => ?_
  rcases (hl.get i).cases with ⟨e1, e2⟩ | ⟨x1, x2, e1, e2, hi⟩
  · rw [e1, e2]; exact LR.ret K .nil hh
  · rw [e1, e2]
    refine K.bind (LR.bindPat_rel K N n m ih.fr x1 x2 σ1 σ2 hp he hi) fun σ1' σ2' he' => ?_
    refine LR.bind (ih.evalComp he' hh C hps hits helt) fun w' vs m1 ws m2 hf hvs hh' => ?_
    refine LR.bind (ih.compLoop (N.emono hf he) hh' C (i + 1) hp hps hits helt (L.lmono hf hr)) fun w'' vs' m1' ws' m2' hf' hvs' hh'' => ?_
    exact LR.ret K ((hvs.imp fun _ _ => L.vmono hf').append hvs') hh''

theorem fund_evalB_step {ss1 ss2 : List Stmt} (h : All2 (SimS N.rd N.bd) ss1 ss2) :
    K.MR (L.Res N.OR w) (evalB Φ (n+1) σ1 μ1 C ss1) (evalB Φ (m+1) σ2 μ2 C ss2) := by
  cases h with
  | nil => dsimp only [evalB]; exact LR.ret K (Q := N.OR) he hh
  | cons hs hss =>
    dsimp only [evalB]
    refine LR.bind (ih.evalS he hh C hs) fun w' o1 m o2 m' _ ho hh' => ?_
    rcases ho.cases with ⟨σ1', σ2', rfl, rfl, he'⟩ | ⟨v1, v2, rfl, rfl, hv⟩
    · exact ih.evalB he' hh' C hss
    · exact LR.ret K (Q := N.OR) hv hh'

theorem fund_forLoop_step {r r' : Nat} (i : Nat) {p q : Pat} {b b' : List Stmt} (hp : SimP N.bd p q)
    (hb : All2 (SimS N.rd N.bd) b b') (hr : L.LocR w r r') :
    K.MR (L.Res N.OR w) (forLoop Φ (n+1) σ1 μ1 C r i p b) (forLoop Φ (m+1) σ2 μ2 C r' i q b') := by
  dsimp only [forLoop]
  refine K.bind (K.lift (L.load hh hr)) fun l1 l2 hl => ?_
  rcases (hl.get i).cases with ⟨e1, e2⟩ | ⟨x1, x2, e1, e2, hi⟩
  · rw [e1, e2]; exact LR.ret K (Q := N.OR) he hh
  · rw [e1, e2]
    refine K.bind (LR.bindPat_rel K N n m ih.fr x1 x2 σ1 σ2 hp he hi) fun σ1' σ2' he' => ?_
    refine LR.bind (ih.evalB he' hh C hb) fun w' o1 m o2 m' hf ho hh' => ?_
    rcases ho.cases with ⟨σ1'', σ2'', rfl, rfl, he''⟩ | ⟨v1, v2, rfl, rfl, hv⟩
    · exact ih.forLoop he'' hh' C (i + 1) hp hb (L.lmono hf hr)
    · exact LR.ret K (Q := N.OR) hv hh'

theorem fund_evalS_step {s1 s2 : Stmt} (h : SimS N.rd N.bd s1 s2) :
    K.MR (L.Res N.OR w) (evalS Φ (n+1) σ1 μ1 C s1) (evalS Φ (m+1) σ2 μ2 C s2) := by
  have h0 := h    -- the `while` case runs the same statement again
  cases h with
  | assign hp hx =>
    dsimp only [evalS]
    refine LR.bind (ih.evalE he hh C hx) fun w' v m' v' m'' hf hv hh' => ?_
    refine K.bind (LR.bindPat_rel K N n m ih.fr v v' σ1 σ2 hp (N.emono hf he) hv) fun σ1' σ2' he' => ?_
    exact LR.ret K (Q := N.OR) he' hh'
  | iassign hx hidxs hrhs =>
    dsimp only [evalS]
    refine LR.bind (ih.evalE he hh C hrhs) fun w' v m1 v' m1' hf hv hh' => ?_
    refine LR.bind (ih.evalEs (N.emono hf he) hh' C hidxs) fun w'' ivs m2 ivs' m2' hf' hivs hh'' => ?_
    dsimp only
    rw [LR.mapM_blind asIndex (fun _ _ h => LR.asIndex_rel h) hivs]
    refine K.bind_same fun ks => ?_
    have he'' := N.emono hf' (N.emono hf he)
    rcases (N.get he'' hx).cases with ⟨e1, e2⟩ | ⟨base1, base2, e1, e2, hbase⟩
    · rw [e1, e2]; exact K.err _
    · rw [e1, e2]
      dsimp only
      refine K.bind (K.lift (LR.walk_rel hh'' ks base1 base2 hbase)) ?_
      rintro ⟨r, k⟩ ⟨r', k'⟩ ⟨hr, hk⟩
      dsimp only at hr hk ⊢
      subst hk
      rcases (L.load hh'' hr).cases with ⟨e, g1, g2⟩ | ⟨l1, l2, g1, g2, hg⟩
      · rw [g1, g2]; exact K.err _
      · rw [g1, g2]
        show K.MR _ (if k < l1.length then _ else _) (if k < l2.length then _ else _)
        rw [hg.length_eq]
        split
        · obtain ⟨w3, hf3, hh3⟩ := L.store hh'' hr g1 g2 (hg.set (L.vmono hf' hv) k) (List.length_set ..) (List.length_set ..)
          exact K.lift ⟨w3, hf3, N.emono hf3 he'', hh3⟩
        · exact K.err _
  | ifte hc ht hf =>
    dsimp only [evalS]
    refine ih.cond he hh C hc fun w' b _ _ _ _ he' hh' => ?_
    exact ite_rel (K.MR _) (fun _ => ih.evalB he' hh' C ht) fun _ => ih.evalB he' hh' C hf
  | if1 hc ht =>
    dsimp only [evalS]
    refine ih.cond he hh C hc fun w' b _ _ _ _ he' hh' => ?_
    exact ite_rel (K.MR _) (fun _ => ih.evalB he' hh' C ht) fun _ => LR.ret K (Q := N.OR) he' hh'
  | «while» hc hb =>
    dsimp only [evalS]
    refine ih.cond he hh C hc fun w' bb _ _ _ _ he' hh' => ?_
    split
    · refine LR.bind (ih.evalB he' hh' C hb) fun w'' o1 m2 o2 m2' _ ho hh'' => ?_
      rcases ho.cases with ⟨σ1', σ2', rfl, rfl, he''⟩ | ⟨v1, v2, rfl, rfl, hv⟩
      · exact ih.evalS he'' hh'' C h0
      · exact LR.ret K (Q := N.OR) hv hh''
    · exact LR.ret K (Q := N.OR) he' hh'
  | «for» hp hit hb =>
    dsimp only [evalS]
    refine LR.bind (ih.evalE he hh C hit) fun w' iv m' iv' m'' hf hiv hh' => ?_
    rcases L.inv hiv with ⟨hfl, rfl⟩ | ⟨xs, ys, rfl, rfl, _⟩ | ⟨r, r', rfl, rfl, hr⟩
    · cases iv' <;> first | exact K.err _ | cases hfl
    · exact K.err _
    · exact ih.forLoop (N.emono hf he) hh' C 0 hp hb hr
  | «with» hce hnm hb =>
    dsimp only [evalS]
    refine LR.bind (ih.evalE he hh .real hce) fun w' cv m' cv' m'' hf hcv hh' => ?_
    rcases L.inv hcv with ⟨hfl, rfl⟩ | ⟨xs, ys, rfl, rfl, _⟩ | ⟨r, r', rfl, rfl, hr⟩
    · cases cv' with
      | ctx C' =>
        refine ih.evalB ?_ hh' C' hb
        rcases hnm.cases with ⟨rfl, rfl⟩ | ⟨x, y, rfl, rfl, hxy⟩
        · exact N.emono hf he
        · exact N.set hxy (N.emono hf he) (L.flat rfl)
      | _ => exact K.err _
    · exact K.err _
    · exact K.err _
  | assert hx =>
    dsimp only [evalS]
    refine ih.cond he hh C hx fun w' b _ _ _ _ he' hh' => ?_
    exact ite_rel (K.MR _) (fun _ => LR.ret K (Q := N.OR) he' hh') fun _ => K.err _
  | effect hx =>
    dsimp only [evalS]
    refine LR.bind (ih.evalE he hh C hx) fun w' v m' v' m'' hf hv hh' => ?_
    exact LR.ret K (Q := N.OR) (N.emono hf he) hh'
  | ret hx =>
    dsimp only [evalS]
    refine LR.bind (ih.evalE he hh C hx) fun w' v m' v' m'' hf hv hh' => ?_
    exact LR.ret K (Q := N.OR) hv hh'
  | pass => dsimp only [evalS]; exact LR.ret K (Q := N.OR) he hh

end

theorem fund (K : MK) (L : LR) (Φ : Funs) : ∀ n m, K.FR n m → Fund K L Φ n m
  | 0, m, h => by
    constructor <;> first | exact h | (intros; exact K.zero h fun h0 => by subst h0; rfl)
  | n + 1, m, h => by
    obtain ⟨m, rfl, h'⟩ := K.succ h
    have ih := fund K L Φ n m h'
    exact ⟨h, fund_evalE_step ih, fund_evalEs_step ih, fund_evalChain_step ih, fund_evalAnd_step ih,
      fund_evalOr_step ih, fund_evalComp_step ih, fund_compLoop_step ih, fund_evalS_step ih, fund_forLoop_step ih,
      fund_evalB_step ih⟩

end Fpy.Xform
