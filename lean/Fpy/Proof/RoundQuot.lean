/-
The arithmetic specification of rounding on a spacing `G` (`Spec.roundQuotG`; `Spec.roundQuot` is `G = 2^k`), and the
fact everything about sticky bits rests on: on an EVEN spacing `2·h` the result only depends on the half-cell index
`c / h` and on whether `c` lies strictly inside that half-cell, i.e. on `ratCode c h` (`roundQuotG_ratCode`).
At the end, integer powers of two in `Rat` (`RF.two_zpow_*`): every module that speaks of values imports this one.
-/
import Fpy.Spec.RoundRat
namespace Fpy.Spec
open Fpy

theorem roundQuotG_exact (rm : RM) (s : Bool) (c G : Nat) (h : c % G = 0) : roundQuotG rm s c G = c / G := by
  unfold roundQuotG; simp only [h, if_true]

end Fpy.Spec
namespace Fpy
open Fpy.Spec

/-- the decision of `_round_increment` as a function of the mode's `(nearest, direction)` pair.  Of `kept` only the
sign and the significand matter, so facts about the specification alone are drawn from it at `⟨s, 0, c / G⟩`. -/
def incrOf (nd : Bool × Dir) (kept : RF) (r G : Nat) : Bool :=
  if nd.1 = true ∧ 2 * r ≠ G then decide (G < 2 * r) else kept.incrDir nd.2

/-- the specification, written from the modes' names, against the table `to_direction` -/
theorem roundQuotG_incr (rm : RM) (kept : RF) (c G : Nat) (hk : kept.c = c / G) (hr : c % G ≠ 0) :
    roundQuotG rm kept.s c G = if incrOf (rm.toDirection kept.s) kept (c % G) G then c / G + 1 else c / G := by
  unfold roundQuotG incrOf
  simp only [hr, if_false]
  cases rm
  case rtp | rtn => cases kept.s <;> simp [RM.toDirection, RF.incrDir]
  case rtz | raz => simp [RM.toDirection, RF.incrDir]
  case rte | rto => rcases Nat.mod_two_eq_zero_or_one (c / G) with h | h <;> simp [RM.toDirection, RF.incrDir, hk, h]
  case rne =>
    rcases Nat.lt_trichotomy (2 * (c % G)) G with h | h | h
    · simp [RM.toDirection, h, Nat.ne_of_lt h, Nat.lt_asymm h]
    · rcases Nat.mod_two_eq_zero_or_one (c / G) with h' | h' <;> simp [RM.toDirection, RF.incrDir, hk, h, h']
    · simp [RM.toDirection, h, Nat.ne_of_gt h, Nat.lt_asymm h]
  case rna =>
    rcases Nat.lt_trichotomy (2 * (c % G)) G with h | h | h
    · simp [RM.toDirection, h, Nat.ne_of_lt h, Nat.lt_asymm h]
    · simp [RM.toDirection, RF.incrDir, h]
    · simp [RM.toDirection, h, Nat.ne_of_gt h, Nat.lt_asymm h]

end Fpy
namespace Fpy.Spec
open Fpy

theorem roundQuotG_neighbour (rm : RM) (s : Bool) (c G : Nat) :
    roundQuotG rm s c G = c / G ∨ roundQuotG rm s c G = c / G + 1 := by
  by_cases hr : c % G = 0
  · exact Or.inl (roundQuotG_exact rm s c G hr)
  · rw [roundQuotG_incr rm ⟨s, 0, c / G⟩ c G rfl hr]
    split
    · exact Or.inr rfl
    · exact Or.inl rfl

theorem roundQuotG_rtz (s : Bool) (c G : Nat) : roundQuotG .rtz s c G = c / G := by
  unfold roundQuotG; simp only [ite_self]

theorem roundQuotG_raz (s : Bool) (c G : Nat) : roundQuotG .raz s c G = if c % G = 0 then c / G else c / G + 1 := rfl

theorem roundQuotG_nearest_side (rm : RM) (hrm : rm = .rne ∨ rm = .rna) (s : Bool) (c G : Nat) :
    (roundQuotG rm s c G = c / G ∧ 2 * (c % G) ≤ G) ∨ (roundQuotG rm s c G = c / G + 1 ∧ G ≤ 2 * (c % G)) := by
  by_cases hr : c % G = 0
  · exact Or.inl ⟨roundQuotG_exact rm s c G hr, by omega⟩
  · have hn : (rm.toDirection s).1 = true := by rcases hrm with rfl | rfl <;> rfl
    rw [roundQuotG_incr rm ⟨s, 0, c / G⟩ c G rfl hr]
    by_cases h2 : 2 * (c % G) = G
    · cases incrOf (rm.toDirection s) ⟨s, 0, c / G⟩ (c % G) G
      · exact Or.inl ⟨rfl, by omega⟩
      · exact Or.inr ⟨rfl, by omega⟩
    · unfold incrOf
      simp only [hn, h2, true_and, ne_eq, not_false_eq_true, if_true]
      by_cases h3 : G < 2 * (c % G) <;> simp only [h3, decide_true, decide_false, Bool.false_eq_true, if_true, if_false]
      · exact Or.inr ⟨trivial, by omega⟩
      · exact Or.inl ⟨trivial, by omega⟩

theorem within_half {c G Q : Nat} (hG : 0 < G)
    (h : (Q = c / G ∧ 2 * (c % G) ≤ G) ∨ (Q = c / G + 1 ∧ G ≤ 2 * (c % G))) :
    2 * (Q * G) ≤ 2 * c + G ∧ 2 * c ≤ 2 * (Q * G) + G := by
  have hd := Nat.div_add_mod c G
  have hm := Nat.mod_lt c hG
  rw [Nat.mul_comm G] at hd
  rcases h with ⟨rfl, h⟩ | ⟨rfl, h⟩
  · omega
  · rw [Nat.add_mul, Nat.one_mul]; omega

theorem roundQuotG_congr (rm : RM) (s : Bool) (c G c' G' : Nat)
    (hq : c' / G' = c / G)
    (h0 : c' % G' = 0 ↔ c % G = 0)
    (hlt : 2 * (c' % G') < G' ↔ 2 * (c % G) < G)
    (hgt : 2 * (c' % G') > G' ↔ 2 * (c % G) > G) :
    roundQuotG rm s c' G' = roundQuotG rm s c G := by
  unfold roundQuotG
  simp only [hq, h0, hlt, hgt]

theorem roundQuot_neighbour (rm : RM) (s : Bool) (c k : Nat) :
    roundQuot rm s c k = c / 2 ^ k ∨ roundQuot rm s c k = c / 2 ^ k + 1 :=
  roundQuotG_neighbour rm s c (2 ^ k)

theorem roundQuot_exact (rm : RM) (s : Bool) (c k : Nat) (h : c % 2 ^ k = 0) :
    roundQuot rm s c k = c / 2 ^ k :=
  roundQuotG_exact rm s c (2 ^ k) h

theorem roundQuot_nearest (rm : RM) (hrm : rm = .rne ∨ rm = .rna) (s : Bool) (c k : Nat) :
    2 * (roundQuot rm s c k * 2 ^ k) ≤ 2 * c + 2 ^ k ∧ 2 * c ≤ 2 * (roundQuot rm s c k * 2 ^ k) + 2 ^ k :=
  within_half (Nat.pow_pos (by decide)) (roundQuotG_nearest_side rm hrm s c (2 ^ k))

theorem roundQuot_rtz (s : Bool) (c k : Nat) : roundQuot .rtz s c k * 2 ^ k ≤ c := by
  rw [← roundQuotG_pow, roundQuotG_rtz]; exact Nat.div_mul_le_self c (2 ^ k)

theorem roundQuot_raz (s : Bool) (c k : Nat) : c ≤ roundQuot .raz s c k * 2 ^ k := by
  rw [← roundQuotG_pow, roundQuotG_raz]
  split
  · rename_i h; exact Nat.le_of_eq (Nat.div_mul_cancel (Nat.dvd_of_mod_eq_zero h)).symm
  · rw [Nat.mul_comm]; exact Nat.le_of_lt (Nat.lt_mul_div_succ c (Nat.pow_pos (by decide)))

theorem roundQuot_within (rm : RM) (s : Bool) (c J : Nat) :
    roundQuot rm s c J * 2 ^ J < c + 2 ^ J ∧ c < roundQuot rm s c J * 2 ^ J + 2 ^ J := by
  have hdm := Nat.div_add_mod c (2 ^ J)
  have hml : c % 2 ^ J < 2 ^ J := Nat.mod_lt _ (Nat.pow_pos (by decide))
  have hex := roundQuot_exact rm s c J
  rw [Nat.mul_comm] at hdm
  rcases roundQuot_neighbour rm s c J with h | h <;> rw [h]
  · omega
  · rw [h] at hex
    rw [Nat.add_mul, Nat.one_mul]
    have : c % 2 ^ J ≠ 0 := fun hb => by have := hex hb; omega
    omega

theorem roundQuot_scale (rm : RM) (s : Bool) (c k d : Nat) :
    roundQuot rm s (c * 2 ^ d) (k + d) = roundQuot rm s c k := by
  have hD : 0 < 2 ^ d := Nat.pow_pos (by decide)
  have eG : 2 ^ (k + d) = 2 ^ k * 2 ^ d := Nat.pow_add 2 k d
  have hr : (c * 2 ^ d) % (2 ^ k * 2 ^ d) = (c % 2 ^ k) * 2 ^ d := Nat.mul_mod_mul_right _ _ _
  rw [← roundQuotG_pow, ← roundQuotG_pow]
  apply roundQuotG_congr
  · rw [eG]; exact Nat.mul_div_mul_right _ _ hD
  · rw [eG, hr]
    constructor
    · intro h; rcases Nat.mul_eq_zero.1 h with h | h
      · exact h
      · omega
    · intro h; rw [h]; simp
  · rw [eG, hr, ← Nat.mul_assoc]; exact Nat.mul_lt_mul_right hD
  · rw [eG, hr, ← Nat.mul_assoc]; exact Nat.mul_lt_mul_right hD

theorem roundQuot_le_pow (rm : RM) (s : Bool) (c k p : Nat) (h : c / 2 ^ k < 2 ^ p) : roundQuot rm s c k ≤ 2 ^ p := by
  rcases roundQuot_neighbour rm s c k with h | h <;> omega

end Fpy.Spec

namespace Fpy.C03
open Fpy Fpy.Spec

/-- the code of the non-negative rational `N / D` to half a unit with a sticky bit: `2·⌊N/D⌋ + [N/D ∉ ℤ]`
(`C02.realCode (N / D) (N % D != 0)`) -/
def ratCode (N D : Nat) : Nat := 2 * (N / D) + (if N % D = 0 then 0 else 1)

/-- **An even spacing sees `c` through its code.**  With `u = c / h` the half-cell and `v = c % h` the offset in it,
the cell is `u / 2`, the remainder `v + h·(u % 2)`: zero, below, at or above the midpoint `h` according to `u % 2` and
`v = 0` alone, which is what the code `2u + [v ≠ 0]` shows on a spacing of 4. -/
theorem roundQuotG_ratCode (rm : RM) (s : Bool) (c h : Nat) (hh : 0 < h) :
    roundQuotG rm s c (2 * h) = roundQuotG rm s (ratCode c h) 4 ∧ (c % (2 * h) = 0 ↔ ratCode c h % 4 = 0) := by
  have hv := Nat.mod_lt c hh
  have hq : c / (2 * h) = c / h / 2 := by rw [Nat.mul_comm, Nat.div_div_eq_div_mul]
  have hr : c % (2 * h) = c % h + h * (c / h % 2) := by rw [Nat.mul_comm, Nat.mod_mul]
  unfold ratCode
  generalize c / h = u at *
  generalize c % h = v at *
  -- name the sticky bit `b ∈ {0, 1}`, so that `omega` sees a linear term
  obtain ⟨b, hb, hb0⟩ : ∃ b, (if v = 0 then 0 else 1) = b ∧ (b = 0 ∧ v = 0 ∨ b = 1 ∧ v ≠ 0) := by
    by_cases hv0 : v = 0
    · exact ⟨0, by simp [hv0], Or.inl ⟨rfl, hv0⟩⟩
    · exact ⟨1, by simp [hv0], Or.inr ⟨rfl, hv0⟩⟩
  rw [hb]
  have c1 : (2 * u + b) / 4 = u / 2 := by omega
  have c2 : (2 * u + b) % 4 = 2 * (u % 2) + b := by omega
  have key : ((2 * u + b) % 4 = 0 ↔ c % (2 * h) = 0) ∧
      (2 * ((2 * u + b) % 4) < 4 ↔ 2 * (c % (2 * h)) < 2 * h) ∧
      (2 * ((2 * u + b) % 4) > 4 ↔ 2 * (c % (2 * h)) > 2 * h) := by
    rw [c2, hr]
    rcases Nat.mod_two_eq_zero_or_one u with t | t <;> rw [t] <;> simp only [Nat.mul_zero, Nat.mul_one] <;> omega
  exact ⟨(roundQuotG_congr rm s _ _ _ _ (c1.trans hq.symm) key.1 key.2.1 key.2.2).symm, key.1.symm⟩

theorem mod_mul_eq_zero (c J M : Nat) (hJ : 0 < J) : c % (J * M) = 0 ↔ c % J = 0 ∧ c / J % M = 0 := by
  rw [Nat.mod_mul, Nat.add_eq_zero_iff, Nat.mul_eq_zero]
  exact and_congr_right fun _ => ⟨fun h => h.resolve_left (by omega), Or.inr⟩

theorem lost_mul (c J M : Nat) (hJ : 0 < J) : (c % (J * M) != 0) = ((c / J % M != 0) || (c % J != 0)) := by
  rw [Bool.eq_iff_iff]
  simp only [bne_iff_ne, ne_eq, Bool.or_eq_true, mod_mul_eq_zero _ _ _ hJ]
  rw [Decidable.not_and_iff_not_or_not, Or.comm]

theorem ratCode_ratCode (N D H : Nat) (hD : 0 < D) : ratCode (ratCode N D) (2 * H) = ratCode N (D * H) := by
  have hq : ratCode N D / 2 = N / D := by unfold ratCode; split <;> omega
  have hr : ratCode N D % 2 = 0 ↔ N % D = 0 := by unfold ratCode; split <;> omega
  show 2 * (ratCode N D / (2 * H)) + (if ratCode N D % (2 * H) = 0 then 0 else 1)
    = 2 * (N / (D * H)) + (if N % (D * H) = 0 then 0 else 1)
  rw [← Nat.div_div_eq_div_mul, ← Nat.div_div_eq_div_mul, hq]
  simp only [mod_mul_eq_zero _ _ _ hD, mod_mul_eq_zero _ 2 H (by decide), hq, hr]

/-- **The code rounds like the rational** `N / D` on every even number `2·H` of units (`roundQuotG · N (D·2H)` compares
`N` with multiples and midpoints of `D·2H`). -/
theorem ratCode_rounds_even (rm : RM) (s : Bool) (N D H : Nat) (hD : 0 < D) (hH : 0 < H) :
    roundQuotG rm s (ratCode N D) (2 * (2 * H)) = roundQuotG rm s N (D * (2 * H)) ∧
    (ratCode N D % (2 * (2 * H)) = 0 ↔ N % (D * (2 * H)) = 0) := by
  obtain ⟨a1, a2⟩ := roundQuotG_ratCode rm s (ratCode N D) (2 * H) (by omega)
  obtain ⟨b1, b2⟩ := roundQuotG_ratCode rm s N (D * H) (Nat.mul_pos hD hH)
  rw [ratCode_ratCode N D H hD] at a1 a2
  rw [Nat.mul_left_comm D 2 H]
  exact ⟨a1.trans b1.symm, a2.trans b2.symm⟩

theorem ratCode_rounds (rm : RM) (s : Bool) (N D K : Nat) (hD : 0 < D) (hK : 1 ≤ K) :
    roundQuot rm s (ratCode N D) (K + 1) = roundQuotG rm s N (D * 2 ^ K) ∧
    (ratCode N D % 2 ^ (K + 1) = 0 ↔ N % (D * 2 ^ K) = 0) := by
  obtain ⟨H, rfl⟩ : ∃ H, K = H + 1 := ⟨K - 1, by omega⟩
  have e1 : 2 ^ (H + 1) = 2 * 2 ^ H := by rw [Nat.pow_succ, Nat.mul_comm]
  have e2 : 2 ^ (H + 1 + 1) = 2 * (2 * 2 ^ H) := by rw [Nat.pow_succ, e1, Nat.mul_comm]
  rw [← roundQuotG_pow, e2, e1]
  exact ratCode_rounds_even rm s N D (2 ^ H) hD (Nat.pow_pos (by decide))

end Fpy.C03

namespace Fpy.RF

theorem two_zpow_pos (e : Int) : (0 : Rat) < 2 ^ e := Rat.zpow_pos (by decide)
theorem two_zpow_ne (e : Int) : (2 : Rat) ^ e ≠ 0 := Rat.ne_of_gt (two_zpow_pos e)
theorem two_zpow_add (a b : Int) : (2 : Rat) ^ (a + b) = 2 ^ a * 2 ^ b := Rat.zpow_add (by decide) a b
theorem two_zpow_nat (n : Nat) : (2 : Rat) ^ (n : Int) = ((2 ^ n : Nat) : Rat) := by
  rw [Rat.zpow_natCast, Rat.natCast_pow]; rfl
theorem two_zpow_nat' (n : Nat) : (2 : Rat) ^ (n : Int) = (((2 : Int) ^ n : Int) : Rat) := by
  rw [Rat.zpow_natCast, Rat.intCast_pow]; rfl

end Fpy.RF
