/-
The model's rounding core (`RealFloat.round`) returns `Spec.roundVal` of the operand's value, for the fixed and
the float shape; the results are representable; `p`-digit floats have no digits below `e − p + 1`, so the two
grid neighbours at the rounding position are adjacent members of the format; stochastic rounding is
deterministic rounding under some mode.
-/
import Fpy.Proof.RoundVal
import Fpy.Proof.Exact
namespace Fpy.C01v
open Fpy Fpy.Spec

theorem onGrid_of_le_exp (x : RF) (g : Int) (h : g ≤ x.exp) : OnGrid g x.val :=
  ⟨_, RF.val_sc x g (.inr h)⟩

theorem val_as_frac (x : RF) (n : Int) (hle : x.exp ≤ n) :
    x.val = RF.sgn x.s * ((x.c : Rat) / ((2 ^ (n + 1 - x.exp).toNat : Nat) : Rat)) * (2 : Rat) ^ (n + 1) := by
  generalize hk : (n + 1 - x.exp).toNat = k
  have e : n + 1 = x.exp + (k : Int) := by omega
  rw [RF.val_eq, e, RF.two_zpow_add, RF.two_zpow_nat]
  have : ((2 ^ k : Nat) : Rat) ≠ 0 := by
    have : 0 < 2 ^ k := Nat.pow_pos (by decide)
    exact Rat.ne_of_gt (Rat.natCast_pos.2 this)
  generalize ((2 ^ k : Nat) : Rat) = P at *
  grind

theorem fixed_val (x : RF) (n : Int) (rm : RM) (hle : x.exp ≤ n) :
    (⟨x.s, n + 1, roundQuot rm x.s x.c (n + 1 - x.exp).toNat⟩ : RF).val = roundVal rm (n + 1) x.val := by
  rw [RF.val_mk]
  conv => rhs; rw [val_as_frac x n hle]
  rw [roundVal_frac rm x.s x.c _ (Nat.pow_pos (by decide)) (n + 1), roundQuot_eq_roundDiv]

theorem onGrid_iff_mod (x : RF) (n : Int) :
    OnGrid (n + 1) x.val ↔ x.c % 2 ^ (n + 1 - x.exp).toNat = 0 :=
  (RF.low_digits_zero_iff x (n + 1)).symm

theorem abs_intCast (m : Int) : ((m : Rat)).abs = ((m.natAbs : Nat) : Rat) := by
  by_cases h : 0 ≤ m
  · rw [Rat.abs_of_nonneg (Rat.intCast_nonneg.2 h)]
    have : m = (m.natAbs : Int) := by omega
    conv => lhs; rw [this]
    rfl
  · have h' : m ≤ 0 := by omega
    rw [Rat.abs_of_nonpos (by simpa using Rat.intCast_le_intCast.2 h')]
    have : -m = (m.natAbs : Int) := by omega
    rw [← Rat.intCast_neg, this]
    rfl

theorem onGrid_mono {u v : Int} (h : v ≤ u) {q : Rat} (hq : OnGrid u q) : OnGrid v q := by
  obtain ⟨m, hm⟩ := hq
  obtain ⟨k, hk⟩ : ∃ k : Nat, u = v + (k : Int) := ⟨(u - v).toNat, by omega⟩
  refine ⟨m * (2 : Int) ^ k, ?_⟩
  rw [hm, hk, RF.two_zpow_add, RF.two_zpow_nat', Rat.intCast_mul]
  grind

theorem repFloat_onGrid (p : Nat) (e : Int) (q : Rat) (h : RepFloat p q) (hq : (2 : Rat) ^ e ≤ q.abs) :
    OnGrid (e - p + 1) q := by
  rcases h with h | ⟨m, e', hm, hp⟩
  · rw [h]; exact onGrid_zero _
  · have hG := RF.two_zpow_pos e'
    have habs : q.abs = ((m.natAbs : Nat) : Rat) * (2 : Rat) ^ e' := by
      rw [hm, abs_mul_pos _ _ hG, abs_intCast]
    have hlt : ((m.natAbs : Nat) : Rat) * (2 : Rat) ^ e' < (2 : Rat) ^ ((p : Int) + e') := by
      rw [RF.two_zpow_add, RF.two_zpow_nat]
      exact Rat.mul_lt_mul_of_pos_right (Rat.natCast_lt_natCast.2 hp) hG
    have : e < (p : Int) + e' := lt_of_zpow_lt (by rw [habs] at hq; grind)
    rw [hm]
    exact onGrid_mono (by omega) ⟨m, rfl⟩

theorem no_grid_between (u : Int) (a : Int) (z : Rat) (hz : OnGrid u z) :
    ¬ ((a : Rat) * (2 : Rat) ^ u < z ∧ z < ((a + 1 : Int) : Rat) * (2 : Rat) ^ u) := by
  obtain ⟨m, hm⟩ := hz
  rintro ⟨h1, h2⟩
  have hG := RF.two_zpow_pos u
  rw [hm] at h1 h2
  have a1 := Rat.intCast_lt_intCast.1 ((Rat.mul_lt_mul_right hG).1 h1)
  have a2 := Rat.intCast_lt_intCast.1 ((Rat.mul_lt_mul_right hG).1 h2)
  omega

theorem repFloat_of_bitLength (y : RF) (p : Nat) (h : bitLength y.c ≤ p) : RepFloat p y.val := by
  refine Or.inr ⟨y.m, y.exp, RF.val_eq_m y, ?_⟩
  have : y.m.natAbs = y.c := by unfold RF.m; split <;> omega
  rw [this]; exact (bitLength_le_iff _ _).1 h

theorem val_abs_ge (x : RF) (hc : x.c ≠ 0) : (2 : Rat) ^ x.e ≤ x.val.abs := by
  rw [RF.abs_val_eq]
  have hb := bitLength_pos hc
  have h1 := two_pow_le_of_bitLength hc
  have e : x.e = ((bitLength x.c - 1 : Nat) : Int) + x.exp := by unfold RF.e RF.p; omega
  rw [e, RF.two_zpow_add, RF.two_zpow_nat]
  exact Rat.mul_le_mul_of_nonneg_right (Rat.natCast_le_natCast.2 h1) (Rat.le_of_lt (RF.two_zpow_pos _))

theorem val_abs_lt (x : RF) : x.val.abs < (2 : Rat) ^ (x.e + 1) := by
  rw [RF.abs_val_eq]
  have h1 := lt_two_pow_bitLength x.c
  have e : x.e + 1 = ((bitLength x.c : Nat) : Int) + x.exp := by unfold RF.e RF.p; omega
  rw [e, RF.two_zpow_add, RF.two_zpow_nat]
  exact Rat.mul_lt_mul_of_pos_right (Rat.natCast_lt_natCast.2 h1) (RF.two_zpow_pos _)

/-- the rounding position of `RealFloat.round(max_p = p, min_n = minN)`; it is `roundPos x.e p minN` of
`Proof/Round.lean` by `rfl` -/
def floatN (x : RF) (p : Nat) (minN : Option Int) : Int :=
  match minN with | none => x.e - p | some m => max m (x.e - p)

theorem floatN_ge (x : RF) (p : Nat) (minN : Option Int) : x.e - p ≤ floatN x p minN := roundPos_ge x.e p minN

theorem floatN_ge_nmin (x : RF) (p : Nat) (nmin : Int) : nmin ≤ floatN x p (some nmin) := roundPos_ge_min x.e p nmin

theorem roundAtCore_overflow (x : RF) (p : Option Nat) (n : Int) (emin : Option Int) (rm : RM) (exact : Bool)
    (y : RF) (fl : Flags) (h : x.roundAtCore p n emin rm exact = .ok (y, fl)) : fl.overflow = false := by
  rcases RF.roundAtCore_outcome x p n emin rm exact with ⟨y', fl', h', -, -, -, ho⟩ | ⟨-, h'⟩
  · rw [h] at h'; cases h'; exact ho
  · cases exact
    · obtain ⟨y', fl', h', -, ho⟩ := h'
      rw [h] at h'; cases h'; exact ho
    · rw [if_pos rfl, h] at h'; cases h'

theorem fixed_round_total (x : RF) (n : Int) (rm : RM) :
    ∃ y fl, x.round none (some n) rm = .ok (y, fl) ∧ y.s = x.s ∧ y.exp > n ∧
      y.val = roundVal rm (n + 1) x.val ∧ (fl.inexact = false ↔ OnGrid (n + 1) x.val) := by
  by_cases h0 : x.exp > n
  · have hg : OnGrid (n + 1) x.val := onGrid_of_le_exp x (n + 1) (by omega)
    exact ⟨x, {}, roundAtCore_above x n rm false h0, rfl, h0, ((roundVal_eq_iff rm (n + 1) x.val).2 hg).symm, by simp [hg]⟩
  · have hle : x.exp ≤ n := by omega
    refine ⟨_, _, roundAtCore_fixed x n rm hle, rfl, by simp only; omega, fixed_val x n rm hle, ?_⟩
    rw [onGrid_iff_mod x n]; simp

theorem carry_val (y : RF) (p : Nat) (hp : 1 ≤ p) (hy : y.c ≤ 2 ^ p) : (y.carry p).val = y.val :=
  (RF.eqV_iff_val _ _).1 (RF.carry_eqV y p hp hy)

/-- the float shape: the fixed shape at `floatN` (`fixed_round_total`), re-normalised -/
theorem float_val (x : RF) (p : Nat) (minN : Option Int) (rm : RM) (hc : x.c ≠ 0) (hp : 1 ≤ p) :
    ∃ y fl, x.round (some p) minN rm = .ok (y, fl) ∧ y.s = x.s ∧ bitLength y.c ≤ p ∧ y.exp > floatN x p minN ∧
      y.val = roundVal rm (floatN x p minN + 1) x.val ∧
      (fl.inexact = false ↔ OnGrid (floatN x p minN + 1) x.val) := by
  obtain ⟨y, fl, h1, -, hy, fl', h2, hi, -⟩ :=
    roundAtCore_some x p (floatN x p minN) (minN.map ((p : Int) + ·)) rm hc (floatN_ge x p minN)
  obtain ⟨y0, fl0, h0, a, b, c, d⟩ := fixed_round_total x (floatN x p minN) rm
  rw [RF.round_fixed, h1] at h0; cases h0
  obtain ⟨c1, c2, c3, -⟩ := y.carry_spec p hp hy
  rw [RF.round_float]
  exact ⟨_, fl', h2, c1.trans a, c2, by omega, (carry_val y p hp hy).trans c, by rw [hi]; exact d⟩

theorem repIn_some (p : Nat) (nmin : Int) (q : Rat) : RepIn p (some nmin) q ↔ RepFloatSub p nmin q := by
  unfold RepIn RepFloatSub
  constructor
  · rintro ⟨a, b⟩; exact ⟨a, b nmin rfl⟩
  · rintro ⟨a, b⟩; refine ⟨a, ?_⟩; intro n e; cases e; exact b

theorem repIn_none (p : Nat) (q : Rat) : RepIn p none q ↔ RepFloat p q := by
  unfold RepIn
  constructor
  · rintro ⟨a, _⟩; exact a
  · intro a; exact ⟨a, by intro n e; cases e⟩

/-- a member of the format is on the grid of the rounding position: by its digits when the position is `e − p` and
the member is no smaller than `2^e`, by the subnormal grid otherwise -/
theorem repIn_on_grid (x : RF) (p : Nat) (minN : Option Int) (z : Rat) (hz : RepIn p minN z)
    (hmag : floatN x p minN = x.e - p → (2 : Rat) ^ x.e ≤ z.abs) : OnGrid (floatN x p minN + 1) z := by
  by_cases h : floatN x p minN = x.e - p
  · rw [h]; exact repFloat_onGrid p x.e z hz.1 (hmag h)
  · cases minN with
    | none => exact absurd rfl h
    | some m =>
      rw [show floatN x p (some m) = m from by simp only [floatN] at h ⊢; omega]
      exact hz.2 m rfl

theorem float_neighbours (x : RF) (p : Nat) (minN : Option Int) (hc : x.c ≠ 0) (hp : 1 ≤ p) :
    RepIn p minN (gridLo (floatN x p minN + 1) x.val) ∧ RepIn p minN (gridHi (floatN x p minN + 1) x.val) ∧
    ∀ z, RepIn p minN z →
      ¬ (gridLo (floatN x p minN + 1) x.val < z ∧ z < gridHi (floatN x p minN + 1) x.val) := by
  -- the neighbours are what the rounding returns under RTN and RTP, and every result has the format's shape
  have mem : ∀ rm, RepIn p minN (roundVal rm (floatN x p minN + 1) x.val) := fun rm => by
    obtain ⟨y, fl, -, -, hb, he, hv, -⟩ := float_val x p minN rm hc hp
    rw [← hv]
    refine ⟨repFloat_of_bitLength y p hb, fun nmin e => onGrid_of_le_exp y _ ?_⟩
    subst e
    have := floatN_ge_nmin x p nmin
    omega
  refine ⟨roundVal_rtn _ x.val ▸ mem .rtn, roundVal_rtp _ x.val ▸ mem .rtp, ?_⟩
  intro z hz ⟨hz1, hz2⟩
  have hg : OnGrid (floatN x p minN + 1) z := by
    -- at position `e − p` a member counts as on the grid once `|z| ≥ 2^e`: `2^e` is itself a grid point within `|x|`,
    -- so it is no further out than the neighbour that `z` lies beyond
    refine repIn_on_grid x p minN z hz fun hn => ?_
    have hE : OnGrid (floatN x p minN + 1) ((2 : Rat) ^ x.e) :=
      onGrid_mono (u := x.e) (by omega) ⟨1, by simp⟩
    have hlow := val_abs_ge x hc
    by_cases h0 : 0 ≤ x.val
    · rw [Rat.abs_of_nonneg h0] at hlow
      exact le_abs_of_le (Rat.le_trans (grid_le_gridLo hE hlow) (Rat.le_of_lt hz1))
    · rw [Rat.abs_of_nonpos (Rat.le_of_lt (Rat.not_le.1 h0))] at hlow
      obtain ⟨m, hm⟩ := hE
      have hE' : OnGrid (floatN x p minN + 1) (-(2 : Rat) ^ x.e) := ⟨-m, by rw [hm, Rat.intCast_neg, Rat.neg_mul]⟩
      exact le_abs_of_le_neg (Rat.le_of_lt (Std.lt_of_lt_of_le hz2 (gridHi_le_grid hE' (by grind))))
  by_cases h : z ≤ x.val
  · exact absurd (Std.lt_of_lt_of_le hz1 (grid_le_gridLo hg h)) Rat.lt_irrefl
  · exact absurd (Std.lt_of_le_of_lt (gridHi_le_grid hg (Rat.le_of_lt (Rat.not_le.1 h))) hz2) Rat.lt_irrefl

/-- `rm'` is the mode chosen in the last step of `_round_at_stochastic`, always RAZ or RTZ (which one:
`roundAtStochastic_eq` in `Proof/Stochastic.lean`) -/
theorem round_any_k (x : RF) (maxP : Option Nat) (minN : Option Int) (rm : RM) (k : Option Nat) (r : Nat)
    (y : RF) (fl : Flags) (h : x.round maxP minN rm k r false = .ok (y, fl)) :
    ∃ rm', x.round maxP minN rm' (some 0) 0 false = .ok (y, fl) ∧ (k = some 0 → rm' = rm) := by
  obtain ⟨p, n, emin, rm', h', hk, e⟩ := RF.round_ok h
  exact ⟨rm', (e rm').trans h', hk⟩

theorem round_overflow (x : RF) (maxP : Option Nat) (minN : Option Int) (rm : RM)
    (y : RF) (fl : Flags) (h : x.round maxP minN rm (some 0) 0 false = .ok (y, fl)) : fl.overflow = false := by
  obtain ⟨p, n, emin, rm', h', -, -⟩ := RF.round_ok h
  exact roundAtCore_overflow _ _ _ _ _ _ _ _ h'

theorem float_round_any (x : RF) (p : Nat) (minN : Option Int) (rm : RM) (k : Option Nat) (r : Nat)
    (y : RF) (fl : Flags) (hc : x.c ≠ 0) (hp : 1 ≤ p)
    (h : x.round (some p) minN rm k r false = .ok (y, fl)) :
    y.s = x.s ∧ bitLength y.c ≤ p ∧ y.exp > floatN x p minN ∧ fl.overflow = false ∧
    ∃ rm', (k = some 0 → rm' = rm) ∧ y.val = roundVal rm' (floatN x p minN + 1) x.val ∧
      (fl.inexact = false ↔ OnGrid (floatN x p minN + 1) x.val) := by
  obtain ⟨rm', h', hk⟩ := round_any_k x _ _ rm k r y fl h
  obtain ⟨y', fl', hr, a, b, c, d, e⟩ := float_val x p minN rm' hc hp
  rw [hr] at h'
  simp only [Except.ok.injEq, Prod.mk.injEq] at h'
  obtain ⟨rfl, rfl⟩ := h'
  exact ⟨a, b, c, round_overflow _ _ _ _ _ _ hr, rm', hk, d, e⟩

theorem fixed_round_any (x : RF) (n : Int) (rm : RM) (k : Option Nat) (r : Nat)
    (y : RF) (fl : Flags) (h : x.round none (some n) rm k r false = .ok (y, fl)) :
    y.s = x.s ∧ y.exp > n ∧ fl.overflow = false ∧
    ∃ rm', (k = some 0 → rm' = rm) ∧ y.val = roundVal rm' (n + 1) x.val ∧
      (fl.inexact = false ↔ OnGrid (n + 1) x.val) := by
  obtain ⟨rm', h', hk⟩ := round_any_k x _ _ rm k r y fl h
  obtain ⟨y', fl', hr, a, b, c, d⟩ := fixed_round_total x n rm'
  rw [hr] at h'
  simp only [Except.ok.injEq, Prod.mk.injEq] at h'
  obtain ⟨rfl, rfl⟩ := h'
  exact ⟨a, b, round_overflow _ _ _ _ _ _ hr, rm', hk, c, d⟩

theorem repFloatSub_of_shape (y : RF) (p : Nat) (nmin : Int) (h1 : bitLength y.c ≤ p) (h2 : y.exp > nmin) :
    RepFloatSub p nmin y.val :=
  ⟨repFloat_of_bitLength y p h1, onGrid_of_le_exp y (nmin + 1) (by omega)⟩

end Fpy.C01v
