/-
C12 — the reader: running statement lists in the core language, the relation between the FPCore
environment and the environment of the re-read function, and the operands, which need no statements (`readP_sound`).
-/
import Fpy.Model.FPCoreRead
import Fpy.Proof.FPCoreSound
import Fpy.Proof.LangLimit

namespace Fpy.Xform
open Fpy Fpy.Lang

/-- `evalChainω_cons` at an order comparison of the FPCore subset (`C12.COp`: a model type LangLimit does not see) -/
theorem evalChainω_order (Φ : Funs) (σ : Env) (μ : Heap) (C : Ctx) (a : Val) (o : C12.COp) (b : Expr) :
    evalChainω Φ σ μ C a [o.toCmp] [b] =
      (do let (bv, μ1) ← evalEω Φ σ μ C b
          let x ← asNum a
          let y ← asNum bv
          if cmpHolds o.toCmp (Lang.nvCompare x y) then evalChainω Φ σ μ1 C bv [] [] else pure (.bool false, μ1)) := by
  cases o <;> (rw [evalChainω_cons]; simp only [C12.COp.toCmp, bind_assoc]; rfl)

end Fpy.Xform

namespace Fpy.C12
open Fpy Fpy.Lang Fpy.Xform

section
variable (Φ : Funs)

/-- the statements run to their end, from `σ`, `μ` to `σ'`, `μ'`, in the fuel-free semantics -/
def Runs (σ : Env) (μ : Heap) (C : Ctx) (ss : List Stmt) (σ' : Env) (μ' : Heap) : Prop :=
  evalBω Φ σ μ C ss = .ok (.normal σ', μ')

/-- the expression has the value `v` and leaves the heap as it is -/
def Gives (σ : Env) (μ : Heap) (C : Ctx) (r : Expr) (v : Val) : Prop := evalEω Φ σ μ C r = .ok (v, μ)

def GivesAll (σ : Env) (μ : Heap) (C : Ctx) (rs : List Expr) (vs : List Val) : Prop :=
  evalEsω Φ σ μ C rs = .ok (vs, μ)

theorem runs_nil (σ : Env) (μ : Heap) (C : Ctx) : Runs Φ σ μ C [] σ μ := evalBω_nil Φ σ μ C

variable {Φ}

theorem runs_append {C : Ctx} {ss1 ss2 : List Stmt} {σ σ1 σ2 : Env} {μ μ1 μ2 : Heap}
    (h1 : Runs Φ σ μ C ss1 σ1 μ1) (h2 : Runs Φ σ1 μ1 C ss2 σ2 μ2) : Runs Φ σ μ C (ss1 ++ ss2) σ2 μ2 := by
  unfold Runs; rw [evalBω_append, h1]; exact h2

theorem runs_ret {σ σ' : Env} {μ : Heap} {C : Ctx} {ss : List Stmt} {r : Expr} {v : Val}
    (hrun : Runs Φ σ μ C ss σ' μ) (hg : Gives Φ σ' μ C r v) :
    evalBω Φ σ μ C (ss ++ [.ret r]) = .ok (.ret v, μ) := by
  rw [evalBω_append, hrun]
  show evalBω Φ σ' μ C [.ret r] = _
  rw [evalBω_single, evalSω_ret, hg]; rfl

variable (Φ) in
theorem gives_var {σ : Env} {x : String} {v : Val} (μ : Heap) (C : Ctx) (h : σ.get? x = some v) :
    Gives Φ σ μ C (.var x) v := by
  unfold Gives; rw [evalEω_var, h]

theorem runs_assign {σ : Env} {μ : Heap} {C : Ctx} {x : String} {r : Expr} {v : Val} (h : Gives Φ σ μ C r v) :
    Runs Φ σ μ C [.assign (.var x) r] (σ.set x v) μ := by
  unfold Runs; rw [evalBω_assign_var, h]; exact evalBω_nil Φ _ μ C

theorem runs_ifte {σ σ' : Env} {μ : Heap} {C : Ctx} {c : Expr} {b : Bool} {t f : List Stmt}
    (hc : Gives Φ σ μ C c (.bool b)) (hb : Runs Φ σ μ C (if b then t else f) σ' μ) :
    Runs Φ σ μ C [.ifte c t f] σ' μ := by
  unfold Runs; rw [evalBω_single, evalSω_ifte, hc]; cases b <;> exact hb

theorem runs_with {σ σ' : Env} {μ : Heap} {C C' : Ctx} {body : List Stmt}
    (hb : Runs Φ σ μ C' body σ' μ) : Runs Φ σ μ C [.with (.ctxLit C') none body] σ' μ := by
  unfold Runs; rw [evalBω_single, with_ctx_wrap]; exact hb

theorem while_false {σ : Env} {μ : Heap} {C : Ctx} {c : Expr} (body : List Stmt) (hc : Gives Φ σ μ C c (.bool false)) :
    evalSω Φ σ μ C (.while c body) = .ok (.normal σ, μ) := by
  rw [evalSω_while, hc]; rfl

theorem while_true {σ σ1 σ2 : Env} {μ : Heap} {C : Ctx} {c : Expr} {body : List Stmt} (hc : Gives Φ σ μ C c (.bool true))
    (hb : Runs Φ σ μ C body σ1 μ) (hw : evalSω Φ σ1 μ C (.while c body) = .ok (.normal σ2, μ)) :
    evalSω Φ σ μ C (.while c body) = .ok (.normal σ2, μ) := by
  rw [evalSω_while, hc]
  show (evalBω Φ σ μ C body >>= _) = _
  rw [hb]; exact hw

variable (Φ) in
theorem givesAll_nil (σ : Env) (μ : Heap) (C : Ctx) : GivesAll Φ σ μ C [] [] := evalEsω_nil Φ σ μ C

theorem givesAll_cons {σ : Env} {μ : Heap} {C : Ctx} {r : Expr} {rs : List Expr} {v : Val} {vs : List Val}
    (h1 : Gives Φ σ μ C r v) (h2 : GivesAll Φ σ μ C rs vs) : GivesAll Φ σ μ C (r :: rs) (v :: vs) := by
  unfold GivesAll; rw [evalEsω_cons_pure Φ σ μ C h1, h2]; rfl

theorem gives_op {σ : Env} {μ : Heap} {C : Ctx} {o : Op} {rs : List Expr} {vs : List Val} {ns : List NV} {w : NV}
    (hargs : GivesAll Φ σ μ C rs vs) (hm : vs.mapM asNum = .ok ns) (ho : opEval C o (ns.map cvtReal) = .ok w) :
    Gives Φ σ μ C (.op o rs) (.num w) := by
  unfold Gives; rw [evalEω_op, hargs]; simp only [bind, Except.bind, hm, ho]

end

theorem gives_cmp {Φ : Funs} {σ : Env} {μ : Heap} {C : Ctx} (co : COp) {a b : Expr} {av bv : Val} {x y : NV}
    (ha : Gives Φ σ μ C a av) (hb : Gives Φ σ μ C b bv) (hx : asNum av = .ok x) (hy : asNum bv = .ok y) :
    Gives Φ σ μ C (.cmp [co.toCmp] [a, b]) (.bool (cmpNums co.toCmp x y)) := by
  unfold Gives
  rw [evalEω_cmp_cons, ha]
  show evalChainω Φ σ μ C av [co.toCmp] [b] = _
  rw [evalChainω_order, hb]
  simp only [bind, Except.bind, hx, hy, ← cmpNums_order]
  cases cmpNums co.toCmp x y with
  | false => rfl
  | true => rw [if_pos rfl, evalChainω_nil]

section
variable (nm : Nat → String)

/-- `σ'` holds what `σ` holds under the names generated before `k` -/
def Ext (k : Nat) (σ σ' : Env) : Prop := ∀ j, j < k → σ'.get? (nm j) = σ.get? (nm j)

/-- every FPCore variable in scope is held by a name below `k`, with the same value; different variables by different names -/
def RInv (k : Nat) (m : RMap) (ρ σ : Env) : Prop :=
  (∀ x y, m.get? x = some y → (∃ j, j < k ∧ y = nm j) ∧ ρ.get? x = σ.get? y) ∧
  (∀ x x' y, m.get? x = some y → m.get? x' = some y → x = x')

variable {nm}

theorem Ext.refl (k : Nat) (σ : Env) : Ext nm k σ σ := fun _ _ => rfl
theorem Ext.trans {k : Nat} {a b c : Env} (h1 : Ext nm k a b) (h2 : Ext nm k b c) : Ext nm k a c :=
  fun j hj => by rw [h2 j hj, h1 j hj]
theorem Ext.mono {k k' : Nat} {a b : Env} (h : Ext nm k' a b) (hk : k ≤ k') : Ext nm k a b :=
  fun j hj => h j (Nat.lt_of_lt_of_le hj hk)

theorem RInv.mono {k k' : Nat} {m : RMap} {ρ σ σ' : Env} (h : RInv nm k m ρ σ) (hk : k ≤ k') (he : Ext nm k σ σ') :
    RInv nm k' m ρ σ' := by
  refine ⟨fun x y hxy => ?_, h.2⟩
  obtain ⟨⟨j, hj, rfl⟩, hv⟩ := h.1 x y hxy
  exact ⟨⟨j, Nat.lt_of_lt_of_le hj hk, rfl⟩, by rw [he j hj]; exact hv⟩

/-- after a round of updates the loop variables are held by the names they were held by before, all below `ka` (`h1`), and have
the values of the later state (`h2`, which knows the names only below a later `kb`) -/
theorem rinv_rebound {ka kb : Nat} {m : RMap} {ρ σ ρ' σ' : Env} (h1 : RInv nm ka m ρ σ) (h2 : RInv nm kb m ρ' σ') :
    RInv nm ka m ρ' σ' :=
  ⟨fun x y hxy => ⟨(h1.1 x y hxy).1, (h2.1 x y hxy).2⟩, h1.2⟩

theorem rinv_update {k : Nat} {m : RMap} {ρ σ : Env} (h : RInv nm k m ρ σ) {x y : String} (hxy : m.get? x = some y) (v : Val) :
    RInv nm k m (ρ.set x v) (σ.set y v) := by
  refine ⟨fun x' y' h' => ⟨(h.1 x' y' h').1, ?_⟩, h.2⟩
  by_cases hx : x' = x
  · subst hx
    rw [hxy] at h'
    cases h'
    rw [get?_set_self, get?_set_self]
  · have hy : y' ≠ y := fun e => hx (h.2 x' x y (e ▸ h') hxy)
    rw [get?_set_ne hx, get?_set_ne hy]
    exact (h.1 x' y' h').2

theorem rmap_get_cons (x t : String) (m : RMap) (x' : String) :
    RMap.get? ((x, t) :: m) x' = if x = x' then some t else m.get? x' := by
  simp only [RMap.get?, beq_iff_eq]

variable (hnm : ∀ i j, nm i = nm j → i = j)
include hnm

theorem ext_set {k i : Nat} (σ : Env) (v : Val) (hi : k ≤ i) : Ext nm k σ (σ.set (nm i) v) := by
  intro j hj
  exact get?_set_ne (fun e => Nat.ne_of_lt (Nat.lt_of_lt_of_le hj hi) (hnm _ _ e))

theorem rinv_bind {k k1 : Nat} {m : RMap} {ρ σ : Env} (h : RInv nm k m ρ σ) (hk : k ≤ k1) (x : String) (v : Val) :
    RInv nm (k1 + 1) ((x, nm k1) :: m) (ρ.set x v) (σ.set (nm k1) v) := by
  have hold : ∀ x' y, m.get? x' = some y → y ≠ nm k1 := fun x' y hxy e => by
    obtain ⟨⟨j, hj, rfl⟩, _⟩ := h.1 x' y hxy
    exact Nat.ne_of_lt (Nat.lt_of_lt_of_le hj hk) (hnm _ _ e)
  refine ⟨fun x' y hxy => ?_, fun x1 x2 y h1 h2 => ?_⟩
  · rw [rmap_get_cons] at hxy
    by_cases hx : x = x'
    · rw [if_pos hx] at hxy
      cases hxy; subst hx
      exact ⟨⟨k1, Nat.lt_succ_self k1, rfl⟩, by rw [get?_set_self, get?_set_self]⟩
    · rw [if_neg hx] at hxy
      obtain ⟨⟨j, hj, rfl⟩, hv⟩ := h.1 x' y hxy
      refine ⟨⟨j, Nat.lt_succ_of_lt (Nat.lt_of_lt_of_le hj hk), rfl⟩, ?_⟩
      rw [get?_set_ne (fun e => hx e.symm), get?_set_ne (hold x' _ hxy)]
      exact hv
  · rw [rmap_get_cons] at h1 h2
    by_cases hx1 : x = x1 <;> by_cases hx2 : x = x2
    · rw [← hx1, ← hx2]
    · rw [if_pos hx1] at h1; rw [if_neg hx2] at h2
      cases h1
      exact absurd rfl (hold x2 _ h2)
    · rw [if_neg hx1] at h1; rw [if_pos hx2] at h2
      cases h2
      exact absurd rfl (hold x1 _ h1)
    · rw [if_neg hx1] at h1; rw [if_neg hx2] at h2
      exact h.2 x1 x2 y h1 h2

end

/-- the part of `RInv` the operands need: values only -/
def PEnv (m : RMap) (ρ σ : Env) : Prop := ∀ x y, m.get? x = some y → ρ.get? x = σ.get? y

theorem rinv_penv {nm : Nat → String} {k : Nat} {m : RMap} {ρ σ : Env} (h : RInv nm k m ρ σ) : PEnv m ρ σ :=
  fun x y hxy => (h.1 x y hxy).2

theorem order_cop (o : CmpOp) (h : isOrder o = true) : ∃ co : COp, co.toCmp = o := by
  cases o with
  | lt => exact ⟨.lt, rfl⟩
  | le => exact ⟨.le, rfl⟩
  | gt => exact ⟨.gt, rfl⟩
  | ge => exact ⟨.ge, rfl⟩
  | eq => cases h
  | ne => cases h

section
variable (Φ : Funs)

theorem readP_sound_all (m : RMap) :
    (∀ p {n : Nat} {P : Props} {C : Ctx} {ρ σ : Env} {μ : Heap} {v : Val} {r : Expr},
      eval n ρ P p = .ok v → readP m p = some r → P.toCtx = .ok C → PEnv m ρ σ → Gives Φ σ μ C r v) ∧
    (∀ ps {n : Nat} {P : Props} {C : Ctx} {ρ σ : Env} {μ : Heap} {vs : List Val} {rs : List Expr},
      evalList n ρ P ps = .ok vs → readPs m ps = some rs → P.toCtx = .ok C → PEnv m ρ σ → GivesAll Φ σ μ C rs vs) := by
  -- the induction principle that also says what the reader returns in each case: where that is `none` nothing is to be shown
  refine readP.mutual_induct_unfolding m
    (fun p res => ∀ {n P C ρ σ μ v r}, eval n ρ P p = .ok v → res = some r → P.toCtx = .ok C → PEnv m ρ σ → Gives Φ σ μ C r v)
    (fun ps res => ∀ {n P C ρ σ μ vs rs},
      evalList n ρ P ps = .ok vs → res = some rs → P.toCtx = .ok C → PEnv m ρ σ → GivesAll Φ σ μ C rs vs)
    ?_ ?_ ?_ ?_ ?_ ?_ ?_ ?_ ?_ ?_
  · intro x n P C ρ σ μ v r h hr hP hE
    obtain ⟨n, rfl⟩ := eval_pos h
    obtain ⟨y, hy, rfl⟩ := Option.map_eq_some_iff.1 hr
    rw [eval_var] at h
    split at h
    · next w hx => cases h; exact gives_var Φ μ C ((hE x y hy).symm.trans hx)
    · cases h
  · intro q n P C ρ σ μ v r h hr hP hE
    obtain ⟨n, rfl⟩ := eval_pos h
    cases hr
    rw [eval_num] at h
    obtain ⟨C', hC, h⟩ := bind_ok h
    cases hP.symm.trans hC
    obtain ⟨w, ho, h⟩ := bind_ok h
    cases h
    exact gives_op (givesAll_cons (evalEω_num Φ σ μ C q) (givesAll_nil Φ σ μ C)) rfl ho
  · intro o args ih n P C ρ σ μ v r h hr hP hE
    obtain ⟨n, rfl⟩ := eval_pos h
    obtain ⟨rs, hrs, rfl⟩ := Option.map_eq_some_iff.1 hr
    rw [eval_op] at h
    obtain ⟨vs, hl, h⟩ := bind_ok h
    obtain ⟨ns, hm, h⟩ := bind_ok h
    obtain ⟨C', hC, h⟩ := bind_ok h
    cases hP.symm.trans hC
    obtain ⟨w, ho, h⟩ := bind_ok h
    cases h
    exact gives_op (ih hl hrs hP hE) hm ho
  · -- `.cmp o [a, b]`, an order comparison of two operands
    intro o a b ho a' b' hrb hra iha ihb n P C ρ σ μ v r h hr hP hE
    obtain ⟨co, rfl⟩ := order_cop o ho
    cases hr
    obtain ⟨na, nb, av, bv, x, y, ha, hb, hx, hy, rfl⟩ := eval_cmp2_inv h
    exact gives_cmp co (iha ha hra hP hE) (ihb hb hrb hP hE) hx hy
  · intros; contradiction  -- … one of which is not an operand
  · intros; contradiction  -- … `==` or `!=`
  · intros; contradiction  -- every other form is not an operand
  · intro n P C ρ σ μ vs rs h hr hP hE
    obtain ⟨n, rfl⟩ := evalList_pos h
    rw [evalList_nil] at h
    cases h; cases hr
    exact givesAll_nil Φ σ μ C
  · intro p ps p' ps' hrps hrp ihp ihps n P C ρ σ μ vs rs h hr hP hE
    obtain ⟨n, rfl⟩ := evalList_pos h
    cases hr
    rw [evalList_cons] at h
    obtain ⟨v, hp, h⟩ := bind_ok h
    obtain ⟨vs', hps, h⟩ := bind_ok h
    cases h
    exact givesAll_cons (ihp hp hrp hP hE) (ihps hps hrps hP hE)
  · intros; contradiction  -- `p :: ps`, one of which is not an operand

theorem readP_sound {n : Nat} {p : FExpr} {m : RMap} {P : Props} {C : Ctx} {ρ σ : Env} {μ : Heap} {v : Val} {r : Expr}
    (h : eval n ρ P p = .ok v) (hr : readP m p = some r) (hP : P.toCtx = .ok C) (hE : PEnv m ρ σ) : Gives Φ σ μ C r v :=
  (readP_sound_all Φ m).1 p h hr hP hE

end
end Fpy.C12
