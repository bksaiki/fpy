/-
Scalar expressions (Model/Lang/Scalar.lean) evaluate without touching the heap, to a value without references, and
the value does not depend on the heap (`scalar_eval`): one induction on the fuel over the five expression evaluators a
scalar expression can reach.  With the congruence `stmt_expr_congr` this is what the constant folding theorems of C07
rest on.
-/
import Fpy.Model.Lang.Scalar
import Fpy.Proof.LangLimit
namespace Fpy.Xform
open Fpy Fpy.Lang

/-- two runs of a scalar expression, from the heaps `μ` and `μ'`: the same value, which is flat, and each heap as it was -/
def SRel (μ μ' : Heap) (a b : Val × Heap) : Prop := a.1 = b.1 ∧ a.2 = μ ∧ b.2 = μ' ∧ flatV a.1 = true
/-- … of a list of scalar expressions: the same values, each heap as it was -/
def SRels (μ μ' : Heap) (a b : List Val × Heap) : Prop := a.1 = b.1 ∧ a.2 = μ ∧ b.2 = μ'

def FlatOn (σ : Env) (xs : List String) : Prop := ∀ z ∈ xs, ∀ v, σ.get? z = some v → flatV v = true

theorem valEq_flat (μ μ' : Heap) (n : Nat) {a b : Val} (ha : flatV a = true) (hb : flatV b = true) :
    valEq μ n a b = valEq μ' n a b := by
  cases n with
  | zero => simp only [valEq]
  | succ n => exact LR.valEq_flat_succ μ μ' n n ha hb

/-- A scalar expression allocates nothing, and the one place where it reads the heap is `valEq` in a `==` chain, which
ignores the heap on flat values (`valEq_flat`): hence flatness of the variables read (`FlatOn`) is assumed and flatness
of every intermediate value is carried in `SRel`. -/
structure ScalAt (Φ : Funs) (n : Nat) : Prop where
  evalE : ∀ σ μ μ' C e, scalarE e = true → FlatOn σ (readsE e) →
    RelM (SRel μ μ') (evalE Φ n σ μ C e) (evalE Φ n σ μ' C e)
  evalEs : ∀ σ μ μ' C es, scalarEs es = true → FlatOn σ (readsEs es) →
    RelM (SRels μ μ') (evalEs Φ n σ μ C es) (evalEs Φ n σ μ' C es)
  evalChain : ∀ σ μ μ' C a ops es, flatV a = true → scalarEs es = true → FlatOn σ (readsEs es) →
    RelM (SRel μ μ') (evalChain Φ n σ μ C a ops es) (evalChain Φ n σ μ' C a ops es)
  evalAnd : ∀ σ μ μ' C es, scalarEs es = true → FlatOn σ (readsEs es) →
    RelM (SRel μ μ') (evalAnd Φ n σ μ C es) (evalAnd Φ n σ μ' C es)
  evalOr : ∀ σ μ μ' C es, scalarEs es = true → FlatOn σ (readsEs es) →
    RelM (SRel μ μ') (evalOr Φ n σ μ C es) (evalOr Φ n σ μ' C es)

/- introduce a pair of `SRel`-related intermediate results and take it apart: afterwards the two sides are
`($x, μ)` and `($x, μ')`, and `$hf : flatV $x = true` is in the context -/
macro "srel_intro" x:ident hf:ident : tactic => `(tactic| (
  intro ⟨$x, m1⟩ ⟨x2, m2⟩ hrel
  have hr1 := hrel.1
  have hr2 := hrel.2.1
  have hr3 := hrel.2.2.1
  have $hf := hrel.2.2.2
  dsimp only at hr1 hr2 hr3 $hf:ident
  subst x2; subst m1; subst m2
  clear hrel))

theorem RelM.bind_srel {γ δ : Type} {Q : γ → δ → Prop} {μ μ' : Heap} {a b : M (Val × Heap)} {f : Val × Heap → M γ}
    {g : Val × Heap → M δ} (h : RelM (SRel μ μ') a b) (hf : ∀ v, flatV v = true → RelM Q (f (v, μ)) (g (v, μ'))) :
    RelM Q (a >>= f) (b >>= g) := by
  apply RelM.bind h
  srel_intro v hv
  exact hf v hv

theorem RelM.srel_ok (μ μ' : Heap) (v : Val) (h : flatV v = true) : RelM (SRel μ μ') (.ok (v, μ)) (.ok (v, μ')) :=
  ⟨rfl, rfl, rfl, h⟩

theorem scalarEs_cons {σ : Env} {a : Expr} {as : List Expr} (h : scalarEs (a :: as) = true)
    (hfl : FlatOn σ (readsEs (a :: as))) :
    (scalarE a = true ∧ FlatOn σ (readsE a)) ∧ scalarEs as = true ∧ FlatOn σ (readsEs as) :=
  have h' := (Bool.and_eq_true _ _).mp h
  ⟨⟨h'.1, memL (hfl : FlatOn σ (readsE a ++ readsEs as))⟩, h'.2, memR (hfl : FlatOn σ (readsE a ++ readsEs as))⟩

theorem scal_evalE_step {Φ : Funs} {n : Nat} (ih : ScalAt Φ n) :
    ∀ σ μ μ' C e, scalarE e = true → FlatOn σ (readsE e) →
      RelM (SRel μ μ') (evalE Φ (n+1) σ μ C e) (evalE Φ (n+1) σ μ' C e) := by
  intro σ μ μ' C e h hfl
  cases e <;> first
    | exact absurd h Bool.false_ne_true
    | skip
  case var x =>
    dsimp only [evalE]
    cases hx : σ.get? x with
    | none => exact rfl
    | some v => exact RelM.srel_ok μ μ' v (hfl x (List.mem_singleton.2 rfl) v hx)
  case bool b => dsimp only [evalE]; exact RelM.srel_ok _ _ _ rfl
  case num v => dsimp only [evalE]; exact RelM.srel_ok _ _ _ rfl
  case ctxLit c => dsimp only [evalE]; exact RelM.srel_ok _ _ _ rfl
  case op o as =>
    dsimp only [evalE]
    refine RelM.bind (ih.evalEs σ μ μ' C as h hfl) fun ⟨vs, _⟩ ⟨_, _⟩ ⟨h1, h2, h3⟩ => ?_
    dsimp only at h1 h2 h3
    subst h1 h2 h3
    exact RelM.bind_same fun ns => RelM.bind_same fun r => RelM.srel_ok _ _ _ rfl
  case pred p a =>
    dsimp only [evalE]
    exact RelM.bind_srel (ih.evalE σ μ μ' C a h hfl) fun _ _ =>
      RelM.bind_same fun x => RelM.bind_same fun b => RelM.srel_ok _ _ _ rfl
  case cmp ops as =>
    cases as with
    | nil => dsimp only [evalE]; exact RelM.srel_ok _ _ _ rfl
    | cons a as =>
      obtain ⟨⟨ha, fa⟩, hs, fs⟩ := scalarEs_cons h hfl
      dsimp only [evalE]
      exact RelM.bind_srel (ih.evalE σ μ μ' C a ha fa) fun x1 hflat => ih.evalChain σ μ μ' C x1 ops as hflat hs fs
  case not a =>
    dsimp only [evalE]
    exact RelM.bind_srel (ih.evalE σ μ μ' C a h hfl) fun _ _ => RelM.bind_same fun b => RelM.srel_ok _ _ _ rfl
  case and as => dsimp only [evalE]; exact ih.evalAnd σ μ μ' C as h hfl
  case or as => dsimp only [evalE]; exact ih.evalOr σ μ μ' C as h hfl
  case ite c t f =>
    replace h : (scalarE c && scalarE t && scalarE f) = true := h
    simp only [Bool.and_eq_true] at h
    have hfl' : FlatOn σ (readsE c ++ readsE t ++ readsE f) := hfl
    dsimp only [evalE]
    refine RelM.bind_srel (ih.evalE σ μ μ' C c h.1.1 (memL (memL hfl'))) fun x1 hflat => ?_
    apply RelM.bind_same; intro bb
    split
    · exact ih.evalE σ μ μ' C t h.1.2 (memR (memL hfl'))
    · exact ih.evalE σ μ μ' C f h.2 (memR hfl')
  case roundAt a m =>
    replace h : (scalarE a && scalarE m) = true := h
    simp only [Bool.and_eq_true] at h
    have hfl' : FlatOn σ (readsE a ++ readsE m) := hfl
    dsimp only [evalE]
    refine RelM.bind_srel (ih.evalE σ μ μ' C a h.1 (memL hfl')) fun x1 hflat => ?_
    refine RelM.bind_srel (ih.evalE σ μ μ' C m h.2 (memR hfl')) fun x1 hflat => ?_
    -- the pure tail: the precision must be an integer-valued `Float` and the context not `real`, then one rounding
    refine RelM.bind_same fun x => RelM.bind_same fun nn => ?_
    cases nn with
    | q _ _ => exact RelM.err _
    | fv u =>
      dsimp only
      cases nvInt? (.fv u) with
      | none => exact RelM.err _
      | some k =>
        dsimp only
        split
        · exact RelM.err _
        · exact RelM.bind_same fun r => RelM.srel_ok _ _ _ rfl

theorem scal_evalEs_step {Φ : Funs} {n : Nat} (ih : ScalAt Φ n) :
    ∀ σ μ μ' C es, scalarEs es = true → FlatOn σ (readsEs es) →
      RelM (SRels μ μ') (evalEs Φ (n+1) σ μ C es) (evalEs Φ (n+1) σ μ' C es) := by
  intro σ μ μ' C es h hfl
  cases es with
  | nil => dsimp only [evalEs]; exact ⟨rfl, rfl, rfl⟩
  | cons a as =>
    obtain ⟨⟨ha, fa⟩, hs, fs⟩ := scalarEs_cons h hfl
    dsimp only [evalEs]
    refine RelM.bind_srel (ih.evalE σ μ μ' C a ha fa) fun x1 _ => ?_
    refine RelM.bind (ih.evalEs σ μ μ' C as hs fs) fun ⟨vs, _⟩ ⟨_, _⟩ ⟨h1, h2, h3⟩ => ?_
    dsimp only at h1 h2 h3
    subst h1 h2 h3
    exact ⟨rfl, rfl, rfl⟩

theorem scal_evalChain_step {Φ : Funs} {n : Nat} (ih : ScalAt Φ n) :
    ∀ σ μ μ' C a ops es, flatV a = true → scalarEs es = true → FlatOn σ (readsEs es) →
      RelM (SRel μ μ') (evalChain Φ (n+1) σ μ C a ops es) (evalChain Φ (n+1) σ μ' C a ops es) := by
  intro σ μ μ' C a ops es ha h hfl
  cases ops with
  | nil => cases es <;> dsimp only [evalChain] <;> exact RelM.srel_ok _ _ _ rfl
  | cons op ops =>
    cases es with
    | nil => dsimp only [evalChain]; exact RelM.srel_ok _ _ _ rfl
    | cons b bs =>
      obtain ⟨⟨hb, fb⟩, hs, fs⟩ := scalarEs_cons h hfl
      dsimp only [evalChain]
      refine RelM.bind_srel (ih.evalE σ μ μ' C b hb fb) fun x1 hflat => ?_
      rw [valEq_flat μ μ' n ha hflat]
      apply RelM.bind_same; intro ok
      split
      · exact ih.evalChain σ μ μ' C x1 ops bs hflat hs fs
      · exact RelM.srel_ok _ _ _ rfl

theorem scal_evalAnd_step {Φ : Funs} {n : Nat} (ih : ScalAt Φ n) :
    ∀ σ μ μ' C es, scalarEs es = true → FlatOn σ (readsEs es) →
      RelM (SRel μ μ') (evalAnd Φ (n+1) σ μ C es) (evalAnd Φ (n+1) σ μ' C es) := by
  intro σ μ μ' C es h hfl
  cases es with
  | nil => dsimp only [evalAnd]; exact RelM.srel_ok _ _ _ rfl
  | cons a as =>
    obtain ⟨⟨ha, fa⟩, hs, fs⟩ := scalarEs_cons h hfl
    cases as with
    | nil => dsimp only [evalAnd]; exact ih.evalE σ μ μ' C a ha fa
    | cons b bs =>
      dsimp only [evalAnd]
      refine RelM.bind_srel (ih.evalE σ μ μ' C a ha fa) fun x1 hflat => ?_
      apply RelM.bind_same; intro bb
      split
      · exact ih.evalAnd σ μ μ' C (b :: bs) hs fs
      · exact RelM.srel_ok _ _ _ rfl

theorem scal_evalOr_step {Φ : Funs} {n : Nat} (ih : ScalAt Φ n) :
    ∀ σ μ μ' C es, scalarEs es = true → FlatOn σ (readsEs es) →
      RelM (SRel μ μ') (evalOr Φ (n+1) σ μ C es) (evalOr Φ (n+1) σ μ' C es) := by
  intro σ μ μ' C es h hfl
  cases es with
  | nil => dsimp only [evalOr]; exact RelM.srel_ok _ _ _ rfl
  | cons a as =>
    obtain ⟨⟨ha, fa⟩, hs, fs⟩ := scalarEs_cons h hfl
    cases as with
    | nil => dsimp only [evalOr]; exact ih.evalE σ μ μ' C a ha fa
    | cons b bs =>
      dsimp only [evalOr]
      refine RelM.bind_srel (ih.evalE σ μ μ' C a ha fa) fun x1 hflat => ?_
      apply RelM.bind_same; intro bb
      split
      · exact RelM.srel_ok _ _ _ rfl
      · exact ih.evalOr σ μ μ' C (b :: bs) hs fs

theorem scalAt (Φ : Funs) : ∀ n, ScalAt Φ n := by
  intro n
  induction n with
  | zero => constructor <;> intros <;> exact rfl
  | succ n ih =>
    exact ⟨scal_evalE_step ih, scal_evalEs_step ih, scal_evalChain_step ih, scal_evalAnd_step ih, scal_evalOr_step ih⟩

theorem scalar_eval {Φ : Funs} {n : Nat} {σ : Env} {μ : Heap} {C : Ctx} {e : Expr} {v : Val} {m : Heap}
    (hs : scalarE e = true) (hfl : FlatOn σ (readsE e)) (h : evalE Φ n σ μ C e = .ok (v, m)) :
    m = μ ∧ flatV v = true ∧ ∀ μ', evalE Φ n σ μ' C e = .ok (v, μ') := by
  have key : ∀ μ', m = μ ∧ flatV v = true ∧ evalE Φ n σ μ' C e = .ok (v, μ') := fun μ' => by
    rcases ((scalAt Φ n).evalE σ μ μ' C e hs hfl).cases with ⟨_, he, _⟩ | ⟨_, ⟨v', m'⟩, hx, hy, hv, hm, hm', hf⟩
    · rw [h] at he; cases he
    · rw [h] at hx; cases hx
      dsimp only at hv hm'
      exact ⟨hm, hf, by rw [hy, ← hv, hm']⟩
  exact ⟨(key μ).1, (key μ).2.1, fun μ' => (key μ').2.2⟩

theorem evalEω_litOf {Φ : Funs} {v : Val} {lit : Expr} (h : litOf v = some lit) (σ : Env) (μ : Heap) (C : Ctx) :
    evalEω Φ σ μ C lit = .ok (v, μ) := by
  cases v with
  | bool b => cases h; exact evalEω_bool Φ σ μ C _
  | num x => cases h; exact evalEω_num Φ σ μ C _
  | ctx c => cases h; exact evalEω_ctxLit Φ σ μ C _
  | tuple vs => cases h
  | list r => cases h

/-- a statement that evaluates its top-level expression once, in the current state, depends on it only through what
it evaluates to there (not `while`: its condition is evaluated again in later states) -/
theorem stmt_expr_congr {Φ : Funs} {σ : Env} {μ : Heap} {C : Ctx} {e e' : Expr}
    (h : evalEω Φ σ μ C e = evalEω Φ σ μ C e') (p : Pat) (t f rest : List Stmt) :
    evalBω Φ σ μ C (.assign p e :: rest) = evalBω Φ σ μ C (.assign p e' :: rest) ∧
    evalBω Φ σ μ C (.ret e :: rest) = evalBω Φ σ μ C (.ret e' :: rest) ∧
    evalBω Φ σ μ C (.assert e :: rest) = evalBω Φ σ μ C (.assert e' :: rest) ∧
    evalBω Φ σ μ C (.effect e :: rest) = evalBω Φ σ μ C (.effect e' :: rest) ∧
    evalBω Φ σ μ C (.ifte e t f :: rest) = evalBω Φ σ μ C (.ifte e' t f :: rest) ∧
    evalBω Φ σ μ C (.if1 e t :: rest) = evalBω Φ σ μ C (.if1 e' t :: rest) ∧
    evalBω Φ σ μ C (.for p e t :: rest) = evalBω Φ σ μ C (.for p e' t :: rest) := by
  have hB {s s' : Stmt} (hs : evalSω Φ σ μ C s = evalSω Φ σ μ C s') :
      evalBω Φ σ μ C (s :: rest) = evalBω Φ σ μ C (s' :: rest) := by rw [evalBω_cons', evalBω_cons', hs]
  refine ⟨hB ?_, hB ?_, hB ?_, hB ?_, hB ?_, hB ?_, hB ?_⟩
  · rw [evalSω_assign, evalSω_assign, h]
  · rw [evalSω_ret, evalSω_ret, h]
  · rw [evalSω_assert, evalSω_assert, h]
  · rw [evalSω_effect, evalSω_effect, h]
  · rw [evalSω_ifte, evalSω_ifte, h]
  · rw [evalSω_if1, evalSω_if1, evalSω_ifte, evalSω_ifte, h]
  · rw [evalSω_for, evalSω_for, h]

end Fpy.Xform
