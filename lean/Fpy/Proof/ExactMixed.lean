/-
Helper lemmas for property C05, mixed-type layer: `float()` through the binary64 rounding, conversion of the five
operand types, and the Python-level operators.  The operators are characterised by total equations: what
`Num.binop` / `Num.cmpOp` return on every pair of operands, seen through `Num.den` (`binop_eq`, `cmpOp_eq`); "whenever it
returns, the result denotes …" and "it returns when …" are read off them.
-/
import Fpy.Proof.Exact
import Fpy.Proof.CtxCore
namespace Fpy
open Fpy.Spec
open RF

theorem Ctx.round_exact_fin {C : Ctx} (hc : C.core.isSome = true) (x : RF) {res : Res}
    (hr : C.roundAtCore (.fin x) none false 0 = .ok res) (hi : res.fl.inexact = false) :
    res.v.den = .fin x.val := by
  obtain ⟨y, hy, hv⟩ := Ctx.roundAtCore_kept hc x none false 0 hr (Or.inr hi)
  rw [hy]; exact congrArg ExtVal.fin hv

/-- `float(x)`: what `default_float_convert` returns denotes the operand -/
theorem toFloatCore_flt_den (v w : FV) (h : toFloatCore (.flt v) = .ok w) : w.den = v.den := by
  unfold toFloatCore at h
  cases hr : fp64.round (.flt v) with
  | error e => rw [hr] at h; cases h
  | ok res =>
    rw [hr] at h
    by_cases hi : res.fl.inexact = true
    · simp [hi] at h
    · simp only [hi, Bool.false_eq_true, if_false, Except.ok.injEq] at h
      subst h
      cases v with
      | fin x => exact Ctx.round_exact_fin (C := fp64) rfl x hr (by simpa using hi)
      | inf s => cases hr; rfl
      | nan s => cases hr; rfl

theorem isPow2_spec {d : Nat} (h : isPow2 d = true) : d ≠ 0 ∧ 2 ^ d.log2 = d := by
  unfold isPow2 at h; simpa using h

/-- the outcome of an operation that must convert an operand exactly: the value when the conversion exists
(`c`), `ValueError` (from `from_rational`) when not -/
def okIf {α : Type} (c : Bool) (a : α) : Except Err α := if c then .ok a else .error .valueError

/-- running on with the converted operand: `f` on the results is `g` on what they stand for.  (`res` is a model
function's own `match` on `r`, another auxiliary definition than the `match` written here: `hres` is by
`cases r <;> rfl`.) -/
theorem okIf_map {α β γ δ : Type} {r : Except Err α} {c : Bool} {e : β} {den : α → β}
    (h : r.map den = okIf c e) (f : α → γ) (den' : γ → δ) (g : β → δ) (hfg : ∀ a, den' (f a) = g (den a))
    {res : Except Err γ} (hres : res = match (generalizing := false) r with | .ok a => Except.ok (f a) | .error e => .error e) :
    res.map den' = okIf c (g e) := by
  subst hres
  cases r with
  | error err => cases c <;> cases h; rfl
  | ok a => cases c <;> cases h; exact congrArg Except.ok (hfg a)

theorem okIf_inv {α β : Type} {r : Except Err α} {c : Bool} {e : β} {den : α → β} (h : r.map den = okIf c e) :
    (∀ a, r = .ok a → den a = e) ∧ (c = true → ∃ a, r = .ok a) := by
  cases r with
  | error err => cases c <;> cases h; exact ⟨nofun, nofun⟩
  | ok a => cases c <;> cases h; exact ⟨fun _ e => by cases e; rfl, fun _ => ⟨a, rfl⟩⟩

theorem RF.ofRational_eq (n : Int) (d : Nat) :
    (RF.ofRational? n d).map RF.val = okIf (isPow2 d) (mkRat n d) := by
  unfold RF.ofRational?
  cases hp : isPow2 d
  · rfl
  · obtain ⟨hd0, hd⟩ := isPow2_spec hp
    simp only [Bool.not_true, Bool.false_eq_true, if_false]
    by_cases hn : n = 0
    · rw [if_pos hn, hn]; exact congrArg Except.ok (by simp [RF.zero, val_mk_zero])
    · rw [if_neg hn]
      by_cases h1 : d = 1
      · rw [if_pos h1, h1]; refine congrArg Except.ok ?_
        rw [RF.ofInt_val, Rat.mkRat_eq_div, show ((1 : Nat) : Rat) = 1 from rfl, Rat.div_def,
          Rat.inv_eq_of_mul_eq_one (Rat.mul_one 1), Rat.mul_one]
      · rw [if_neg h1]; refine congrArg Except.ok ?_
        rw [Rat.mkRat_eq_div]
        unfold rfOfDyadic
        rw [val_ofSigned]
        have hb : ((bitLength d : Nat) : Int) - 1 = (d.log2 : Int) := by unfold bitLength; simp [hd0]
        rw [hb, Rat.zpow_neg, two_zpow_nat, hd, Rat.div_def]

theorem FV.ofNum_eq (b : Num) : (FV.ofNum b).map FV.den = okIf b.dyadic b.den := by
  cases b with
  | Q n d =>
    exact okIf_map (RF.ofRational_eq n d) FV.fin FV.den ExtVal.fin (fun _ => rfl)
      (by simp only [FV.ofNum]; cases RF.ofRational? n d <;> rfl)
  | I i => exact congrArg (fun q => Except.ok (ExtVal.fin q)) (RF.ofInt_val i)
  | _ => rfl

theorem Num.neg_den (b : Num) : b.neg.den = b.den.neg := by
  cases b with
  | F w => exact FV.neg_den w
  | R x => simp [Num.neg, Num.den, ExtVal.neg, val_neg]
  | I i => simp [Num.neg, Num.den, ExtVal.neg]
  | D w => exact FV.neg_den w
  | Q n d => simp [Num.neg, Num.den, ExtVal.neg, Rat.neg_mkRat]

theorem ExtVal.add_comm (a b : ExtVal) : a.add b = b.add a := by
  cases a <;> cases b <;> simp [ExtVal.add, Rat.add_comm]

theorem ExtVal.mul_comm (a b : ExtVal) : a.mul b = b.mul a := by
  cases a <;> cases b <;> simp [ExtVal.mul, Rat.mul_comm, Bool.or_comm, ExtVal.isNeg, ExtVal.isZero, ExtVal.ofInf] <;>
    split <;> simp_all

theorem Num.neg_dyadic (b : Num) : b.neg.dyadic = b.dyadic := by cases b <;> rfl

theorem FV.addNum_eq (a : FV) (b : Num) : (a.addNum b).map FV.den = okIf b.dyadic (a.den.add b.den) :=
  okIf_map (FV.ofNum_eq b) a.add FV.den a.den.add (FV.add_den a)
    (by unfold FV.addNum; cases FV.ofNum b <;> rfl)

theorem FV.mulNum_eq (a : FV) (b : Num) : (a.mulNum b).map FV.den = okIf b.dyadic (a.den.mul b.den) :=
  okIf_map (FV.ofNum_eq b) a.mul FV.den a.den.mul (FV.mul_den a)
    (by unfold FV.mulNum; cases FV.ofNum b <;> rfl)

theorem Num.liftF_map (r : Except Err FV) : (Num.liftF r).map Num.den = r.map FV.den := by
  cases r <;> rfl

theorem RF.addNum_eq (x : RF) (b : Num) (hF : ∀ w, b ≠ .F w) :
    (x.addNum b).map Num.den = okIf b.dyadic ((ExtVal.fin x.val).add b.den) := by
  cases b with
  | F w => exact absurd rfl (hF w)
  | R y => exact congrArg (fun q => Except.ok (ExtVal.fin q)) (val_add x y)
  | I i => exact congrArg (fun q => Except.ok (ExtVal.fin q)) ((val_add x _).trans (by rw [RF.ofInt_val]))
  | D w =>
    cases w with
    | fin y => exact congrArg (fun q => Except.ok (ExtVal.fin q)) (val_add x y)
    | inf t => cases t <;> rfl
    | nan t => rfl
  | Q n d =>
    exact okIf_map (RF.ofRational_eq n d) (fun y => Num.R (x.add y)) Num.den (fun q => (ExtVal.fin x.val).add (.fin q))
      (fun y => congrArg ExtVal.fin (val_add x y))
      (by simp only [RF.addNum]; cases RF.ofRational? n d <;> rfl)

theorem RF.mulNum_eq (x : RF) (b : Num) (hF : ∀ w, b ≠ .F w) :
    (x.mulNum b).map Num.den = okIf b.dyadic ((ExtVal.fin x.val).mul b.den) := by
  cases b with
  | F w => exact absurd rfl (hF w)
  | R y => exact congrArg (fun q => Except.ok (ExtVal.fin q)) (val_mul x y)
  | I i => exact congrArg (fun q => Except.ok (ExtVal.fin q)) ((val_mul x _).trans (by rw [RF.ofInt_val]))
  | D w =>
    cases w with
    | fin y => exact congrArg (fun q => Except.ok (ExtVal.fin q)) (val_mul x y)
    | nan t => rfl
    | inf t =>
      have e : x.mulNum (.D (.inf t)) = .ok (.D ((FV.fin x).mul (.inf t))) := by
        by_cases h0 : x.c = 0 <;> simp [RF.mulNum, FV.mul, h0]
      rw [e]; exact congrArg Except.ok (FV.mul_den (.fin x) (.inf t))
  | Q n d =>
    exact okIf_map (RF.ofRational_eq n d) (fun y => Num.R (x.mul y)) Num.den (fun q => (ExtVal.fin x.val).mul (.fin q))
      (fun y => congrArg ExtVal.fin (val_mul x y))
      (by simp only [RF.mulNum]; cases RF.ofRational? n d <;> rfl)


/-- does `a`'s own method run to the end against `b`?  A `Float`'s always; a `RealFloat`'s unless it faces a `Float`
(it returns `NotImplemented`); a native type's never -/
def Num.leftRuns : Num → Num → Bool
  | .F _, _ => true
  | .R _, .F _ => false
  | .R _, _ => true
  | _, _ => false

/-- the method every arm of `binop` ends in: `self.__add__(o)` / `self.__mul__(o)` of a library operand -/
def Num.meth (mul : Bool) : Num → Num → Except Err Num
  | .F w, o => Num.liftF (bif mul then w.mulNum o else w.addNum o)
  | .R y, o => bif mul then y.mulNum o else y.addNum o
  | _, _ => .error .typeError

theorem Num.meth_eq (mul : Bool) (self o : Num) (h : Num.leftRuns self o = true) :
    (Num.meth mul self o).map Num.den
      = okIf o.dyadic ((bif mul then ExtVal.mul else ExtVal.add) self.den o.den) := by
  cases self with
  | F w => cases mul <;> simp only [Num.meth, cond, Num.liftF_map, FV.addNum_eq, FV.mulNum_eq] <;> rfl
  | R y =>
    have hF : ∀ w, o ≠ .F w := fun w e => by subst e; cases h
    cases mul
    · exact RF.addNum_eq y o hF
    · exact RF.mulNum_eq y o hF
  | _ => cases h

/-- the left operand's method runs (`a - b` is `a + (-b)`) ... -/
def Num.direct (op : Num.BinOp) (a b : Num) : Except Err Num :=
  match op with | .add => Num.meth false a b | .sub => Num.meth false a b.neg | .mul => Num.meth true a b

/-- ... or the reflected method of the right one (`a - b` is `(-b).__radd__(a)`) -/
def Num.reflected (op : Num.BinOp) (a b : Num) : Except Err Num :=
  match op with | .add => Num.meth false b a | .sub => Num.meth false b.neg a | .mul => Num.meth true b a

theorem Num.leftRuns_neg (a b : Num) : Num.leftRuns a b.neg = Num.leftRuns a b ∧ Num.leftRuns a.neg b = Num.leftRuns a b := by
  cases a <;> cases b <;> exact ⟨rfl, rfl⟩

theorem Num.direct_eq (op : Num.BinOp) (a b : Num) (h : Num.leftRuns a b = true) :
    (Num.direct op a b).map Num.den = okIf b.dyadic (op.spec a.den b.den) := by
  cases op
  · exact Num.meth_eq false a b h
  · simp only [Num.direct]
    rw [Num.meth_eq false a b.neg ((Num.leftRuns_neg a b).1.trans h), Num.neg_dyadic, Num.neg_den]; rfl
  · exact Num.meth_eq true a b h

theorem Num.reflected_eq (op : Num.BinOp) (a b : Num) (h : Num.leftRuns b a = true) :
    (Num.reflected op a b).map Num.den = okIf a.dyadic (op.spec a.den b.den) := by
  cases op <;> simp only [Num.reflected]
  · rw [Num.meth_eq false b a h]; exact congrArg _ (ExtVal.add_comm ..)
  · rw [Num.meth_eq false b.neg a ((Num.leftRuns_neg b a).2.trans h), Num.neg_den]; exact congrArg _ (ExtVal.add_comm ..)
  · rw [Num.meth_eq true b a h]; exact congrArg _ (ExtVal.mul_comm ..)

/-- Python's operator dispatch, as a table -/
theorem Num.binop_dispatch (op : Num.BinOp) (a b : Num) :
    Num.binop op a b = if Num.leftRuns a b then Num.direct op a b
      else if b.isFpy then Num.reflected op a b else .error .typeError := by
  cases a <;> cases b <;> cases op <;> rfl

theorem Num.leftRuns_true {a b : Num} : Num.leftRuns a b = true → a.isFpy = true ∧ a.dyadic = true := by
  cases a <;> intro h <;> first | exact ⟨rfl, rfl⟩ | cases h

theorem Num.leftRuns_false {a b : Num} : Num.leftRuns a b = false →
    if b.isFpy then Num.leftRuns b a = true ∧ b.dyadic = true else a.isFpy = false := by
  cases a <;> cases b <;> intro h <;> first | exact ⟨rfl, rfl⟩ | rfl | cases h

/-- **`+ - *` in closed form** -/
theorem Num.binop_eq (op : Num.BinOp) (a b : Num) :
    (Num.binop op a b).map Num.den =
      if a.isFpy || b.isFpy then okIf (a.dyadic && b.dyadic) (op.spec a.den b.den) else .error .typeError := by
  rw [Num.binop_dispatch]
  cases hl : Num.leftRuns a b
  · have := Num.leftRuns_false hl
    cases hb : b.isFpy <;> rw [hb] at this
    · rw [this]; rfl
    · rw [this.2, Bool.or_true, Bool.and_true]; exact Num.reflected_eq op a b this.1
  · rw [(Num.leftRuns_true hl).1, (Num.leftRuns_true hl).2]; exact Num.direct_eq op a b hl

theorem FV.compareNum_den (a : FV) (b : Num) : a.compareNum b = a.den.cmp b.den := by
  unfold FV.compareNum
  cases a with
  | nan s => cases b <;> rfl
  | inf s =>
    cases b with
    | F w => exact FV.compare_den _ w
    | D w => exact FV.compare_den _ w
    | R y => exact FV.compare_den _ (.fin y)
    | I i => simp only []; rw [FV.compare_den]; simp [FV.den, Num.den, RF.ofInt_val]
    | Q n d => cases s <;> rfl
  | fin x =>
    cases b with
    | F w => exact FV.compare_den _ w
    | D w => exact FV.compare_den _ w
    | R y => exact FV.compare_den _ (.fin y)
    | I i => simp only []; rw [FV.compare_den]; simp [FV.den, Num.den, RF.ofInt_val]
    | Q n d => rfl

theorem cmpQ_swap (a b : Rat) : ExtVal.cmpQ b a = (ExtVal.cmpQ a b).swap := by
  unfold ExtVal.cmpQ
  by_cases h1 : a < b
  · have h2 : ¬ b < a := Rat.not_lt.mpr (Rat.le_of_lt h1)
    simp [h1, h2]
  · by_cases h2 : b < a <;> simp [h1, h2]

theorem ExtVal.cmp_swap (a b : ExtVal) : b.cmp a = (a.cmp b).map Ordering.swap := by
  cases a <;> cases b <;> first | rfl | (simp only [ExtVal.cmp, Option.map_some]; rw [cmpQ_swap])

theorem Num.CmpOp.test_swap (op : Num.CmpOp) (o : Option Ordering) :
    op.swap.test (o.map Ordering.swap) = op.test o := by
  cases o with
  | none => cases op <;> rfl
  | some o => cases op <;> cases o <;> rfl

theorem RF.compareNum_eq (x : RF) (b : Num) (hF : ∀ w, b ≠ .F w) :
    x.compareNum b = .ok ((ExtVal.fin x.val).cmp b.den) := by
  cases b with
  | F w => exact absurd rfl (hF w)
  | R y => simp only [RF.compareNum, compare_cmpRat]; rfl
  | I i => simp only [RF.compareNum, compare_cmpRat, RF.ofInt_val]; rfl
  | D w =>
    cases w with
    | nan t => rfl
    | inf t => cases t <;> rfl
    | fin y => simp only [RF.compareNum, compare_cmpRat]; rfl
  | Q n d => rfl

theorem Num.cmpLeft_eq (op : Num.CmpOp) (a b : Num) (ha : a.isFpy = true) :
    Num.cmpLeft op a b = .ok (op.test (a.den.cmp b.den)) := by
  cases a with
  | F v => simp only [Num.cmpLeft, FV.compareNum_den]; rfl
  | R x =>
    cases b with
    | F w => simp only [Num.cmpLeft, FV.compareNum_den]; rw [ExtVal.cmp_swap, Num.CmpOp.test_swap]; rfl
    | _ => simp only [Num.cmpLeft]; rw [RF.compareNum_eq x _ (by intro w h; cases h)]; rfl
  | _ => cases ha

/-- **the rich comparisons, in closed form** -/
theorem Num.cmpOp_eq (op : Num.CmpOp) (a b : Num) :
    Num.cmpOp op a b =
      if a.isFpy || b.isFpy then .ok (op.test (a.den.cmp b.den)) else .error .typeError := by
  -- the reflected call compares `b` with `a` under the swapped operator
  have refl : b.isFpy = true → Num.cmpLeft op.swap b a = .ok (op.test (a.den.cmp b.den)) := fun hb => by
    rw [Num.cmpLeft_eq _ _ _ hb, ExtVal.cmp_swap a.den b.den, Num.CmpOp.test_swap]
  cases a with
  | F v => exact Num.cmpLeft_eq op (.F v) b rfl
  | R x => exact Num.cmpLeft_eq op (.R x) b rfl
  | Q n d =>
    cases b with
    | R y => rfl
    | F w => exact refl rfl
    | _ => rfl
  | I i => cases b <;> first | exact refl rfl | rfl
  | D v => cases b <;> first | exact refl rfl | rfl


theorem RF.compareNum_ok (x : RF) (b : Num) (hF : ∀ w, b ≠ .F w) : ∃ o, x.compareNum b = .ok o :=
  ⟨_, RF.compareNum_eq x b hF⟩

theorem FV.powInt_eq (a : FV) (k : Int) :
    (a.powInt k).map FV.den = if k < 0 then .error .valueError else .ok (a.den.pow k.toNat) := by
  unfold FV.powInt
  by_cases hk : k < 0
  · rw [if_pos hk, if_pos hk]; rfl
  · rw [if_neg hk, if_neg hk]
    by_cases h0 : k = 0
    · rw [if_pos h0, h0]; simp [Except.map, FV.den, ExtVal.pow, val_mk, sgn]
    · rw [if_neg h0]
      have hn : k.toNat ≠ 0 := by omega
      have hpar : (k % 2 != 0) = decide (k.toNat % 2 = 1) := by
        rcases (by omega : k % 2 = 0 ∨ k % 2 = 1) with hp | hp <;> simp [hp] <;> omega
      cases a with
      | fin x => simp [Except.map, FV.den, ExtVal.pow, hn, val_pow]
      | nan s => simp [Except.map, FV.den, FV.withSign, ExtVal.pow, hn]
      | inf s => cases s <;> simp [Except.map, FV.den, FV.withSign, FV.sign, ExtVal.pow, hn, ExtVal.ofInf, hpar]

/-- **`a ** k` in closed form** -/
theorem Num.pow_eq (a : Num) (k : Int) :
    (Num.pow a k).map Num.den =
      if a.isFpy then (if k < 0 then .error .valueError else .ok (a.den.pow k.toNat)) else .error .typeError := by
  cases a with
  | F v => exact (Num.liftF_map _).trans (FV.powInt_eq v k)
  | R x =>
    show Except.map Num.den (if k < 0 then _ else _) = if k < 0 then _ else _
    by_cases hk : k < 0
    · rw [if_pos hk, if_pos hk]; rfl
    · rw [if_neg hk, if_neg hk]; refine congrArg Except.ok ?_
      show ExtVal.fin (x.pow k.toNat).val = _
      rw [val_pow]; unfold ExtVal.pow
      by_cases h0 : k.toNat = 0
      · rw [if_pos h0, h0, Rat.pow_zero]
      · rw [if_neg h0]; rfl
  | _ => rfl

theorem RF.toInt_ok_den (x : RF) (i : Int) (h : Num.toInt (.R x) = .ok i) : ExtVal.fin x.val = .fin (i : Rat) := by
  simp only [Num.toInt] at h
  split at h
  · next j hj => cases h; rw [toInt_some x _ hj]
  · cases h

theorem RF.toInt_error_iff (x : RF) :
    (∃ e, Num.toInt (.R x) = .error e) ↔ ¬ ∃ k : Int, ExtVal.fin x.val = .fin (k : Rat) := by
  simp only [Num.toInt, ExtVal.fin.injEq]
  cases hx : x.toInt? with
  | none => exact ⟨fun _ => (toInt_none_iff x).mp hx, fun _ => ⟨_, rfl⟩⟩
  | some j => exact ⟨fun ⟨e, he⟩ => (nomatch he), fun hn => absurd ⟨j, (toInt_some x j hx).symm⟩ hn⟩

/-- the class key as a function of the denoted value: the integer, else the reduced fraction, else the constants -/
def Spec.ExtVal.key : ExtVal → RF.HashKey
  | .nan => .nan
  | .pinf => .inf false
  | .ninf => .inf true
  | .fin q => if q.den = 1 then .int q.num else .frac q

theorem RF.hashKey_eq (x : RF) : x.hashKey = (ExtVal.fin x.val).key := by
  unfold RF.hashKey RF.asRational ExtVal.key
  cases h : x.toInt? with
  | some i =>
    rw [← (toInt_eq_some_iff x i).1 h]
    exact ((if_pos (Rat.den_intCast i)).trans (by rw [Rat.num_intCast])).symm
  | none =>
    exact (if_neg fun hd => (toInt_none_iff x).1 h
      ⟨x.val.num, Rat.ext (Rat.num_intCast _).symm (hd.trans (Rat.den_intCast _).symm)⟩).symm

theorem Num.hashKey_eq (a : Num) : Num.hashKey a = if a.isFpy then .ok a.den.key else .error .typeError := by
  have fv : ∀ v : FV, v.hashKey = v.den.key := fun v => by
    cases v with
    | fin x => exact RF.hashKey_eq x
    | inf s => cases s <;> rfl
    | nan s => rfl
  cases a with
  | F v => exact congrArg Except.ok (fv v)
  | R x => exact congrArg Except.ok (RF.hashKey_eq x)
  | _ => rfl

/-- **Equal values hash equally** (`Float` and `RealFloat`, any encodings) -/
theorem Num.hash_class (a b : Num) (ka kb : RF.HashKey) (ha : Num.hashKey a = .ok ka)
    (hb : Num.hashKey b = .ok kb) (h : a.den = b.den) : ka = kb := by
  rw [Num.hashKey_eq] at ha hb
  split at ha <;> split at hb <;> cases ha <;> cases hb
  rw [h]

end Fpy
