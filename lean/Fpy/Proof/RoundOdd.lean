/-
Round-to-odd re-rounding: the load-bearing lemma of C02.

An exact value truncated toward zero at some digit, with "anything lost" OR-ed into the last kept
digit (what `gmputils._round_odd` does to MPFR's toward-zero result), rounds under every mode to the
same point as the exact value itself, provided at least two digits are kept below the final rounding
position.  Proved once on integers (`rto_reround`), then lifted to the model's `_round_at`; the digits kept are
`C03.workPrec` of `Model/Elem`, in which `mpfr_call`'s choice of precision is written once for C02 and C03.
-/
import Fpy.Proof.Round
import Fpy.Model.Elem
namespace Fpy
open Fpy.Spec

/-- the significand of `rtoRF` on integers: `j` digits of `c` dropped, "anything lost" OR-ed into the last bit -/
def rtoNat (c j : Nat) : Nat := rtoBit (c / 2 ^ j) (c % 2 ^ j != 0)

/-- with `t = c / J`: `rtoBit t b = 2·(t/2) + [t odd ∨ b]`, and `c % (2J) ≠ 0 ↔ t odd ∨ c % J ≠ 0` -/
theorem rtoBit_div (c J : Nat) (hJ : 0 < J) : rtoBit (c / J) (c % J != 0) = C03.ratCode c (2 * J) := by
  unfold rtoBit C03.ratCode
  rw [Nat.mul_comm 2 J, ← Nat.div_div_eq_div_mul, Nat.mod_mul]
  generalize c / J = t
  generalize c % J = v
  have hJ' : J ≠ 0 := Nat.pos_iff_ne_zero.1 hJ
  rcases Nat.mod_two_eq_zero_or_one t with h | h <;> rw [h] <;> by_cases hv : v = 0 <;> simp [hv, hJ'] <;> omega

/-- **Round-to-odd re-rounding, on integers.**  Why two guard digits (`j + 2 ≤ k`): one is the sticky digit itself (the
intermediate is a code to half a unit); the second because a code on a spacing of 2 would read the sticky bit as a tie
(`ratCode_rounds` needs `K ≥ 1`). -/
theorem rto_reround (rm : RM) (s : Bool) (c j k : Nat) (h : j + 2 ≤ k) :
    roundQuot rm s (rtoNat c j) (k - j) = roundQuot rm s c k ∧
    ((rtoNat c j) % 2 ^ (k - j) = 0 ↔ c % 2 ^ k = 0) := by
  obtain ⟨K, rfl⟩ : ∃ K, k = j + 1 + K := ⟨k - j - 1, by omega⟩
  have e : j + 1 + K - j = K + 1 := by omega
  have hJ : 0 < 2 ^ j := Nat.pow_pos (by decide)
  -- `rtoNat c j = ratCode c D` with `D = 2·2^j`, and `D·2^K = 2^k`
  have := C03.ratCode_rounds rm s c (2 * 2 ^ j) K (by omega) (by omega)
  rw [← rtoBit_div c _ hJ, ← Nat.pow_succ', ← Nat.pow_add, roundQuotG_pow] at this
  rw [e]; exact this

theorem bitLength_rtoBit (t q : Nat) (b : Bool) (hq : 1 ≤ q) (h : bitLength t = q) : bitLength (rtoBit t b) = q := by
  unfold rtoBit
  split
  · rename_i hc
    obtain ⟨h1, h2⟩ := (bitLength_eq_iff t q hq).1 h
    apply (bitLength_eq_iff _ q hq).2
    have hev : t % 2 = 0 := by
      simp only [Bool.and_eq_true, beq_iff_eq] at hc; exact hc.1
    have hp := two_pow_pred q hq
    constructor <;> omega
  · exact h

theorem rtoRF_drop (x : RF) (q : Nat) (h : ¬ x.p ≤ q) :
    rtoRF x q = ⟨x.s, x.exp + ((x.p - q : Nat) : Int), rtoNat x.c (x.p - q)⟩ := by
  unfold rtoRF rtoNat rtoBit; simp only [h, if_false]

theorem rtoRF_keep (x : RF) (q : Nat) (h : x.p ≤ q) : rtoRF x q = x := by
  unfold rtoRF; simp only [h, if_true]

theorem rtoRF_props (x : RF) (q : Nat) (hq : 1 ≤ q) (hc : x.c ≠ 0) :
    (rtoRF x q).c ≠ 0 ∧ (rtoRF x q).e = x.e ∧ (rtoRF x q).s = x.s := by
  by_cases h : x.p ≤ q
  · rw [rtoRF_keep x q h]; exact ⟨hc, rfl, rfl⟩
  · rw [rtoRF_drop x q h]
    have hb : bitLength x.c = q + (x.p - q) := by unfold RF.p at h ⊢; omega
    have h1 := bitLength_div_pow x.c (x.p - q) q hq hb
    have h2 : bitLength (rtoNat x.c (x.p - q)) = q := bitLength_rtoBit _ q _ hq h1
    refine ⟨?_, ?_, rfl⟩
    · exact ne_zero_of_bitLength (by rw [h2]; exact hq)
    · unfold RF.e RF.p at *; simp only; rw [h2]; omega

theorem rtoRF_reround (x : RF) (q : Nat) (n : Int) (rm : RM) (h : ¬ x.p ≤ q)
    (hj : (x.p - q) + 2 ≤ (n + 1 - x.exp).toNat) :
    roundQuot rm (rtoRF x q).s (rtoRF x q).c (n + 1 - (rtoRF x q).exp).toNat
      = roundQuot rm x.s x.c (n + 1 - x.exp).toNat ∧
    ((rtoRF x q).c % 2 ^ (n + 1 - (rtoRF x q).exp).toNat = 0 ↔ x.c % 2 ^ (n + 1 - x.exp).toNat = 0) := by
  rw [rtoRF_drop x q h]
  simp only
  rw [show (n + 1 - (x.exp + ((x.p - q : Nat) : Int))).toNat = (n + 1 - x.exp).toNat - (x.p - q) by omega]
  exact rto_reround rm x.s x.c (x.p - q) _ hj

namespace C03

theorem two_le_workPrec (prec : Option Nat) (n : Option Int) (e : Int) : 2 ≤ workPrec prec n e := by
  unfold workPrec
  cases prec <;> cases n <;> simp only <;> (try split) <;> omega

/-- the two-pass choice: the digits kept reach two positions below `n` -/
theorem workPrec_reach (e n : Int) : e + 1 - (workPrec none (some n) e : Int) ≤ n - 1 := by
  unfold workPrec; simp only; split <;> omega

theorem mpfrRtoRF_workPrec (x : RF) (hx : x.c ≠ 0) (prec : Option Nat) (n : Option Int)
    (hpn : (prec.isNone && n.isNone) = false) :
    mpfrRtoRF x prec n = .ok (rtoRF x (workPrec prec n x.e)) := by
  unfold mpfrRtoRF workPrec
  rw [if_neg hx]
  cases prec with
  | some p => rfl
  | none =>
    cases n with
    | none => exact absurd hpn (by decide)
    | some n => simp only; split <;> rfl

end C03

/-- `hqn`: the `q` digits kept reach at least two positions below `n` -/
theorem rto_round_at (x : RF) (q : Nat) (n : Int) (rm : RM) (hc : x.c ≠ 0) (hq : 1 ≤ q)
    (hqn : x.e + 1 - (q : Int) ≤ n - 1) :
    ∃ y fl fl', x.roundAtCore none n none rm false = .ok (y, fl) ∧
      (rtoRF x q).roundAtCore none n none rm false = .ok (y, fl') ∧ fl'.inexact = fl.inexact ∧
      fl'.overflow = fl.overflow := by
  by_cases h : x.p ≤ q
  · rw [rtoRF_keep x q h, roundAtCore_none x n rm]; exact ⟨_, _, _, rfl, rfl, rfl, rfl⟩
  · obtain ⟨-, -, hs'⟩ := rtoRF_props x q hq hc
    have hle : x.exp ≤ n := by unfold RF.e at hqn; omega
    have hle' : (rtoRF x q).exp ≤ n := by rw [rtoRF_drop x q h]; simp only; unfold RF.e at hqn; omega
    have h2 := roundAtCore_fixed (rtoRF x q) n rm hle'
    obtain ⟨r1, r2⟩ := rtoRF_reround x q n rm h (by unfold RF.e at hqn; omega)
    rw [r1, hs'] at h2
    exact ⟨_, _, _, roundAtCore_fixed x n rm hle, h2, decide_eq_decide.2 (not_congr r2), rfl⟩

/-- the float shape inherits re-rounding from the fixed shape: equal results stay equal under `carry` -/
theorem rto_round_prec (x : RF) (p q : Nat) (n : Int) (emin : Option Int) (rm : RM)
    (hc : x.c ≠ 0) (hp : 1 ≤ p) (hq : p + 2 ≤ q) (hn : x.e - p ≤ n) :
    ∃ y fl fl', x.roundAtCore (some p) n emin rm false = .ok (y, fl) ∧
      (rtoRF x q).roundAtCore (some p) n emin rm false = .ok (y, fl') ∧
      fl'.inexact = fl.inexact ∧ fl'.overflow = fl.overflow := by
  obtain ⟨hc', he', -⟩ := rtoRF_props x q (by omega) hc
  obtain ⟨y, fl, fl', h1, h2, hi, -⟩ := rto_round_at x q n rm hc (by omega) (by omega)
  obtain ⟨y1, f1, a1, -, -, g1, b1, i1, o1⟩ := roundAtCore_some x p n emin rm hc hn
  obtain ⟨y2, f2, a2, -, -, g2, b2, i2, o2⟩ := roundAtCore_some (rtoRF x q) p n emin rm hc' (by rw [he']; exact hn)
  rw [h1] at a1; rw [h2] at a2; cases a1; cases a2
  exact ⟨_, _, _, b1, b2, by rw [i1, i2, hi], by rw [o1, o2]⟩

/-- the intermediate is `mpfrRtoRF x none (some n)`, its two-pass choice written out -/
theorem rto_round_fixed (x : RF) (n : Int) (rm : RM) (hc : x.c ≠ 0) :
    ∃ y fl fl', x.roundAtCore none n none rm false = .ok (y, fl) ∧
      (if x.e ≤ n then rtoRF x 2 else rtoRF x ((x.e - n).toNat + 2)).roundAtCore none n none rm false = .ok (y, fl') ∧
      fl'.inexact = fl.inexact ∧ fl'.overflow = fl.overflow := by
  rw [← apply_ite (rtoRF x)]
  exact rto_round_at x (C03.workPrec none (some n) x.e) n rm hc (by have := C03.two_le_workPrec none (some n) x.e; omega)
    (C03.workPrec_reach x.e n)

end Fpy
