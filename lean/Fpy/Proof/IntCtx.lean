/-
The two number-layer interfaces of the loop-unrolling theorems (C08), proved:

* `intArith_INTEGER : IntArith Lib.integerCtx` — under `fp.INTEGER`
  (`MPFixedContext(-1, RM.RTZ, enable_neg_zero=False)`, modelled by `Lib.integerCtx`) sums, differences and
  C remainders of integer-valued numbers are exact, for every representation `nvInt?` accepts
  (`Float` with any redundant encoding, either zero, or an integer-valued `Fraction`);
* `nvCompare_int` — `==` on integer-valued numbers is equality of the integers: the content of `IntEq`
  (Proof/LangUnroll.lean), whose instance `Props.C08.intEq` (Props/C08Int.lean) is read off it.

Route: C02 (`op_exact_correct`, `addArm_form`: the operation is the exact `RealFloat` result rounded ONCE by the
context), C05 (`RF.val_add`, `RF.val_sub`, `RF.compare_cmpRat`: the value is a homomorphism), C01v
(`C01v.fixed_round_total` with `C01v.roundVal_eq_iff`: a value on the grid is returned unchanged).
-/
import Fpy.Proof.LangIdx
import Fpy.Proof.EFT
import Fpy.Proof.RoundValRF
namespace Fpy.Xform
open Fpy Fpy.Lang Fpy.Spec

theorem toInt_of_val (x : RF) (i : Int) (h : x.val = (i : Rat)) : x.toInt? = some i :=
  (RF.toInt_eq_some_iff x i).2 h.symm

/-- the integer reading over a common denominator: read off the value `m · 2^exp`, the two signs of `exp` apart -/
theorem toInt_iff_spec (x : RF) (i : Int) :
    x.toInt? = some i ↔ i * ((2 ^ (-x.exp).toNat : Nat) : Int) = x.m * ((2 ^ x.exp.toNat : Nat) : Int) := by
  have hv : x.toInt? = some i ↔ x.val = (i : Rat) := (RF.toInt_eq_some_iff x i).trans eq_comm
  rw [hv, RF.val_eq_m]
  by_cases he : x.exp ≥ 0
  · have e0 : (-x.exp).toNat = 0 := by omega
    obtain ⟨n, hn⟩ := Int.eq_ofNat_of_zero_le he
    rw [e0, hn, Int.toNat_natCast, RF.two_zpow_nat, Nat.pow_zero, Int.natCast_one, Int.mul_one, ← Rat.intCast_natCast,
      ← Rat.intCast_mul, Rat.intCast_inj]
    exact eq_comm
  · have e0 : x.exp.toNat = 0 := by omega
    have h' : x.exp = -((-x.exp).toNat : Int) := by omega
    rw [e0, Nat.pow_zero, Int.natCast_one, Int.mul_one]
    generalize (-x.exp).toNat = k at h' ⊢
    have hp : ((2 ^ k : Nat) : Rat) ≠ 0 := by
      rw [Ne, Rat.natCast_eq_zero_iff]; exact Nat.ne_of_gt (Nat.pow_pos (by decide))
    rw [h', Rat.zpow_neg, RF.two_zpow_nat, ← Rat.intCast_inj (a := i * _), Rat.intCast_mul, Rat.intCast_natCast]
    constructor <;> intro h
    · rw [← h, Rat.mul_assoc, Rat.inv_mul_cancel _ hp, Rat.mul_one]
    · rw [← h, Rat.mul_assoc, Rat.mul_inv_cancel _ hp, Rat.mul_one]

theorem nvInt_cases {x : NV} {a : Int} (h : nvInt? x = some a) :
    (∃ r : RF, x = .fv (.fin r) ∧ r.toInt? = some a) ∨ x = .q a 1 := by
  cases x with
  | fv v =>
    cases v with
    | fin r => exact .inl ⟨r, rfl, h⟩
    | inf s => cases h
    | nan s => cases h
  | q n d =>
    have h' : (if d = 1 then some n else none) = some a := h
    by_cases hd : d = 1
    · rw [if_pos hd] at h'; cases h'; subst hd; exact .inr rfl
    · rw [if_neg hd] at h'; cases h'

/-- every number `nvInt?` accepts enters an operation (`ops._cvt_to_real`) as a finite `Float` with the same
integer reading -/
theorem cvt_int (x : NV) (a : Int) (h : nvInt? x = some a) :
    ∃ r : RF, cvtReal x = .fv (.fin r) ∧ r.toInt? = some a := by
  rcases nvInt_cases h with ⟨r, rfl, hr⟩ | rfl
  · exact ⟨r, rfl, hr⟩
  · exact ⟨RF.ofInt a, by simp [cvtReal, NV.ofRat], toInt_ofInt a⟩

theorem int_round (z : RF) (i : Int) (h : z.toInt? = some i) :
    ∃ res z', Lib.integerCtx.roundAtCore (.fin z) none false 0 = .ok res ∧ res.v = .fin z' ∧ z'.toInt? = some i := by
  have hv : z.val = (i : Rat) := (RF.toInt_some z i h).symm
  by_cases hc : z.c = 0
  · rw [Ctx.roundAtCore_zero (C := Lib.integerCtx) rfl hc]
    exact ⟨_, _, rfl, rfl, toInt_of_val _ _ (by rw [RF.val_zero_c rfl, ← hv, RF.val_zero_c hc])⟩
  · obtain ⟨y, fl, hr, -, -, hy, -⟩ := C01v.fixed_round_total z (-1) .rtz
    rw [(C01v.roundVal_eq_iff .rtz _ z.val).2 ⟨i, by rw [hv]; simp⟩] at hy
    rw [Ctx.roundAtCore_fin (C := Lib.integerCtx) rfl hc, hr]
    exact ⟨_, _, Ctx.post_in rfl _ _, rfl, toInt_of_val _ _ (by rw [RF.dropNegZero_val, hy, hv])⟩

/-- a binary operation on numbers reading as the integers `a`, `b`: the operands enter as finite `Float`s
(`cvt_int`); if on those the operation is some `z` reading as `c`, rounded once, it returns a number reading as `c` -/
theorem int_binop (op : Op) {x y : NV} {a b c : Int} (hx : nvInt? x = some a) (hy : nvInt? y = some b)
    (h : ∀ rx ry : RF, rx.toInt? = some a → ry.toInt? = some b → ∃ z : RF, z.toInt? = some c ∧
      OpAgree (opEvalFl Lib.integerCtx op [.fv (.fin rx), .fv (.fin ry)]) (Lib.integerCtx.roundAtCore (.fin z) none false 0)) :
    ∃ w, opEval Lib.integerCtx op [cvtReal x, cvtReal y] = .ok w ∧ nvInt? w = some c := by
  obtain ⟨rx, ex, hrx⟩ := cvt_int x a hx
  obtain ⟨ry, ey, hry⟩ := cvt_int y b hy
  obtain ⟨z, hz, hag⟩ := h rx ry hrx hry
  obtain ⟨res, z', hres, hv, hz'⟩ := int_round z c hz
  rw [ex, ey]
  rw [hres] at hag
  unfold opEval
  cases ho : opEvalFl Lib.integerCtx op [.fv (.fin rx), .fv (.fin ry)] with
  | error e => rw [ho] at hag; simp [OpAgree] at hag
  | ok p =>
    obtain ⟨v, fl⟩ := p
    rw [ho] at hag
    simp only [OpAgree] at hag
    refine ⟨v, rfl, ?_⟩
    rw [hag.1, hv]; exact hz'

theorem integerCtx_det : Lib.integerCtx.det := rfl

/-- an integer `a` carried by a record with significand `c` and exponent `q1 - p1` (`H`), read over the significand
`c·2^t` shifted down to another exponent `q2 - p2`.  Exponents come as pairs of `toNat`s, positive and negative
part; `he` says `q1 - p1 = t + (q2 - p2)` in that form and is what `toNat_align` provides. -/
theorem rescale_pow2 {a c p1 q1 p2 q2 t : Nat} (H : a * 2 ^ p1 = c * 2 ^ q1) (he : q1 + p2 = t + q2 + p1) :
    a * 2 ^ p2 = c * 2 ^ t * 2 ^ q2 := by
  apply Nat.eq_of_mul_eq_mul_right (Nat.pow_pos (by decide) : 0 < 2 ^ p1)
  calc a * 2 ^ p2 * 2 ^ p1 = a * 2 ^ p1 * 2 ^ p2 := by rw [Nat.mul_right_comm]
    _ = c * 2 ^ q1 * 2 ^ p2 := by rw [H]
    _ = c * 2 ^ (q1 + p2) := by rw [Nat.mul_assoc, ← Nat.pow_add]
    _ = c * 2 ^ (t + q2 + p1) := by rw [he]
    _ = c * 2 ^ t * 2 ^ q2 * 2 ^ p1 := by rw [Nat.pow_add, Nat.pow_add, Nat.mul_assoc, Nat.mul_assoc, Nat.mul_assoc]

/-- `toInt_iff_spec` for a natural number carried by a nonzero record: the sign is `+`, and the equation is one of naturals -/
theorem toInt_natCast_spec (x : RF) (a : Nat) (h : x.toInt? = some (a : Int)) (hc : x.c ≠ 0) :
    x.s = false ∧ a * 2 ^ (-x.exp).toNat = x.c * 2 ^ x.exp.toNat := by
  have hs := (toInt_iff_spec x a).1 h
  have hp : 0 < x.c * 2 ^ x.exp.toNat := Nat.mul_pos (Nat.pos_of_ne_zero hc) (Nat.pow_pos (by decide))
  unfold RF.m at hs
  cases hxs : x.s
  · simp only [hxs, Bool.false_eq_true, if_false] at hs
    refine ⟨rfl, ?_⟩
    have : ((a * 2 ^ (-x.exp).toNat : Nat) : Int) = ((x.c * 2 ^ x.exp.toNat : Nat) : Int) := by
      rw [Int.natCast_mul, Int.natCast_mul]; exact hs
    exact Int.ofNat.inj this
  · simp only [hxs, if_true] at hs
    exfalso
    have h1 : (0 : Int) ≤ (a : Int) * ((2 ^ (-x.exp).toNat : Nat) : Int) := by
      rw [← Int.natCast_mul]; exact Int.natCast_nonneg _
    have h2 : -(x.c : Int) * ((2 ^ x.exp.toNat : Nat) : Int) < 0 := by
      rw [Int.neg_mul, ← Int.natCast_mul]; omega
    omega

/-- the five `toNat`s are generalised first: `omega` on them directly is slow to check -/
theorem toNat_align {e xe : Int} (h : e ≤ xe) : xe.toNat + (-e).toNat = (xe - e).toNat + e.toNat + (-xe).toNat := by
  have h1 := Int.toNat_sub_toNat_neg xe
  have h2 := Int.toNat_sub_toNat_neg e
  have h3 : ((xe - e).toNat : Int) = xe - e := Int.toNat_of_nonneg (Int.sub_nonneg.2 h)
  generalize xe.toNat = A at *
  generalize (-xe).toNat = B at *
  generalize e.toNat = A' at *
  generalize (-e).toNat = B' at *
  generalize (xe - e).toNat = T at *
  omega

theorem fmodRF_int (x y : RF) (a b : Nat) (hx : x.toInt? = some (a : Int)) (hy : y.toInt? = some (b : Int))
    (hxc : x.c ≠ 0) (hyc : y.c ≠ 0) : (fmodRF x y).toInt? = some ((a % b : Nat) : Int) := by
  obtain ⟨hxs, hxe⟩ := toInt_natCast_spec x a hx hxc
  obtain ⟨-, hye⟩ := toInt_natCast_spec y b hy hyc
  apply (toInt_iff_spec _ _).2
  unfold fmodRF alignRF RF.shl RF.m
  simp only [hxs, Bool.false_eq_true, if_false]
  -- with `e = min x.exp y.exp`, `P = (-e).toNat`, `Q = e.toNat` and `cx`, `cy` the significands shifted to exponent `e`,
  -- the goal is `(a % b)·2^P = (cx % cy)·2^Q`; `hA : a·2^P = cx·2^Q`, `hB` likewise, and `(u·d) % (v·d) = (u % v)·d`
  have hA := rescale_pow2 hxe (toNat_align (Int.min_le_left x.exp y.exp))
  have hB := rescale_pow2 hye (toNat_align (Int.min_le_right x.exp y.exp))
  rw [← Int.natCast_mul, ← Int.natCast_mul]
  congr 1
  rw [← Nat.mul_mod_mul_right, hA, hB, Nat.mul_mod_mul_right]

theorem toInt_zero_c {x : RF} {i : Int} (h : x.toInt? = some i) (hc : x.c = 0) : i = 0 := by
  have := RF.toInt_some x i h
  rw [RF.val_zero_c hc] at this
  exact Rat.intCast_inj.1 (this : (i : Rat) = ((0 : Int) : Rat))

theorem int_fmod (x y : RF) (a b : Nat) (hx : x.toInt? = some (a : Int)) (hy : y.toInt? = some (b : Int)) (hb : 0 < b) :
    ∃ z : RF, z.toInt? = some ((a % b : Nat) : Int) ∧
      OpAgree (opEvalFl Lib.integerCtx .fmod [.fv (.fin x), .fv (.fin y)]) (Lib.integerCtx.roundAtCore (.fin z) none false 0) := by
  have hyc : y.c ≠ 0 := fun h0 => by have := toInt_zero_c hy h0; omega
  by_cases hxc : x.c = 0
  · -- a zero dividend (either sign): MPFR returns it, `fp.INTEGER` has a single zero
    have ha : a = 0 := by have := toInt_zero_c hx hxc; omega
    subst ha
    refine ⟨⟨x.s, 0, 0⟩, ?_, op_exact_correct Lib.integerCtx integerCtx_det .fmod [.fin x, .fin y] ⟨x.s, 0, 0⟩ rfl
      (by simp only [mpfrOp, mpfrExactFV, hxc, hyc, if_true, if_false])⟩
    apply toInt_of_val; rw [RF.val_mk_zero]; simp
  · exact ⟨fmodRF x y, fmodRF_int x y a b hx hy hxc hyc, op_exact_correct Lib.integerCtx integerCtx_det .fmod [.fin x, .fin y] (fmodRF x y) rfl
      (by simp only [mpfrOp, mpfrExactFV, hxc, hyc, if_false])⟩

/-- no corner excluded: any encoding of the integers, `−0` included (`fmod(−0, 3)` is `−0` exactly and rounds to
the single zero of the context) -/
theorem intArith_INTEGER : IntArith Lib.integerCtx where
  add := fun x y a b hx hy => int_binop .add hx hy fun rx ry hrx hry =>
    ⟨rx.add ry, toInt_of_val _ _ (by rw [RF.val_add, ← RF.toInt_some rx a hrx, ← RF.toInt_some ry b hry, Rat.intCast_add]),
      op_exact_correct Lib.integerCtx integerCtx_det .add [.fin rx, .fin ry] _ rfl (congrArg some (addArm_form rx ry _ _))⟩
  sub := fun x y a b hx hy => int_binop .sub hx hy fun rx ry hrx hry =>
    ⟨rx.sub ry, toInt_of_val _ _ (by rw [RF.val_sub, ← RF.toInt_some rx a hrx, ← RF.toInt_some ry b hry, Rat.intCast_sub]),
      op_exact_correct Lib.integerCtx integerCtx_det .sub [.fin rx, .fin ry] _ rfl (congrArg some (addArm_form rx ry.neg _ _))⟩
  fmod := fun x y a b hx hy hb => int_binop .fmod hx hy fun rx ry hrx hry => int_fmod rx ry a b hrx hry hb

theorem toRat_int (r : RF) (a : Int) (h : r.toInt? = some a) : r.toRat.1 = a * (r.toRat.2 : Int) ∧ 0 < r.toRat.2 := by
  have hs := (toInt_iff_spec r a).1 h
  unfold RF.m at hs
  unfold RF.toRat
  by_cases he : r.exp ≥ 0
  · have e0 : (-r.exp).toNat = 0 := by omega
    rw [e0] at hs
    simp only [he, if_true]
    refine ⟨?_, by decide⟩
    simp only [Nat.pow_zero, Int.natCast_one, Int.mul_one] at hs
    rw [hs]; simp [Int.natCast_pow]
  · have e0 : r.exp.toNat = 0 := by omega
    rw [e0] at hs
    simp only [he, if_false]
    refine ⟨?_, Nat.pow_pos (by decide)⟩
    simp only [Nat.pow_zero, Int.natCast_one, Int.mul_one] at hs
    rw [← hs]

theorem cmp_scaled (a b : Int) (d1 d2 : Nat) (h1 : 0 < d1) (h2 : 0 < d2) :
    (compare (a * (d1 : Int) * (d2 : Int)) (b * (d2 : Int) * (d1 : Int)) = .eq) ↔ a = b := by
  rw [Int.compare_eq_eq]
  have e : b * (d2 : Int) * (d1 : Int) = b * (d1 : Int) * (d2 : Int) := Int.mul_right_comm _ _ _
  rw [e]
  have n1 : (d1 : Int) ≠ 0 := by omega
  have n2 : (d2 : Int) ≠ 0 := by omega
  constructor
  · intro h
    exact Int.eq_of_mul_eq_mul_right n1 (Int.eq_of_mul_eq_mul_right n2 h)
  · intro h; rw [h]

theorem nvRat_int (x : NV) (a : Int) (h : nvInt? x = some a) :
    (nvRat x).1 = a * ((nvRat x).2 : Int) ∧ 0 < (nvRat x).2 := by
  rcases nvInt_cases h with ⟨r, rfl, hr⟩ | rfl
  · exact toRat_int r a hr
  · exact ⟨by simp [nvRat], Nat.one_pos⟩

theorem nvCompare_int (x y : NV) (a b : Int) (hx : nvInt? x = some a) (hy : nvInt? y = some b) :
    (Lang.nvCompare x y == some .eq) = decide (a = b) := by
  obtain ⟨px, dx⟩ := nvRat_int x a hx
  obtain ⟨py, dy⟩ := nvRat_int y b hy
  rw [Bool.eq_iff_iff, beq_iff_eq, decide_eq_true_iff]
  -- unless both are `Float`s the comparison is that of the cross products
  have cross : Lang.nvCompare x y = some (compare ((nvRat x).1 * ((nvRat y).2 : Int)) ((nvRat y).1 * ((nvRat x).2 : Int))) →
      (Lang.nvCompare x y = some .eq ↔ a = b) := fun hk => by
    rw [hk, px, py, Option.some.injEq]; exact cmp_scaled a b _ _ dx dy
  rcases nvInt_cases hx with ⟨rx, rfl, hrx⟩ | rfl <;> rcases nvInt_cases hy with ⟨ry, rfl, hry⟩ | rfl
  · show some (rx.compare ry) = some .eq ↔ a = b
    rw [Option.some.injEq, RF.compare_cmpRat, ← RF.toInt_some rx a hrx, ← RF.toInt_some ry b hry, RF.cmpRat_eq_iff]
    exact Rat.intCast_inj
  · exact cross rfl
  · exact cross rfl
  · exact cross rfl

end Fpy.Xform
