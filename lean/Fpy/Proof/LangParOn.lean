/-
Heap-location parametricity in the fuel-free semantics (`par_eval…ω`), and for environments related on a set of
variables only (`par_on`: the other side may hold extra temporaries): the fundamental theorem at `parLR` again, with
the environments of `onNR S`, for a program that reads only names in `S` (`SimB.refl_on`).
-/
import Fpy.Proof.LangPar
import Fpy.Proof.LangLimit
namespace Fpy.Xform
open Fpy Fpy.Lang

section
variable {Φ : Funs} {π : RMap} {D : List Nat} {d : Nat} {σ1 σ2 : Env} {μ1 μ2 : Heap}

theorem par_evalBω (hd : d ≤ μ1.length) (henv : ER π D d σ1 σ2) (hh : HR π D μ1 μ2) (C : Ctx) (ss : List Stmt) :
    RelM (QS π D μ1 μ2) (evalBω Φ σ1 μ1 C ss) (evalBω Φ σ2 μ2 C ss) :=
  RelM.tends (tends_evalB Φ σ1 μ1 C ss) (tends_evalB Φ σ2 μ2 C ss)
    (fun n => (parAt Φ π D n).evalB d σ1 σ2 μ1 μ2 C ss hd henv hh)

theorem par_evalSω (hd : d ≤ μ1.length) (henv : ER π D d σ1 σ2) (hh : HR π D μ1 μ2) (C : Ctx) (s : Stmt) :
    RelM (QS π D μ1 μ2) (evalSω Φ σ1 μ1 C s) (evalSω Φ σ2 μ2 C s) :=
  RelM.tends (tends_evalS Φ σ1 μ1 C s) (tends_evalS Φ σ2 μ2 C s)
    (fun n => (parAt Φ π D n).evalS d σ1 σ2 μ1 μ2 C s hd henv hh)

theorem par_evalEω (hd : d ≤ μ1.length) (henv : ER π D d σ1 σ2) (hh : HR π D μ1 μ2) (C : Ctx) (e : Expr) :
    RelM (QE π D μ1 μ2) (evalEω Φ σ1 μ1 C e) (evalEω Φ σ2 μ2 C e) :=
  RelM.tends (tends_evalE Φ σ1 μ1 C e) (tends_evalE Φ σ2 μ2 C e)
    (fun n => (parAt Φ π D n).evalE d σ1 σ2 μ1 μ2 C e hd henv hh)

theorem par_forLoopω (hd : d ≤ μ1.length) (henv : ER π D d σ1 σ2) (hh : HR π D μ1 μ2) (C : Ctx) {r : Nat} (hr : r ∉ D)
    (i : Nat) (p : Pat) (body : List Stmt) :
    RelM (QS π D μ1 μ2) (forLoopω Φ σ1 μ1 C r i p body) (forLoopω Φ σ2 μ2 C (π r) i p body) :=
  RelM.tends (tends_forLoop Φ σ1 μ1 C r i p body) (tends_forLoop Φ σ2 μ2 C (π r) i p body)
    (fun n => (parAt Φ π D n).forLoop d σ1 σ2 μ1 μ2 C r i p body hd henv hh hr)
end

theorem par_on {Φ : Funs} {S : List String} {π : RMap} {D : List Nat} {d : Nat} {σ1 σ2 : Env} {μ1 μ2 : Heap}
    {ss : List Stmt} (hreads : ∀ z ∈ readsB ss, z ∈ S) (hd : d ≤ μ1.length) (henv : ERS S π D d σ1 σ2)
    (hh : HR π D μ1 μ2) (C : Ctx) :
    RelM (QSS S π D μ1 μ2) (evalBω Φ σ1 μ1 C ss) (evalBω Φ σ2 μ2 C ss) := by
  refine RelM.tends (tends_evalB Φ σ1 μ1 C ss) (tends_evalB Φ σ2 μ2 C ss) fun n => ?_
  refine ((fund .sym (parLR π D) Φ n n rfl).evalB (N := onNR S π D) (w := ⟨(_, _), hh⟩) (henv.mono hd) ⟨rfl, rfl⟩ C
    (SimB.refl_on ss (fun z hz => ⟨rfl, hreads z hz⟩) (fun _ _ => rfl))).imp ?_
  rintro ⟨o1, m⟩ ⟨o2, m'⟩ ⟨w', hf, ho, rfl, rfl⟩
  exact ⟨ho.elim (P := ORS S π D _) (fun _ _ h => h) fun _ _ h => h, w'.2, hf⟩

end Fpy.Xform
