/-
C18: the "fresh region" predicates on values, heaps and environments, reachability, the Hoare triple `Fr`
("only allocates above `n`, returns values above `n`") with its rules, and its instances for `to_value` /
`from_value` and for the caller's argument trees.
-/
import Fpy.Model.Boundary
namespace Fpy.C18
open Fpy Fpy.Lang

mutual
def VGe (n : Nat) : Val → Prop
  | .list r => n ≤ r
  | .tuple vs => VGeL n vs
  | .bool _ => True
  | .num _ => True
  | .ctx _ => True
def VGeL (n : Nat) : List Val → Prop
  | [] => True
  | v :: vs => VGe n v ∧ VGeL n vs
end

theorem vgeL_iff (n : Nat) (l : List Val) : VGeL n l ↔ ∀ v ∈ l, VGe n v := by
  induction l with
  | nil => simp [VGeL]
  | cons a t ih => simp [VGeL, ih]

theorem vgeL_append {n : Nat} {a b : List Val} (ha : VGeL n a) (hb : VGeL n b) : VGeL n (a ++ b) := by
  rw [vgeL_iff] at *
  intro v hv
  rcases List.mem_append.mp hv with h | h
  · exact ha v h
  · exact hb v h

theorem vgeL_getElem? {n : Nat} {l : List Val} {k : Nat} {v : Val} (hl : VGeL n l) (h : l[k]? = some v) : VGe n v := by
  rw [vgeL_iff] at hl
  exact hl v (List.mem_of_getElem? h)

theorem vgeL_set {n : Nat} {l : List Val} {k : Nat} {v : Val} (hl : VGeL n l) (hv : VGe n v) : VGeL n (l.set k v) := by
  rw [vgeL_iff] at *
  intro w hw
  rcases List.mem_or_eq_of_mem_set hw with h | h
  · exact hl w h
  · exact h ▸ hv

theorem vgeL_sublist {n : Nat} {l l' : List Val} (h : l'.Sublist l) (hl : VGeL n l) : VGeL n l' := by
  rw [vgeL_iff] at *
  exact fun w hw => hl w (h.subset hw)

/-- the heap is closed above `n` -/
def HOK (n : Nat) (μ : Heap) : Prop := n ≤ μ.length ∧ ∀ i l, n ≤ i → μ[i]? = some l → VGeL n l

def EOK (n : Nat) (σ : Env) : Prop := ∀ p ∈ σ, VGe n p.2

theorem hok_self (μ : Heap) : HOK μ.length μ := by
  refine ⟨Nat.le_refl _, ?_⟩
  intro i l hi h
  exact absurd (List.getElem?_eq_some_iff.mp h).1 (Nat.not_lt.mpr hi)

def Ext (n : Nat) (dst dst' : Heap) : Prop := HOK n dst' ∧ dst'.take n = dst.take n

theorem ext_refl {n : Nat} {μ : Heap} (h : HOK n μ) : Ext n μ μ := ⟨h, rfl⟩

theorem ext_trans {n : Nat} {a b c : Heap} (h1 : Ext n a b) (h2 : Ext n b c) : Ext n a c := ⟨h2.1, h2.2.trans h1.2⟩

theorem ext_alloc {n : Nat} {μ : Heap} {l : List Val} (h : HOK n μ) (hl : VGeL n l) :
    Ext n μ (μ ++ [l]) ∧ VGe n (.list μ.length) := by
  refine ⟨⟨⟨Nat.le_trans h.1 (by simp), fun i l' hi hget => ?_⟩, List.take_append_of_le_length h.1⟩, h.1⟩
  by_cases hlt : i < μ.length
  · rw [List.getElem?_append_left hlt] at hget; exact h.2 i l' hi hget
  · rw [List.getElem?_append_right (Nat.le_of_not_lt hlt)] at hget
    rw [List.mem_singleton.mp (List.mem_of_getElem? hget)]; exact hl

theorem ext_set {n : Nat} {μ : Heap} {r : Nat} {l : List Val} (h : HOK n μ) (hr : n ≤ r) (hl : VGeL n l) :
    Ext n μ (μ.set r l) := by
  refine ⟨⟨(List.length_set (as := μ)).symm ▸ h.1, fun i l' hi hget => ?_⟩, List.take_set_of_le hr⟩
  by_cases hir : r = i
  · rw [hir, List.getElem?_set, if_pos rfl] at hget
    split at hget
    · cases hget; exact hl
    · cases hget
  · rw [List.getElem?_set_ne hir] at hget; exact h.2 i l' hi hget

theorem hok_get {n : Nat} {μ : Heap} {r : Nat} {l : List Val} (h : HOK n μ) (hr : n ≤ r) (hg : heapGet μ r = .ok l) : VGeL n l := by
  unfold heapGet at hg
  split at hg
  · rename_i l' hl'; cases hg; exact h.2 r _ hr hl'
  · cases hg

theorem eok_nil (n : Nat) : EOK n [] := by intro p hp; cases hp

theorem eok_set {n : Nat} {σ : Env} {x : String} {v : Val} (h : EOK n σ) (hv : VGe n v) : EOK n (σ.set x v) := by
  intro p hp
  unfold Env.set at hp
  rcases List.mem_cons.mp hp with h1 | h1
  · subst h1; exact hv
  · exact h p (List.mem_filter.mp h1).1

theorem eok_get {n : Nat} {σ : Env} {x : String} {v : Val} (h : EOK n σ) (hg : σ.get? x = some v) : VGe n v := by
  unfold Env.get? at hg
  cases hf : σ.find? (·.1 == x) with
  | none => rw [hf] at hg; cases hg
  | some p =>
    rw [hf] at hg; simp at hg; subst hg
    exact h p (List.mem_of_find?_eq_some hf)

/-- binding parameters, as `callEntry`, `evalE (.call …)` and `runCompiled` write it -/
theorem eok_bindParams {n : Nat} (ps : List String) (vs : List Val) (σ : Env) (hσ : EOK n σ) (hv : VGeL n vs) :
    EOK n ((ps.zip vs).foldl (fun s (x, v) => s.set x v) σ) := by
  induction ps generalizing vs σ with
  | nil => exact hσ
  | cons p ps ih =>
    cases vs with
    | nil => exact hσ
    | cons v vs => exact ih vs _ (eok_set hσ hv.1) hv.2

theorem eok_zip {n : Nat} (names : List String) (vals : List Val) (h : VGeL n vals) : EOK n (names.zip vals) := by
  intro p hp
  exact (vgeL_iff n vals).mp h p.2 (List.of_mem_zip hp).2

inductive Reach (μ : Heap) : Val → Nat → Prop
  | here (r : Nat) : Reach μ (.list r) r
  | inList (r : Nat) (l : List Val) (v : Val) (s : Nat) : μ[r]? = some l → v ∈ l → Reach μ v s → Reach μ (.list r) s
  | inTuple (vs : List Val) (v : Val) (s : Nat) : v ∈ vs → Reach μ v s → Reach μ (.tuple vs) s

theorem reach_ge {n : Nat} {μ : Heap} (hμ : HOK n μ) {v : Val} {s : Nat} (hr : Reach μ v s) (hv : VGe n v) : n ≤ s := by
  induction hr with
  | here r => exact hv
  | inList r l v s hl hmem _ ih => exact ih ((vgeL_iff n l).mp (hμ.2 r l hv hl) v hmem)
  | inTuple vs v s hmem _ ih => exact ih ((vgeL_iff n vs).mp hv v hmem)

/-- The Hoare triple of all frame proofs.  The rules below follow the shape of a `do` block of the model, so a
proof is a term that mirrors the definition it is about (the definition is unfolded by unification). -/
def Fr {α : Type} (n : Nat) (μ : Heap) (Q : α → Prop) (m : M (α × Heap)) : Prop :=
  ∀ a μ', m = .ok (a, μ') → Ext n μ μ' ∧ Q a

section rules
variable {α β γ : Type} {n : Nat} {μ : Heap} {Q : α → Prop} {R : β → Prop}

theorem Fr.ret {a : α} (h : HOK n μ) (ha : Q a) : Fr n μ Q (.ok (a, μ)) := by
  intro a' μ' e; cases e; exact ⟨ext_refl h, ha⟩

theorem Fr.err {e : Err} : Fr n μ Q (.error e) := by
  intro a' μ' h; cases h

theorem Fr.bind {A : M (α × Heap)} {B : α × Heap → M (β × Heap)} (hA : Fr n μ Q A)
    (hB : ∀ a μ1, Q a → HOK n μ1 → Fr n μ1 R (B (a, μ1))) : Fr n μ R (A >>= B) := by
  intro b μ' e
  cases A with
  | error x => cases e
  | ok p =>
    obtain ⟨e1, ha⟩ := hA p.1 p.2 rfl
    obtain ⟨e2, hb⟩ := hB p.1 p.2 ha e1.1 b μ' e
    exact ⟨ext_trans e1 e2, hb⟩

theorem Fr.lift {x : M γ} {B : γ → M (β × Heap)} (hB : ∀ c, x = .ok c → Fr n μ R (B c)) : Fr n μ R (x >>= B) := by
  cases x with
  | error e => exact Fr.err
  | ok c => exact hB c rfl

theorem Fr.ite {c : Prop} [Decidable c] {X Y : M (β × Heap)} (hX : c → Fr n μ R X) (hY : ¬c → Fr n μ R Y) :
    Fr n μ R (if c then X else Y) := by
  split
  · exact hX ‹_›
  · exact hY ‹_›

theorem Fr.alloc {l : List Val} (h : HOK n μ) (hl : VGeL n l) : Fr n μ (VGe n) (.ok (.list μ.length, μ ++ [l])) := by
  intro a μ' e; cases e; exact ext_alloc h hl

end rules

theorem copy_frame (src : Heap) (n f : Nat) :
    (∀ v dst, HOK n dst → Fr n dst (VGe n) (copyIn src f v dst)) ∧
    (∀ vs dst, HOK n dst → Fr n dst (VGeL n) (copyIns src f vs dst)) := by
  induction f with
  | zero => exact ⟨fun _ _ _ => .err, fun _ _ _ => .err⟩
  | succ f ih =>
    obtain ⟨ih1, ih2⟩ := ih
    refine ⟨fun v dst hd => ?_, fun vs dst hd => ?_⟩
    · cases v with
      | bool b => exact .ret hd trivial
      | num x => exact .ret hd trivial
      | ctx c => exact .ret hd trivial
      | tuple vs => exact (ih2 vs dst hd).bind fun ws d1 hws h1 => .ret h1 hws
      | list r => exact .lift fun l _ => (ih2 l dst hd).bind fun ws d1 hws h1 => .alloc h1 hws
    · cases vs with
      | nil => exact .ret hd trivial
      | cons v vs => exact (ih1 v dst hd).bind fun w d1 hw h1 => (ih2 vs d1 h1).bind fun ws d2 hws h2 => .ret h2 ⟨hw, hws⟩

theorem from_frame (n f : Nat) :
    (∀ v μ, HOK n μ → VGe n v → Fr n μ (VGe n) (fromValue f v μ)) ∧
    (∀ vs μ, HOK n μ → VGeL n vs → Fr n μ (VGeL n) (fromValues f vs μ)) := by
  induction f with
  | zero => exact ⟨fun _ _ _ _ => .err, fun _ _ _ _ => .err⟩
  | succ f ih =>
    obtain ⟨ih1, ih2⟩ := ih
    refine ⟨fun v μ hd hv => .lift fun b _ => .ite (fun _ => .ret hd hv) fun _ => ?_, fun vs μ hd hv => ?_⟩
    · cases v with
      | bool b => exact .ret hd trivial
      | ctx c => exact .ret hd trivial
      | num x => cases x <;> exact .ret hd trivial
      | tuple vs => exact (ih2 vs μ hd hv).bind fun ws m1 hws h1 => .ret h1 hws
      | list r => exact .lift fun l hl => (ih2 l μ hd (hok_get hd hv hl)).bind fun ws m1 hws h1 => .alloc h1 hws
    · cases vs with
      | nil => exact .ret hd trivial
      | cons v vs =>
        exact (ih1 v μ hd hv.1).bind fun w m1 hw h1 => (ih2 vs m1 h1 hv.2).bind fun ws m2 hws h2 => .ret h2 ⟨hw, hws⟩

theorem rebuild_frame (n f : Nat) :
    (∀ v μ, HOK n μ → VGe n v → Fr n μ (VGe n) (rebuild f v μ)) ∧
    (∀ vs μ, HOK n μ → VGeL n vs → Fr n μ (VGeL n) (rebuilds f vs μ)) := by
  induction f with
  | zero => exact ⟨fun _ _ _ _ => .err, fun _ _ _ _ => .err⟩
  | succ f ih =>
    obtain ⟨ih1, ih2⟩ := ih
    refine ⟨fun v μ hd hv => ?_, fun vs μ hd hv => ?_⟩
    · cases v with
      | bool b => exact .ret hd trivial
      | ctx c => exact .ret hd trivial
      | num x => cases x <;> exact .ret hd trivial
      | tuple vs => exact (ih2 vs μ hd hv).bind fun ws m1 hws h1 => .ret h1 hws
      | list r => exact .lift fun l hl => (ih2 l μ hd (hok_get hd hv hl)).bind fun ws m1 hws h1 => .alloc h1 hws
    · cases vs with
      | nil => exact .ret hd trivial
      | cons v vs =>
        exact (ih1 v μ hd hv.1).bind fun w m1 hw h1 => (ih2 vs m1 h1 hv.2).bind fun ws m2 hws h2 => .ret h2 ⟨hw, hws⟩

theorem exit_frame (π : Policy) {n fuel : Nat} {v : Val} {μ : Heap} (hμ : HOK n μ) (hv : VGe n v) :
    Fr n μ (VGe n) (exitValue π fuel v μ) :=
  .ite (fun _ => (rebuild_frame n fuel).1 v μ hμ hv) fun _ => (from_frame n fuel).1 v μ hμ hv

mutual
/-- the caller writing an argument by value allocates fresh cells -/
theorem allocTree_frame (n : Nat) : ∀ (t : Tree) (μ : Heap), HOK n μ →
    Ext n μ (allocTree t μ).2 ∧ VGe n (allocTree t μ).1
  | .bool _, _, h => ⟨ext_refl h, trivial⟩
  | .num _, _, h => ⟨ext_refl h, trivial⟩
  | .ctx _, _, h => ⟨ext_refl h, trivial⟩
  | .tuple ts, μ, h => allocTrees_frame n ts μ h
  | .list ts, μ, h =>
    have ⟨e, hv⟩ := allocTrees_frame n ts μ h
    have ⟨e', hv'⟩ := ext_alloc e.1 hv
    ⟨ext_trans e e', hv'⟩
theorem allocTrees_frame (n : Nat) : ∀ (ts : List Tree) (μ : Heap), HOK n μ →
    Ext n μ (allocTrees ts μ).2 ∧ VGeL n (allocTrees ts μ).1
  | [], _, h => ⟨ext_refl h, trivial⟩
  | t :: ts, μ, h =>
    have ⟨e1, h1⟩ := allocTree_frame n t μ h
    have ⟨e2, h2⟩ := allocTrees_frame n ts _ e1.1
    ⟨ext_trans e1 e2, h1, h2⟩
end

end Fpy.C18
