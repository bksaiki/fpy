/-
  C13 — the `Unionfind` model (`Fpy.Model.UnionFind`, Python source `/repo/fpy2/utils/unionfind.py`).

  `WF` is the object invariant; `RootOf`/`Same` speak of representatives along parent pointers.
  The path-halving loop is shown to terminate within the fuel the model computes and to leave a
  state that differs by path compression only (`Equiv`); `find`, `get`, `component` and `add` of a
  present key inherit everything from that.  `_union` is a second `_find` followed by one link of
  two roots (`linkState`), described completely by `union_spec`.  Last, any sequence of calls
  is related to a specification that sees the call list alone (`Agree`, `agree_run`).
-/
import Fpy.Model.UnionFind

namespace Fpy.C13

/-- `r` lies on the chain of parent pointers that starts at `x` -/
inductive Reach (P : Nat → Nat) : Nat → Nat → Prop
  | refl (x : Nat) : Reach P x x
  | step (x r : Nat) : Reach P (P x) r → Reach P x r

def IsRoot (P : Nat → Nat) (r : Nat) : Prop := P r = r

/-- `RootOf` on a bare parent map: the loop of `_find` and the link of `_union` change `_parent` alone, and are
followed on the map (`findLoop_spec`, `link_rootOf`) before a state is put around it -/
def RootOfP (P : Nat → Nat) (x r : Nat) : Prop := Reach P x r ∧ P r = r

/-- `r` is the representative of `x` -/
def RootOf (u : UF) (x r : Nat) : Prop := RootOfP u.parent x r

def Same (u : UF) (a b : Nat) : Prop := ∃ r, RootOf u a r ∧ RootOf u b r

/-- Acyclicity + height bound, via a rank function. -/
def Ranked (P : Nat → Nat) (n : Nat) : Prop :=
  ∃ rk : Nat → Nat, (∀ x, P x ≠ x → rk x < rk (P x)) ∧ (∀ x, rk x ≤ n)

structure WF (u : UF) : Prop where
  nodup : u.dom.Nodup
  closed : ∀ x, x ∈ u.dom → u.parent x ∈ u.dom
  /-- modelling convention: identity outside `dom` -/
  outside : ∀ x, x ∉ u.dom → u.parent x = x
  /-- acyclic, and every path has at most `nonroots` edges: this is what makes
      the fuel `u.fuel = u.nonroots + 1` of `_find` sufficient -/
  ranked : Ranked u.parent u.nonroots
  keysNodup : (u.sets.map Prod.fst).Nodup
  keys : ∀ r, r ∈ u.sets.map Prod.fst ↔ (r ∈ u.dom ∧ u.parent r = r)
  members : ∀ r ms, (r, ms) ∈ u.sets → ∀ y, y ∈ ms ↔ (y ∈ u.dom ∧ RootOf u y r)

theorem Reach.trans {P : Nat → Nat} {a b c : Nat} (h1 : Reach P a b) (h2 : Reach P b c) :
    Reach P a c := by
  induction h1 with
  | refl x => exact h2
  | step x r _ ih => exact Reach.step x c (ih h2)

theorem Reach.single (P : Nat → Nat) (x : Nat) : Reach P x (P x) :=
  Reach.step x (P x) (Reach.refl (P x))

theorem Reach.of_root {P : Nat → Nat} {x s : Nat} (h : Reach P x s) (hx : P x = x) : s = x := by
  induction h with
  | refl x => rfl
  | step x r _ ih =>
    rw [hx] at ih
    exact ih hx

theorem rootOfP_unique {P : Nat → Nat} {x r s : Nat} (h1 : RootOfP P x r) (h2 : RootOfP P x s) :
    s = r := by
  obtain ⟨h1, hr⟩ := h1
  obtain ⟨h2, hs⟩ := h2
  induction h1 with
  | refl x => exact h2.of_root hr
  | step x r h ih =>
    cases h2 with
    | refl =>
      rw [hs] at h
      exact (h.of_root hs).symm
    | step _ _ h2' => exact ih hr h2'

theorem Reach.mono {P P' : Nat → Nat} (hstep : ∀ z, Reach P z (P' z)) {a b : Nat}
    (h : Reach P' a b) : Reach P a b := by
  induction h with
  | refl x => exact Reach.refl x
  | step x r _ ih => exact (hstep x).trans ih

theorem Reach.closed {P : Nat → Nat} {dom : List Nat} (hc : ∀ x, x ∈ dom → P x ∈ dom)
    {a b : Nat} (h : Reach P a b) (ha : a ∈ dom) : b ∈ dom := by
  induction h with
  | refl x => exact ha
  | step x r _ ih => exact ih (hc x ha)

/-- `n < rk x + f`: the rank rises along every edge and stays `≤ n`, so at most `n - rk x` edges lie above `x`
and the fuel `f` exceeds them. -/
theorem findLoop_spec (rk : Nat → Nat) (n : Nat) (hle : ∀ z, rk z ≤ n) :
    ∀ (f : Nat) (P : Nat → Nat) (x : Nat),
      (∀ z, P z ≠ z → rk z < rk (P z)) → n < rk x + f →
      RootOfP P x (findLoop f P x).2 ∧
      (∀ z, (findLoop f P x).1 z ≠ z → rk z < rk ((findLoop f P x).1 z)) ∧
      (∀ z, (findLoop f P x).1 z = z ↔ P z = z) ∧
      (∀ z, Reach P z ((findLoop f P x).1 z)) := by
  intro f
  induction f with
  | zero => intro P x _ hf; exact absurd (hle x) (Nat.not_le_of_lt hf)
  | succ f ih =>
    intro P x hinc hf
    by_cases hx : x = P x
    · simp only [findLoop, if_pos hx]
      exact ⟨⟨Reach.refl x, hx.symm⟩, hinc, fun _ => trivial, fun z => Reach.single P z⟩
    · have hx' : P x ≠ x := fun h => hx h.symm
      simp only [findLoop, if_neg hx]
      have h1 : rk x < rk (P (P x)) := by
        refine Nat.lt_of_lt_of_le (hinc x hx') ?_
        by_cases hp : P (P x) = P x
        · rw [hp]; exact Nat.le_refl _
        · exact Nat.le_of_lt (hinc (P x) hp)
      have hgx : P (P x) ≠ x := fun h => Nat.lt_irrefl _ (h ▸ h1)
      -- one halving step `P[x] = P[P[x]]` keeps the rank, the roots, and only shortcuts a path
      have hinc1 : ∀ z, (if z = x then P (P x) else P z) ≠ z →
          rk z < rk (if z = x then P (P x) else P z) := by
        intro z
        split
        · intro _
          subst z
          exact h1
        · exact hinc z
      have hroot1 : ∀ z, (if z = x then P (P x) else P z) = z ↔ P z = z := by
        intro z
        split
        · subst z
          exact ⟨fun h => absurd h hgx, fun h => absurd h hx'⟩
        · exact Iff.rfl
      have hstep1 : ∀ z, Reach P z (if z = x then P (P x) else P z) := by
        intro z
        split
        · subst z
          exact Reach.step x _ (Reach.single P (P x))
        · exact Reach.single P z
      have hfuel : n < rk (P (P x)) + f := by omega
      obtain ⟨⟨k1, k2⟩, k3, k4, k5⟩ :=
        ih (fun z => if z = x then P (P x) else P z) (P (P x)) hinc1 hfuel
      exact ⟨⟨(Reach.step x _ (Reach.single P (P x))).trans (Reach.mono hstep1 k1), (hroot1 _).1 k2⟩,
        k3, fun z => (k4 z).trans (hroot1 z), fun z => Reach.mono hstep1 (k5 z)⟩

theorem rootOfP_exists {P : Nat → Nat} {n : Nat} (hR : Ranked P n) (x : Nat) :
    ∃ r, RootOfP P x r :=
  let ⟨rk, hinc, hle⟩ := hR
  ⟨_, (findLoop_spec rk n hle (n + 1) P x hinc (by omega)).1⟩

theorem rootOfP_congr {P P' : Nat → Nat} {n : Nat} (hR' : Ranked P' n)
    (hstep : ∀ z, Reach P z (P' z)) (hroot : ∀ z, P' z = z ↔ P z = z) (y s : Nat) :
    RootOfP P' y s ↔ RootOfP P y s := by
  have fwd : ∀ t, RootOfP P' y t → RootOfP P y t := fun t h =>
    ⟨Reach.mono hstep h.1, (hroot t).1 h.2⟩
  constructor
  · exact fwd s
  · intro h
    obtain ⟨t, ht⟩ := rootOfP_exists hR' y
    have := rootOfP_unique (fwd t ht) h
    subst this
    exact ht

theorem findCore_facts {u : UF} (h : WF u) (x : Nat) :
    RootOf u x (u.findCore x).2 ∧
    Ranked (u.findCore x).1.parent u.nonroots ∧
    (∀ z, (u.findCore x).1.parent z = z ↔ u.parent z = z) ∧
    (∀ z, Reach u.parent z ((u.findCore x).1.parent z)) := by
  obtain ⟨rk, hinc, hle⟩ := h.ranked
  obtain ⟨h1, h2, h3, h4⟩ := findLoop_spec rk u.nonroots hle u.fuel u.parent x hinc
    (by unfold UF.fuel; omega)
  exact ⟨h1, ⟨rk, h2, hle⟩, h3, h4⟩

theorem findCore_dom (u : UF) (x : Nat) : (u.findCore x).1.dom = u.dom := rfl
theorem findCore_sets (u : UF) (x : Nat) : (u.findCore x).1.sets = u.sets := rfl

theorem nonroots_congr {d : List Nat} {P P' : Nat → Nat} {s s' : List (Nat × List Nat)}
    (hroot : ∀ z, P' z = z ↔ P z = z) :
    UF.nonroots ⟨d, P', s'⟩ = UF.nonroots ⟨d, P, s⟩ := by
  unfold UF.nonroots
  congr 1
  apply List.filter_congr
  intro z _
  show (P' z != z) = (P z != z)
  rw [Bool.eq_iff_iff]
  simp only [bne_iff_ne, ne_eq, hroot z]

theorem same_congr {u u' : UF} (hp : ∀ y s, RootOf u' y s ↔ RootOf u y s) (y z : Nat) :
    Same u' y z ↔ Same u y z := by
  constructor
  · rintro ⟨s, h1, h2⟩; exact ⟨s, (hp y s).1 h1, (hp z s).1 h2⟩
  · rintro ⟨s, h1, h2⟩; exact ⟨s, (hp y s).2 h1, (hp z s).2 h2⟩

/-- `u'` is `u` after path compression: same elements, same `_sets`, every element under the same root -/
structure Equiv (u u' : UF) : Prop where
  dom : u'.dom = u.dom
  sets : u'.sets = u.sets
  rootOf : ∀ y s, RootOf u' y s ↔ RootOf u y s

theorem Equiv.trans {u v w : UF} (h1 : Equiv u v) (h2 : Equiv v w) : Equiv u w :=
  ⟨h2.dom.trans h1.dom, h2.sets.trans h1.sets, fun y s => (h2.rootOf y s).trans (h1.rootOf y s)⟩

theorem Equiv.same {u u' : UF} (e : Equiv u u') (y z : Nat) : Same u' y z ↔ Same u y z :=
  same_congr e.rootOf y z

theorem findCore_root {u : UF} (h : WF u) (x : Nat) : RootOf u x (u.findCore x).2 :=
  (findCore_facts h x).1

theorem findCore_equiv {u : UF} (h : WF u) (x : Nat) : Equiv u (u.findCore x).1 :=
  ⟨rfl, rfl, rootOfP_congr (findCore_facts h x).2.1 (findCore_facts h x).2.2.2 (findCore_facts h x).2.2.1⟩

theorem findCore_wf {u : UF} (h : WF u) (x : Nat) : WF (u.findCore x).1 := by
  obtain ⟨_, hrank, hroots, hpaths⟩ := findCore_facts h x
  refine ⟨h.nodup, ?_, ?_, ?_, h.keysNodup, ?_, ?_⟩
  · intro z hz
    exact Reach.closed h.closed (hpaths z) hz
  · intro z hz
    exact (hroots z).2 (h.outside z hz)
  · rw [show (u.findCore x).1.nonroots = u.nonroots from nonroots_congr hroots]
    exact hrank
  · intro r
    rw [findCore_sets, findCore_dom, h.keys r]
    exact and_congr_right (fun _ => (hroots r).symm)
  · intro r ms hm y
    rw [findCore_dom, (findCore_equiv h x).rootOf y r]
    exact h.members r ms hm y

/-- `findCore_wf`, `findCore_equiv` and `findCore_root` with the result named, for callers that run `_find` twice. -/
theorem findCore_spec {u : UF} (h : WF u) (x : Nat) :
    ∃ u' r, u.findCore x = (u', r) ∧ WF u' ∧ Equiv u u' ∧ RootOf u x r :=
  ⟨_, _, rfl, findCore_wf h x, findCore_equiv h x, findCore_root h x⟩

theorem rootOf_exists {u : UF} (h : WF u) (x : Nat) : ∃ r, RootOf u x r :=
  rootOfP_exists h.ranked x

theorem rootOf_unique {u : UF} {x r s : Nat} (h1 : RootOf u x r) (h2 : RootOf u x s) : s = r :=
  rootOfP_unique h1 h2

theorem rootOf_mem_dom {u : UF} (h : WF u) {x r : Nat} (hx : x ∈ u.dom) (hr : RootOf u x r) :
    r ∈ u.dom :=
  Reach.closed h.closed hr.1 hx

theorem same_refl {u : UF} (h : WF u) (x : Nat) : Same u x x := by
  obtain ⟨r, hr⟩ := rootOf_exists h x
  exact ⟨r, hr, hr⟩

theorem same_symm {u : UF} {x y : Nat} (h : Same u x y) : Same u y x := by
  obtain ⟨r, h1, h2⟩ := h
  exact ⟨r, h2, h1⟩

theorem same_trans {u : UF} {x y z : Nat} (h1 : Same u x y) (h2 : Same u y z) : Same u x z := by
  obtain ⟨r, a, b⟩ := h1
  obtain ⟨s, c, d⟩ := h2
  have := rootOf_unique b c
  subst this
  exact ⟨s, a, d⟩

theorem same_iff_of_root {u : UF} {a r : Nat} (ha : RootOf u a r) (z : Nat) :
    Same u z a ↔ RootOf u z r := by
  constructor
  · rintro ⟨s, h1, h2⟩
    have := rootOf_unique ha h2
    subst this
    exact h1
  · intro h
    exact ⟨r, h, ha⟩

theorem same_iff_roots {u : UF} {x t c rc : Nat} (hx : RootOf u x t) (hc : RootOf u c rc) :
    Same u x c ↔ t = rc := by
  rw [same_iff_of_root hc]
  exact ⟨fun h => rootOf_unique h hx, fun e => e ▸ hx⟩

theorem find_keyerror (u : UF) (x : Nat) : u.find x = none ↔ x ∉ u.dom := by
  unfold UF.find
  split <;> simp [*]

theorem find_of_mem {u : UF} {x : Nat} (hx : x ∈ u.dom) : u.find x = some (u.findCore x) :=
  if_pos hx

theorem find_eq {u u' : UF} {x r : Nat} (hf : u.find x = some (u', r)) :
    x ∈ u.dom ∧ u' = (u.findCore x).1 ∧ r = (u.findCore x).2 := by
  by_cases hx : x ∈ u.dom
  · rw [find_of_mem hx] at hf
    have := Option.some.inj hf
    exact ⟨hx, by rw [this], by rw [this]⟩
  · rw [(find_keyerror u x).2 hx] at hf
    cases hf

theorem find_spec {u u' : UF} {x r : Nat} (h : WF u) (hf : u.find x = some (u', r)) :
    x ∈ u.dom ∧ WF u' ∧ Equiv u u' ∧ RootOf u x r := by
  obtain ⟨hx, rfl, rfl⟩ := find_eq hf
  exact ⟨hx, findCore_wf h x, findCore_equiv h x, findCore_root h x⟩

theorem find_of_root {u : UF} {x r : Nat} (h : WF u) (hx : x ∈ u.dom) (hr : RootOf u x r) :
    u.find x = some ((u.findCore x).1, r) := by
  rw [find_of_mem hx, rootOf_unique (findCore_root h x) hr]

theorem get_eq (u : UF) (x : Nat) :
    u.get x = match u.find x with
      | some (u', r) => (u', some r)
      | none => (u, none) := by
  unfold UF.get UF.find
  split <;> rfl

theorem ranked_id (n : Nat) : Ranked (fun z => z) n :=
  ⟨fun _ => 0, fun _ hx => absurd rfl hx, fun _ => Nat.zero_le _⟩

theorem mem_dedup (xs : List Nat) (y : Nat) : y ∈ dedup xs ↔ y ∈ xs := by
  induction xs with
  | nil => simp [dedup]
  | cons x xs ih =>
    simp only [dedup, List.mem_cons, List.mem_filter, ih, bne_iff_ne, ne_eq]
    by_cases hy : y = x <;> simp [hy]

theorem nodup_dedup (xs : List Nat) : (dedup xs).Nodup := by
  induction xs with
  | nil => exact List.nodup_nil
  | cons x xs ih =>
    simp only [dedup, List.nodup_cons, List.mem_filter, bne_iff_ne, ne_eq, not_true_eq_false,
      and_false, not_false_eq_true, true_and]
    exact List.Nodup.sublist List.filter_sublist ih

theorem rootOf_id {d : List Nat} {s : List (Nat × List Nat)} (y r : Nat) :
    RootOf ⟨d, fun z => z, s⟩ y r ↔ r = y := by
  constructor
  · intro h; exact h.1.of_root rfl
  · intro h; subst h; exact ⟨Reach.refl _, rfl⟩

theorem wf_ofList (xs : List Nat) : WF (UF.ofList xs) := by
  have hk : ((dedup xs).map (fun x => (x, [x]))).map Prod.fst = dedup xs := by
    rw [List.map_map]
    exact List.map_id'' (fun _ => rfl) _
  refine ⟨nodup_dedup xs, ?_, ?_, ranked_id _, ?_, ?_, ?_⟩
  · intro x hx; exact hx
  · intro x _; rfl
  · show (((dedup xs).map (fun x => (x, [x]))).map Prod.fst).Nodup
    rw [hk]; exact nodup_dedup xs
  · intro r
    show r ∈ ((dedup xs).map (fun x => (x, [x]))).map Prod.fst ↔ (r ∈ dedup xs ∧ r = r)
    rw [hk]; simp
  · intro r ms hm y
    obtain ⟨a, ha, he⟩ := List.mem_map.1 hm
    cases he
    show y ∈ [r] ↔ (y ∈ dedup xs ∧ RootOf ⟨dedup xs, fun z => z, _⟩ y r)
    rw [rootOf_id, List.mem_singleton]
    constructor
    · intro e; subst e; exact ⟨ha, rfl⟩
    · intro e; exact e.2.symm

theorem wf_empty : WF UF.empty := wf_ofList []

theorem same_id {d : List Nat} {s : List (Nat × List Nat)} (y z : Nat) :
    Same ⟨d, fun z => z, s⟩ y z ↔ y = z := by
  unfold Same
  simp only [rootOf_id]
  constructor
  · rintro ⟨r, h1, h2⟩; rw [← h1, ← h2]
  · intro e; exact ⟨y, rfl, e ▸ rfl⟩

theorem nodup_snoc {l : List Nat} {a : Nat} (hl : l.Nodup) (ha : a ∉ l) : (l ++ [a]).Nodup :=
  (List.perm_append_singleton a l).nodup_iff.2 (List.nodup_cons.2 ⟨ha, hl⟩)

theorem wf_push {u : UF} (h : WF u) {x : Nat} (hx : x ∉ u.dom) :
    WF ⟨u.dom ++ [x], u.parent, u.sets ++ [(x, [x])]⟩ := by
  have hPx : u.parent x = x := h.outside x hx
  have hxk : x ∉ u.sets.map Prod.fst := fun hk => hx ((h.keys x).1 hk).1
  refine ⟨nodup_snoc h.nodup hx, ?_, ?_, ?_, ?_, ?_, ?_⟩
  · intro z hz
    rcases List.mem_append.1 hz with hz | hz
    · exact List.mem_append_left _ (h.closed z hz)
    · rw [List.mem_singleton.1 hz, hPx]
      exact List.mem_concat_self
  · intro z hz
    exact h.outside z (fun hd => hz (List.mem_append_left _ hd))
  · have hn : UF.nonroots ⟨u.dom ++ [x], u.parent, u.sets ++ [(x, [x])]⟩ = u.nonroots := by
      simp [UF.nonroots, List.filter_append, hPx]
    rw [hn]
    exact h.ranked
  · show ((u.sets ++ [(x, [x])]).map Prod.fst).Nodup
    rw [List.map_append]
    exact nodup_snoc h.keysNodup hxk
  · intro r
    show r ∈ (u.sets ++ [(x, [x])]).map Prod.fst ↔ (r ∈ u.dom ++ [x] ∧ u.parent r = r)
    rw [List.map_append, List.mem_append, List.mem_append, h.keys r]
    simp only [List.map_cons, List.map_nil, List.mem_singleton]
    rw [or_and_right, and_iff_left_of_imp (fun (e : r = x) => e ▸ hPx)]
  · intro r ms hm y
    show y ∈ ms ↔ (y ∈ u.dom ++ [x] ∧ RootOf u y r)
    rw [List.mem_append, List.mem_singleton]
    rcases List.mem_append.1 hm with hm' | hm'
    · rw [h.members r ms hm' y, or_and_right, or_iff_left]
      rintro ⟨rfl, h2⟩
      -- `y = x` is its own root, but `r` is a key, hence in `dom`
      cases h2.1.of_root hPx
      exact hxk (List.mem_map.2 ⟨(_, ms), hm', rfl⟩)
    · cases List.mem_singleton.1 hm'
      rw [List.mem_singleton, or_and_right,
        or_iff_right (fun hy => hx (rootOf_mem_dom h hy.1 hy.2)), and_iff_left_of_imp]
      rintro rfl
      exact ⟨Reach.refl _, hPx⟩

theorem add_present {u : UF} {x : Nat} (hx : x ∈ u.dom) : u.add x = u.findCore x :=
  if_pos hx

theorem add_absent {u : UF} (h : WF u) {x : Nat} (hx : x ∉ u.dom) :
    u.add x = (⟨u.dom ++ [x], u.parent, u.sets ++ [(x, [x])]⟩, x) := by
  have hP : (fun z => if z = x then x else u.parent z) = u.parent := by
    funext z
    split
    · rename_i e; subst e; exact (h.outside z hx).symm
    · rfl
  unfold UF.add
  rw [if_neg hx, hP]

theorem wf_add {u : UF} (h : WF u) (x : Nat) : WF (u.add x).1 := by
  by_cases hx : x ∈ u.dom
  · rw [add_present hx]
    exact findCore_wf h x
  · rw [add_absent h hx]
    exact wf_push h hx

/-- by the identity-outside-`dom` convention a fresh element was already its own root in the model -/
theorem add_rootOf {u : UF} (h : WF u) (x y s : Nat) :
    RootOf (u.add x).1 y s ↔ RootOf u y s := by
  by_cases hx : x ∈ u.dom
  · rw [add_present hx]
    exact (findCore_equiv h x).rootOf y s
  · rw [add_absent h hx]
    exact Iff.rfl

theorem add_dom (u : UF) (x : Nat) :
    (u.add x).1.dom = if x ∈ u.dom then u.dom else u.dom ++ [x] := by
  unfold UF.add
  split <;> rfl

theorem add_result {u : UF} (h : WF u) (x : Nat) :
    RootOf (u.add x).1 x (u.add x).2 ∧ x ∈ (u.add x).1.dom := by
  by_cases hx : x ∈ u.dom
  · rw [add_present hx]
    exact ⟨((findCore_equiv h x).rootOf x _).2 (findCore_root h x), hx⟩
  · rw [add_absent h hx]
    exact ⟨⟨Reach.refl x, h.outside x hx⟩, List.mem_concat_self⟩

theorem Ranked.mono {P : Nat → Nat} {n m : Nat} (hnm : n ≤ m) (h : Ranked P n) : Ranked P m := by
  obtain ⟨rk, hinc, hle⟩ := h
  exact ⟨rk, hinc, fun x => Nat.le_trans (hle x) hnm⟩

theorem reach_link {P : Nat → Nat} {rx ry : Nat} (hry : P ry = ry) {a b : Nat}
    (h : Reach P a b) : Reach (fun w => if w = ry then rx else P w) a b := by
  induction h with
  | refl x => exact Reach.refl x
  | step x r _ ih =>
    by_cases hx : x = ry
    · subst hx
      rw [hry] at ih
      exact ih
    · refine Reach.step x r ?_
      show Reach _ (if x = ry then rx else P x) r
      rw [if_neg hx]
      exact ih

/-- the roots after `P[ry] = rx` are the old ones without `ry` -/
theorem link_root {P : Nat → Nat} {rx ry : Nat} (hne : rx ≠ ry) (z : Nat) :
    (if z = ry then rx else P z) = z ↔ P z = z ∧ z ≠ ry := by
  by_cases hz : z = ry
  · rw [if_pos hz]; exact ⟨fun e => absurd (e.trans hz) hne, fun h => absurd hz h.2⟩
  · rw [if_neg hz]; exact (and_iff_left hz).symm

theorem link_rootOf {P : Nat → Nat} {n : Nat} (hR : Ranked P n) {rx ry : Nat}
    (hrx : P rx = rx) (hry : P ry = ry) (hne : rx ≠ ry) (z s : Nat) :
    RootOfP (fun w => if w = ry then rx else P w) z s ↔
      ∃ t, RootOfP P z t ∧ s = if t = ry then rx else t := by
  have key : ∀ t, RootOfP P z t →
      RootOfP (fun w => if w = ry then rx else P w) z (if t = ry then rx else t) := by
    intro t ht
    have r1 := reach_link (rx := rx) hry ht.1
    have hrx' : (fun w => if w = ry then rx else P w) rx = rx := (link_root hne rx).2 ⟨hrx, hne⟩
    split
    · rename_i e
      subst e
      refine ⟨r1.trans ?_, hrx'⟩
      have := Reach.single (fun w => if w = t then rx else P w) t
      simp only [if_pos] at this
      exact this
    · rename_i e
      exact ⟨r1, (link_root hne t).2 ⟨ht.2, e⟩⟩
  constructor
  · intro hs
    obtain ⟨t, ht⟩ := rootOfP_exists hR z
    exact ⟨t, ht, rootOfP_unique (key t ht) hs⟩
  · rintro ⟨t, ht, rfl⟩
    exact key t ht

theorem link_ranked {P : Nat → Nat} {n : Nat} (hR : Ranked P n) {rx ry : Nat}
    (hrx : P rx = rx) (hne : rx ≠ ry) :
    Ranked (fun w => if w = ry then rx else P w) (n + 1) := by
  obtain ⟨rk, hinc, hle⟩ := hR
  -- the new root `rx` is lifted above every old rank
  refine ⟨fun z => if z = rx then n + 1 else rk z, ?_, ?_⟩
  · intro z hz
    show (if z = rx then n + 1 else rk z) <
      (if (if z = ry then rx else P z) = rx then n + 1 else rk (if z = ry then rx else P z))
    have hz' : (if z = ry then rx else P z) ≠ z := hz
    by_cases hzy : z = ry
    · rw [if_pos hzy, if_pos rfl, if_neg (fun e => hne (e.symm.trans hzy))]
      exact Nat.lt_succ_of_le (hle z)
    · rw [if_neg hzy] at hz' ⊢
      rw [if_neg (fun e : z = rx => hz' (e ▸ hrx))]
      split
      · exact Nat.lt_succ_of_le (hle z)
      · exact hinc z hz'
  · intro z
    show (if z = rx then n + 1 else rk z) ≤ n + 1
    split
    · exact Nat.le_refl _
    · exact Nat.le_succ_of_le (hle z)

theorem filter_length_lt {p q : Nat → Bool} {y : Nat} (hpq : ∀ z, p z = true → q z = true)
    (hp : ¬ p y = true) (hq : q y = true) {l : List Nat} (hy : y ∈ l) :
    (l.filter p).length < (l.filter q).length := by
  obtain ⟨s, t, rfl⟩ := List.append_of_mem hy
  have h1 := List.countP_mono_left (l := s) (fun z _ => hpq z)
  have h2 := List.countP_mono_left (l := t) (fun z _ => hpq z)
  rw [← List.countP_eq_length_filter, ← List.countP_eq_length_filter, List.countP_append,
    List.countP_append, List.countP_cons_of_neg hp, List.countP_cons_of_pos hq]
  omega

theorem lookup_mem {k : Nat} {v : List Nat} : ∀ {l : List (Nat × List Nat)},
    lookup k l = some v → (k, v) ∈ l
  | [], h => by simp [lookup] at h
  | e :: l, h => by
    unfold lookup at h
    split at h
    · rename_i he
      simp only [Option.some.injEq] at h
      subst h; subst he
      exact List.mem_cons_self
    · exact List.mem_cons_of_mem _ (lookup_mem h)

theorem lookup_of_key {k : Nat} : ∀ {l : List (Nat × List Nat)},
    k ∈ l.map Prod.fst → ∃ v, lookup k l = some v
  | [], h => by simp at h
  | e :: l, h => by
    unfold lookup
    split
    · exact ⟨_, rfl⟩
    · rename_i he
      simp only [List.map_cons, List.mem_cons] at h
      cases h with
      | inl h => exact absurd h.symm he
      | inr h => exact lookup_of_key h

theorem mem_setUnion (a b : List Nat) (y : Nat) : y ∈ setUnion a b ↔ y ∈ a ∨ y ∈ b := by
  unfold setUnion
  simp only [List.mem_append, List.mem_filter, List.contains_eq_mem, Bool.not_eq_eq_eq_not,
    Bool.not_true, decide_eq_false_iff_not]
  by_cases hy : y ∈ a <;> simp [hy]

theorem mergeSets_keys (sets : List (Nat × List Nat)) (rx ry : Nat) :
    (mergeSets sets rx ry).map Prod.fst = (sets.map Prod.fst).filter (fun k => k != ry) := by
  have hf : ∀ (my : List Nat) (e : Nat × List Nat), (if e.1 = rx then (e.1, setUnion e.2 my) else e).1 = e.1 :=
    fun _ e => by split <;> rfl
  unfold mergeSets
  rw [List.filter_map, List.filter_map, List.map_map]
  simp only [Function.comp_def, hf]

theorem mem_mergeSets {sets : List (Nat × List Nat)} {rx ry r : Nat} {ms : List Nat}
    (hm : (r, ms) ∈ mergeSets sets rx ry) :
    r ≠ ry ∧ ((r = rx ∧ ∃ ms0, (rx, ms0) ∈ sets ∧ ms = setUnion ms0 ((lookup ry sets).getD [])) ∨
      (r ≠ rx ∧ (r, ms) ∈ sets)) := by
  unfold mergeSets at hm
  rw [List.mem_filter, List.mem_map] at hm
  obtain ⟨⟨e, he, heq⟩, hne⟩ := hm
  refine ⟨by simpa using hne, ?_⟩
  by_cases h1 : e.1 = rx
  · rw [if_pos h1] at heq
    simp only [Prod.mk.injEq] at heq
    obtain ⟨e1, e2⟩ := heq
    refine Or.inl ⟨e1.symm.trans h1, e.2, ?_, e2.symm⟩
    rw [← h1]
    exact he
  · rw [if_neg h1] at heq
    subst heq
    exact Or.inr ⟨h1, he⟩

/-- The state after `P[ry] = rx; sets[rx] ∪= sets[ry]; del sets[ry]`. -/
def linkState (v : UF) (rx ry : Nat) : UF :=
  ⟨v.dom, fun z => if z = ry then rx else v.parent z, mergeSets v.sets rx ry⟩

theorem linkState_rootOf {v : UF} (h : WF v) {rx ry : Nat} (hPx : v.parent rx = rx)
    (hPy : v.parent ry = ry) (hne : rx ≠ ry) (z s : Nat) :
    RootOf (linkState v rx ry) z s ↔ ∃ t, RootOf v z t ∧ s = if t = ry then rx else t :=
  link_rootOf h.ranked hPx hPy hne z s

theorem exists_rename_iff {R : Nat → Prop} {rx ry r : Nat} (hne : r ≠ ry) :
    (∃ t, R t ∧ r = if t = ry then rx else t) ↔ (R r ∨ (r = rx ∧ R ry)) := by
  constructor
  · rintro ⟨t, ht, e⟩
    by_cases hty : t = ry
    · rw [if_pos hty] at e
      exact Or.inr ⟨e, hty ▸ ht⟩
    · rw [if_neg hty] at e
      exact Or.inl (e ▸ ht)
  · rintro (h | ⟨e, h⟩)
    · exact ⟨r, h, (if_neg hne).symm⟩
    · exact ⟨ry, h, e.trans (if_pos rfl).symm⟩

theorem wf_link {v : UF} (h : WF v) {rx ry : Nat} (hrx : rx ∈ v.dom) (hPx : v.parent rx = rx)
    (hry : ry ∈ v.dom) (hPy : v.parent ry = ry) (hne : rx ≠ ry) : WF (linkState v rx ry) := by
  have hkeys : (linkState v rx ry).sets.map Prod.fst =
      (v.sets.map Prod.fst).filter (fun k => k != ry) := mergeSets_keys v.sets rx ry
  refine ⟨h.nodup, ?_, ?_, ?_, ?_, ?_, ?_⟩
  · intro z hz
    show (if z = ry then rx else v.parent z) ∈ v.dom
    split
    · exact hrx
    · exact h.closed z hz
  · exact fun z hz => (link_root hne z).2 ⟨h.outside z hz, fun e => hz (e ▸ hry)⟩
  · refine Ranked.mono ?_ (link_ranked h.ranked hPx hne)
    show (v.dom.filter (fun x => v.parent x != x)).length + 1 ≤
      (v.dom.filter (fun x => (if x = ry then rx else v.parent x) != x)).length
    apply filter_length_lt (y := ry) _ _ _ hry
    · intro z hz
      rw [bne_iff_ne] at hz ⊢
      exact fun e => hz ((link_root hne z).1 e).1
    · simp [hPy]
    · simp [hne]
  · rw [hkeys]
    exact List.Nodup.sublist List.filter_sublist h.keysNodup
  · intro r
    rw [hkeys, List.mem_filter, h.keys r, bne_iff_ne, and_assoc]
    exact and_congr_right fun _ => (link_root hne r).symm
  · intro r ms hm y
    show y ∈ ms ↔ (y ∈ v.dom ∧ RootOf (linkState v rx ry) y r)
    obtain ⟨my0, hl⟩ := lookup_of_key ((h.keys ry).2 ⟨hry, hPy⟩)
    have hm' := mem_mergeSets hm
    rw [hl, Option.getD_some] at hm'
    obtain ⟨hr1, hm'⟩ := hm'
    rw [linkState_rootOf h hPx hPy hne, exists_rename_iff hr1]
    cases hm' with
    | inl hm' =>
      obtain ⟨rfl, ms0, hms0, rfl⟩ := hm'
      rw [mem_setUnion, h.members r ms0 hms0 y, h.members ry my0 (lookup_mem hl) y, ← and_or_left]
      simp only [true_and]
    | inr hm' =>
      rw [h.members r ms hm'.2 y, or_iff_left (fun hy => hm'.1 hy.1)]

theorem unionCore_eq {u v w : UF} {a b rx ry : Nat} (ea : u.findCore a = (v, rx))
    (eb : v.findCore b = (w, ry)) :
    u.unionCore a b = if rx = ry then (w, rx) else (linkState w rx ry, rx) := by
  unfold UF.unionCore
  simp only [ea, eb]
  rfl

theorem union_eq {u u' : UF} {a b r : Nat} (hu : u.union a b = some (u', r)) :
    a ∈ u.dom ∧ b ∈ u.dom ∧ u.unionCore a b = (u', r) := by
  unfold UF.union at hu
  split at hu
  · split at hu
    · rename_i ha hb
      exact ⟨ha, hb, Option.some.inj hu⟩
    · cases hu
  · cases hu

theorem union_keyerror (u : UF) (a b : Nat) : u.union a b = none ↔ (a ∉ u.dom ∨ b ∉ u.dom) := by
  unfold UF.union
  by_cases ha : a ∈ u.dom <;> by_cases hb : b ∈ u.dom <;> simp [ha, hb]

theorem union_spec {u u' : UF} {a b r : Nat} (h : WF u) (hu : u.union a b = some (u', r)) :
    ∃ ry, RootOf u a r ∧ RootOf u b ry ∧ WF u' ∧ u'.dom = u.dom ∧
      ∀ z s, RootOf u' z s ↔ ∃ t, RootOf u z t ∧ s = if t = ry then r else t := by
  obtain ⟨ha, hb, hc⟩ := union_eq hu
  obtain ⟨v, rx, ea, hv, ev, hrx⟩ := findCore_spec h a
  obtain ⟨w, ry, eb, hw, ew, hry⟩ := findCore_spec hv b
  have e := ev.trans ew
  have hry : RootOf u b ry := (ev.rootOf b ry).1 hry
  rw [unionCore_eq ea eb] at hc
  refine ⟨ry, ?_⟩
  by_cases hxy : rx = ry
  · rw [if_pos hxy] at hc
    cases hc
    subst hxy
    have hid : ∀ t, (if t = r then r else t) = t := fun t => ite_eq_right_iff.2 Eq.symm
    refine ⟨hrx, hry, hw, e.dom, fun z s => ?_⟩
    simp only [e.rootOf, hid, exists_eq_right']
  · rw [if_neg hxy] at hc
    cases hc
    have hPx : w.parent r = r := ((e.rootOf r r).2 ⟨Reach.refl _, hrx.2⟩).2
    have hPy : w.parent ry = ry := ((e.rootOf ry ry).2 ⟨Reach.refl _, hry.2⟩).2
    refine ⟨hrx, hry, wf_link hw (e.dom ▸ rootOf_mem_dom h ha hrx) hPx (e.dom ▸ rootOf_mem_dom h hb hry)
      hPy hxy, e.dom, fun z s => ?_⟩
    rw [linkState_rootOf hw hPx hPy hxy]
    simp only [e.rootOf]

theorem rename_eq_iff (x y a b : Nat) :
    (if a = y then x else a) = (if b = y then x else b) ↔
      (a = b ∨ ((a = x ∨ a = y) ∧ (b = x ∨ b = y))) := by
  grind

theorem union_merges {u u' : UF} {a b r : Nat} (h : WF u) (hu : u.union a b = some (u', r))
    (z w : Nat) :
    Same u' z w ↔ (Same u z w ∨ ((Same u z a ∨ Same u z b) ∧ (Same u w a ∨ Same u w b))) := by
  obtain ⟨ry, h1, h2, _, _, h6⟩ := union_spec h hu
  obtain ⟨tz, hz⟩ := rootOf_exists h z
  obtain ⟨tw, hw⟩ := rootOf_exists h w
  rw [same_iff_roots hz hw, same_iff_roots hz h1, same_iff_roots hz h2, same_iff_roots hw h1,
    same_iff_roots hw h2, ← rename_eq_iff]
  exact same_iff_roots ((h6 z _).2 ⟨tz, hz, rfl⟩) ((h6 w _).2 ⟨tw, hw, rfl⟩)

theorem component_eq {u u' : UF} {x : Nat} {ms : List Nat}
    (hc : u.component x = some (u', ms)) :
    ∃ r, u.find x = some (u', r) ∧ lookup r u'.sets = some ms := by
  unfold UF.component at hc
  split at hc
  · exact absurd hc (by simp)
  · rename_i u1 r hf
    split at hc
    · exact absurd hc (by simp)
    · rename_i ms1 hl
      simp only [Option.some.injEq, Prod.mk.injEq] at hc
      obtain ⟨rfl, rfl⟩ := hc
      exact ⟨r, hf, hl⟩

theorem component_total {u : UF} {x : Nat} (h : WF u) (hx : x ∈ u.dom) :
    ∃ u' ms, u.component x = some (u', ms) := by
  have hr := findCore_root h x
  obtain ⟨ms, hl⟩ := lookup_of_key ((h.keys _).2 ⟨rootOf_mem_dom h hx hr, hr.2⟩)
  refine ⟨(u.findCore x).1, ms, ?_⟩
  unfold UF.component
  rw [find_of_mem hx]
  show (match lookup (u.findCore x).2 u.sets with
    | none => none
    | some ms => some ((u.findCore x).1, ms)) = _
  rw [hl]

theorem component_keyerror {u : UF} {x : Nat} (hx : x ∉ u.dom) : u.component x = none := by
  unfold UF.component
  rw [(find_keyerror u x).2 hx]

theorem step_query (u : UF) (x : Nat) :
    u.step (.find x) = (if x ∈ u.dom then (u.findCore x).1 else u) ∧
    u.step (.get x) = (if x ∈ u.dom then (u.findCore x).1 else u) ∧
    u.step (.component x) = (if x ∈ u.dom then (u.findCore x).1 else u) := by
  by_cases hx : x ∈ u.dom <;>
    simp only [UF.step, UF.get, UF.find, hx, if_true, if_false, and_self]

theorem wf_step {u : UF} (h : WF u) (op : Op) : WF (u.step op) := by
  have hq : ∀ x, WF (if x ∈ u.dom then (u.findCore x).1 else u) := by
    intro x
    split
    · exact findCore_wf h x
    · exact h
  cases op with
  | add x => exact wf_add h x
  | find x => rw [(step_query u x).1]; exact hq x
  | get x => rw [(step_query u x).2.1]; exact hq x
  | component x => rw [(step_query u x).2.2]; exact hq x
  | union x y =>
    simp only [UF.step]
    split
    · rename_i r hf
      obtain ⟨_, _, _, hw, _⟩ := union_spec (u' := r.1) (r := r.2) h hf
      exact hw
    · exact h

theorem wf_run {u : UF} (h : WF u) (ops : List Op) : WF (u.run ops) := by
  induction ops generalizing u with
  | nil => exact h
  | cons op ops ih => exact ih (wf_step h op)

/-! The abstract partition, defined on the operation list alone: the elements added so far and the
`union a b` calls that were executed with both arguments present. -/

structure SpecState where
  elems : List Nat
  pairs : List (Nat × Nat)

def specStep (s : SpecState) : Op → SpecState
  | .add x => if x ∈ s.elems then s else ⟨s.elems ++ [x], s.pairs⟩
  | .union a b => if a ∈ s.elems ∧ b ∈ s.elems then ⟨s.elems, (a, b) :: s.pairs⟩ else s
  | _ => s

def specRun (s : SpecState) (ops : List Op) : SpecState :=
  ops.foldl specStep s

inductive EqvGen (pairs : List (Nat × Nat)) : Nat → Nat → Prop
  | refl (x : Nat) : EqvGen pairs x x
  | pair (a b : Nat) : (a, b) ∈ pairs → EqvGen pairs a b
  | symm {a b : Nat} : EqvGen pairs a b → EqvGen pairs b a
  | trans {a b c : Nat} : EqvGen pairs a b → EqvGen pairs b c → EqvGen pairs a c

/-- SPEC: `x` and `y` are added elements related by the smallest equivalence relation
    containing the executed unions. -/
def specSame (ops : List Op) (x y : Nat) : Prop :=
  x ∈ (specRun ⟨[], []⟩ ops).elems ∧ y ∈ (specRun ⟨[], []⟩ ops).elems ∧
    EqvGen (specRun ⟨[], []⟩ ops).pairs x y

theorem EqvGen.mono {pairs : List (Nat × Nat)} (p : Nat × Nat) {x y : Nat}
    (h : EqvGen pairs x y) : EqvGen (p :: pairs) x y := by
  induction h with
  | refl x => exact EqvGen.refl x
  | pair a b hm => exact EqvGen.pair a b (List.mem_cons_of_mem _ hm)
  | symm _ ih => exact ih.symm
  | trans _ _ ih1 ih2 => exact ih1.trans ih2

theorem eqvGen_nil {x y : Nat} : EqvGen [] x y ↔ x = y := by
  constructor
  · intro h
    induction h with
    | refl x => rfl
    | pair a b hm => exact absurd hm (by simp)
    | symm _ ih => exact ih.symm
    | trans _ _ ih1 ih2 => exact ih1.trans ih2
  · intro e; subst e; exact EqvGen.refl x

theorem eqvGen_cons (pairs : List (Nat × Nat)) (a b z w : Nat) :
    EqvGen ((a, b) :: pairs) z w ↔
      (EqvGen pairs z w ∨
        ((EqvGen pairs z a ∨ EqvGen pairs z b) ∧ (EqvGen pairs w a ∨ EqvGen pairs w b))) := by
  have pull : ∀ {x y : Nat}, EqvGen pairs x y → (EqvGen pairs y a ∨ EqvGen pairs y b) →
      (EqvGen pairs x a ∨ EqvGen pairs x b) := fun hxy h =>
    h.elim (fun h => Or.inl (hxy.trans h)) (fun h => Or.inr (hxy.trans h))
  constructor
  · intro h
    induction h with
    | refl x => exact Or.inl (EqvGen.refl x)
    | pair c d hm =>
      cases hm with
      | head => exact Or.inr ⟨Or.inl (EqvGen.refl _), Or.inr (EqvGen.refl _)⟩
      | tail _ hm => exact Or.inl (EqvGen.pair c d hm)
    | symm _ ih =>
      cases ih with
      | inl h => exact Or.inl h.symm
      | inr h => exact Or.inr ⟨h.2, h.1⟩
    | trans _ _ ih1 ih2 =>
      cases ih1 with
      | inl h1 =>
        cases ih2 with
        | inl h2 => exact Or.inl (h1.trans h2)
        | inr h2 => exact Or.inr ⟨pull h1 h2.1, h2.2⟩
      | inr h1 =>
        cases ih2 with
        | inl h2 => exact Or.inr ⟨h1.1, pull h2.symm h1.2⟩
        | inr h2 => exact Or.inr ⟨h1.1, h2.2⟩
  · have hab : EqvGen ((a, b) :: pairs) a b := EqvGen.pair a b List.mem_cons_self
    have toA : ∀ {x : Nat}, (EqvGen pairs x a ∨ EqvGen pairs x b) →
        EqvGen ((a, b) :: pairs) x a := fun h =>
      h.elim (fun h => h.mono _) (fun h => (h.mono _).trans hab.symm)
    rintro (h | ⟨h1, h2⟩)
    · exact h.mono _
    · exact (toA h1).trans (toA h2).symm

def Agree (u : UF) (s : SpecState) : Prop :=
  u.dom = s.elems ∧ ∀ x y, Same u x y ↔ EqvGen s.pairs x y

theorem Equiv.agree {u u' : UF} {s : SpecState} (e : Equiv u u') (hA : Agree u s) : Agree u' s :=
  ⟨e.dom.trans hA.1, fun y z => (e.same y z).trans (hA.2 y z)⟩

theorem agree_step {u : UF} {s : SpecState} (h : WF u) (hA : Agree u s) (op : Op) :
    Agree (u.step op) (specStep s op) := by
  have hq : ∀ x, Agree (if x ∈ u.dom then (u.findCore x).1 else u) s := by
    intro x
    split
    · exact (findCore_equiv h x).agree hA
    · exact hA
  obtain ⟨hd, hs⟩ := hA
  cases op with
  | find x => rw [(step_query u x).1]; exact hq x
  | get x => rw [(step_query u x).2.1]; exact hq x
  | component x => rw [(step_query u x).2.2]; exact hq x
  | add x =>
    have hspec : specStep s (.add x) = ⟨if x ∈ u.dom then u.dom else u.dom ++ [x], s.pairs⟩ := by
      show (if x ∈ s.elems then s else _) = _
      rw [hd]
      split <;> rfl
    rw [hspec]
    exact ⟨add_dom u x, fun y z => (same_congr (add_rootOf h x) y z).trans (hs y z)⟩
  | union a b =>
    simp only [UF.step]
    split
    · rename_i r hu
      have hu' : u.union a b = some (r.1, r.2) := hu
      obtain ⟨ha, hb, _⟩ := union_eq hu'
      obtain ⟨_, _, _, _, hdom, _⟩ := union_spec h hu'
      have hspec : specStep s (.union a b) = ⟨s.elems, (a, b) :: s.pairs⟩ :=
        if_pos ⟨hd ▸ ha, hd ▸ hb⟩
      rw [hspec]
      refine ⟨hdom.trans hd, fun z w => ?_⟩
      show Same r.1 z w ↔ EqvGen ((a, b) :: s.pairs) z w
      rw [union_merges h hu' z w, eqvGen_cons]
      simp only [hs]
    · rename_i hu
      have hspec : specStep s (.union a b) = s :=
        if_neg fun hab => ((union_keyerror u a b).1 hu).elim (· (hd ▸ hab.1)) (· (hd ▸ hab.2))
      rw [hspec]
      exact ⟨hd, hs⟩

theorem agree_run {u : UF} {s : SpecState} (h : WF u) (hA : Agree u s) (ops : List Op) :
    Agree (u.run ops) (specRun s ops) := by
  induction ops generalizing u s with
  | nil => exact hA
  | cons op ops ih => exact ih (wf_step h op) (agree_step h hA op)

theorem agree_empty : Agree UF.empty ⟨[], []⟩ :=
  ⟨rfl, fun x y => (same_id x y).trans eqvGen_nil.symm⟩

def exOps : List Op := [.add 0, .add 1, .add 2, .union 1 2, .union 0 1]

example : (UF.run UF.empty exOps).items = [(0, 0), (1, 0), (2, 1)] := by decide
example : (UF.run UF.empty exOps).sets = [(0, [0, 1, 2])] := by decide
example : (UF.run UF.empty exOps).representatives = [0] := by decide
example : ((UF.run UF.empty exOps).find 2).map Prod.snd = some 0 := by decide
-- path halving: after `find 2` the parent of 2 is the root
example : (UF.run UF.empty (exOps ++ [.find 2])).items = [(0, 0), (1, 0), (2, 0)] := by decide
example : ((UF.run UF.empty exOps).component 2).map Prod.snd = some [0, 1, 2] := by decide
example : ((UF.run UF.empty exOps).find 5).isNone = true := by decide
example : ((UF.run UF.empty exOps).union 0 5).isNone = true := by decide
example : ((UF.run UF.empty exOps).component 5).isNone = true := by decide
example : ((UF.run UF.empty exOps).get 5).2 = none := by decide
example : ((UF.run UF.empty exOps).get 1).2 = some 0 := by decide
example : ((UF.run UF.empty exOps).add 2).2 = 0 := by decide
example : ((UF.run UF.empty exOps).add 7).2 = 7 := by decide
-- the union returns the representative of the FIRST argument
example : ((UF.ofList [3, 1, 3, 2]).union 2 3).map Prod.snd = some 2 := by decide
example : (UF.ofList [3, 1, 3, 2]).dom = [3, 1, 2] := by decide
example : (UF.ofList [3, 1, 3, 2]).sets = [(3, [3]), (1, [1]), (2, [2])] := by decide
example :
    (UF.run (UF.ofList [0, 1, 2, 3, 4]) [.union 0 1, .union 3 4, .union 1 0]).sets
      = [(0, [0, 1]), (2, [2]), (3, [3, 4])] := by decide
example : specSame exOps 0 2 :=
  ⟨by decide, by decide,
    (EqvGen.pair 0 1 (by decide)).trans (EqvGen.pair 1 2 (by decide))⟩

end Fpy.C13
