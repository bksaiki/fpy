/-
The hand-written matchers of `Fpy.Model.Literal` accept exactly the renderings of well-formed spellings
(`Fpy.Spec.Lit.Sci`: `*_render` one way, `*_only` the other) and `_sci_to_fraction` computes their positional value
up to the `int(str)` length limit (`sciEval_eq`); at the end, `strip` leaves a rendering as it is (property C06).
-/
import Fpy.Model.Literal
import Fpy.Spec.Literal
namespace Fpy.Lit
open Fpy.Spec.Lit

theorem isDig_iff (c : Char) : isDig c = true ↔ IsDigit 10 c := List.contains_iff_mem

theorem isHex_iff (c : Char) : isHex c = true ↔ IsDigit 16 c := List.contains_iff_mem

theorem alphabet_facts :
    ∀ c ∈ alphabet, digVal c = digit c ∧ isSpace c = false ∧ c ≠ '.' ∧ c ≠ '-' ∧ c ≠ '+' := by decide +kernel

theorem digit_facts {base : Nat} {c : Char} (h : IsDigit base c) :
    digVal c = digit c ∧ isSpace c = false ∧ c ≠ '.' ∧ c ≠ '-' ∧ c ≠ '+' :=
  alphabet_facts c (List.mem_of_mem_take h)

theorem digVal_eq {base : Nat} {c : Char} (h : IsDigit base c) : digVal c = digit c := (digit_facts h).1

theorem isSpace_digit {base : Nat} {c : Char} (h : IsDigit base c) : isSpace c = false := (digit_facts h).2.1

theorem digit_ne {base : Nat} {c : Char} (h : IsDigit base c) : c ≠ '.' ∧ c ≠ '-' ∧ c ≠ '+' := (digit_facts h).2.2

/-- a run of `p` ends at `r` -/
def Stop (p : Char → Bool) (r : List Char) : Prop := ∀ c t, r = c :: t → p c = false

theorem stop_nil (p : Char → Bool) : Stop p [] := by intro c t h; cases h
theorem stop_cons {p : Char → Bool} {c : Char} (h : p c = false) (t : List Char) : Stop p (c :: t) := by
  intro c' t' e; cases e; exact h

theorem takeWhile_stop {p : Char → Bool} {r : List Char} (hr : Stop p r) : r.takeWhile p = [] := by
  cases r with
  | nil => rfl
  | cons c t => simp [hr c t rfl]

theorem dropWhile_stop {p : Char → Bool} {r : List Char} (hr : Stop p r) : r.dropWhile p = r := by
  cases r with
  | nil => rfl
  | cons c t => simp [hr c t rfl]

theorem takeWhile_app (p : Char → Bool) (ds r : List Char) (h : ∀ c ∈ ds, p c = true) (hr : Stop p r) :
    (ds ++ r).takeWhile p = ds := by
  rw [List.takeWhile_append_of_pos h, takeWhile_stop hr, List.append_nil]

theorem dropWhile_app (p : Char → Bool) (ds r : List Char) (h : ∀ c ∈ ds, p c = true) (hr : Stop p r) :
    (ds ++ r).dropWhile p = r := by
  rw [List.dropWhile_append_of_pos h, dropWhile_stop hr]

theorem takeWhile_all (p : Char → Bool) (ds : List Char) (h : ∀ c ∈ ds, p c = true) : ds.takeWhile p = ds := by
  simpa using takeWhile_app p ds [] h (stop_nil p)

theorem dropWhile_all (p : Char → Bool) (ds : List Char) (h : ∀ c ∈ ds, p c = true) : ds.dropWhile p = [] := by
  simpa using dropWhile_app p ds [] h (stop_nil p)

theorem span_spec (p : Char → Bool) (cs : List Char) :
    ∃ i r, cs.takeWhile p = i ∧ cs.dropWhile p = r ∧ cs = i ++ r ∧ ∀ c ∈ i, p c = true :=
  ⟨_, _, rfl, rfl, List.takeWhile_append_dropWhile.symm, fun c hc => List.all_eq_true.1 List.all_takeWhile c hc⟩

/-- the sign group as the regex returns it -/
def signOpt : Sign → Option Char
  | .none => none | .plus => some '+' | .minus => some '-'

theorem signOpt_isNeg (sg : Sign) : (signOpt sg == some '-') = sg.isNeg := by cases sg <;> rfl

/-- the text does not begin with a sign: `matchSign` consumes nothing -/
abbrev NoSign : List Char → Prop := Stop (fun c => c == '+' || c == '-')

theorem noSign_cons {a : Char} (hm : a ≠ '-') (hp : a ≠ '+') (t : List Char) : NoSign (a :: t) :=
  stop_cons (by simp [hm, hp]) t

theorem noSign_of_digits {base : Nat} {ds : List Char} (h : ∀ c ∈ ds, IsDigit base c) : NoSign ds := by
  cases ds with
  | nil => exact stop_nil _
  | cons a t => have := digit_ne (h a (by simp)); exact noSign_cons this.2.1 this.2.2 t

theorem matchSign_noSign (r : List Char) (h : NoSign r) : matchSign r = (none, r) := by
  unfold matchSign
  split
  · exact absurd (h _ _ rfl) (by decide)
  · exact absurd (h _ _ rfl) (by decide)
  · rfl

theorem matchSign_render (sg : Sign) (r : List Char) (h : NoSign r) :
    matchSign (sg.chars ++ r) = (signOpt sg, r) := by
  cases sg
  · exact matchSign_noSign r h
  · rfl
  · rfl

theorem matchMant_render (p : Char → Bool) (hdot : p '.' = false) (ip : List Char) (fp : Option (List Char))
    (t : List Char)
    (hip : ∀ c ∈ ip, p c = true) (hfp : ∀ f, fp = some f → f ≠ [] ∧ ∀ c ∈ f, p c = true)
    (hne : fp = none → ip ≠ []) (ht : Stop p t) (htdot : t.head? ≠ some '.') :
    matchMant p (ip ++ (fracChars fp ++ t)) = some (ip ++ fracChars fp, t) := by
  unfold matchMant
  cases fp with
  | none =>
    simp only [fracChars, List.nil_append, List.append_nil, takeWhile_app p ip t hip ht, dropWhile_app p ip t hip ht,
      List.isEmpty_eq_false_iff.2 (hne rfl), Bool.false_eq_true, ↓reduceIte]
    split
    · exact absurd rfl htdot
    · rfl
  | some f =>
    obtain ⟨hfne, hfd⟩ := hfp f rfl
    have hs : Stop p ('.' :: (f ++ t)) := stop_cons hdot _
    simp only [fracChars, List.cons_append, takeWhile_app p ip _ hip hs, dropWhile_app p ip _ hip hs,
      takeWhile_app p f t hfd ht, dropWhile_app p f t hfd ht, List.isEmpty_eq_false_iff.2 hfne, Bool.false_eq_true, ↓reduceIte]
    cases ip <;> rfl

/-- the exponent group as the regex returns it: sign and digits, without the letter -/
def expText : Option (Sign × List Char) → Option (List Char)
  | none => none
  | some (sg, ds) => some (sg.chars ++ ds)

theorem matchExp_render (expCh : Char) (ex : Option (Sign × List Char))
    (hex : ∀ sg ds, ex = some (sg, ds) → ds ≠ [] ∧ ∀ c ∈ ds, IsDigit 10 c) :
    matchExp expCh (expChars expCh ex) = some (expText ex) := by
  cases ex with
  | none => rfl
  | some v =>
    obtain ⟨sg, ds⟩ := v
    obtain ⟨hne, hd⟩ := hex sg ds rfl
    have hd' : ∀ c ∈ ds, isDig c = true := fun c hc => (isDig_iff c).2 (hd c hc)
    simp only [expChars, matchExp, beq_self_eq_true, ↓reduceIte, matchSign_render sg ds (noSign_of_digits hd),
      takeWhile_all isDig ds hd', dropWhile_all isDig ds hd',
      List.isEmpty_eq_false_iff.2 hne, Bool.false_eq_true, List.isEmpty_nil, expText]
    cases sg <;> rfl

theorem splitDot_render {base : Nat} (ip : List Char) (fp : Option (List Char)) (hip : ∀ c ∈ ip, IsDigit base c) :
    splitDot (ip ++ fracChars fp) = (ip, fp) := by
  unfold splitDot
  have hall : ∀ c ∈ ip, (c != '.') = true := fun c hc => bne_iff_ne.2 (digit_ne (hip c hc)).1
  cases fp with
  | none =>
    have : '.' ∉ ip := fun h => (digit_ne (hip _ h)).1 rfl
    simp [fracChars, this]
  | some f =>
    have hs : Stop (· != '.') ('.' :: f) := stop_cons (by simp) _
    simp only [fracChars, takeWhile_app _ ip _ hall hs, dropWhile_app _ ip _ hall hs]
    simp

theorem stop_expChars (p : Char → Bool) (expCh : Char) (h : p expCh = false) (ex : Option (Sign × List Char)) :
    Stop p (expChars expCh ex) := by
  cases ex with
  | none => exact stop_nil p
  | some v => exact stop_cons h _

theorem head_expChars (expCh : Char) (h : expCh ≠ '.') (ex : Option (Sign × List Char)) :
    (expChars expCh ex).head? ≠ some '.' := by
  cases ex with
  | none => simp [expChars]
  | some v => simp [expChars, h]

/-- what `matchDec` and `matchHex` do once the sign (and the prefix) is read: mantissa, exponent, end of string -/
def matchBody (p : Char → Bool) (expCh : Char) (sg : Option Char) (r : List Char) : Option Groups :=
  match matchMant p r with
  | none => none
  | some (m, r1) =>
    match matchExp expCh r1 with
    | none => none
    | some e => some ⟨sg, m, e⟩

theorem matchDec_eq (cs : List Char) : matchDec cs = matchBody isDig 'e' (matchSign cs).1 (matchSign cs).2 := rfl

theorem matchHex_eq (cs : List Char) :
    matchHex cs = match (matchSign cs).2 with
      | '0' :: 'x' :: r0 => matchBody isHex 'p' (matchSign cs).1 r0
      | _ => none := rfl

theorem matchBody_render {p : Char → Bool} {base : Nat} (hp : ∀ c, p c = true ↔ IsDigit base c) (hdot : p '.' = false)
    {expCh : Char} (hexp : p expCh = false) (hne : expCh ≠ '.') (s : Sci) (h : s.WF base) :
    matchBody p expCh (signOpt s.sign) (s.ip ++ (fracChars s.fp ++ expChars expCh s.ex)) =
      some ⟨signOpt s.sign, s.ip ++ fracChars s.fp, expText s.ex⟩ := by
  simp only [matchBody, matchExp_render expCh s.ex h.ex_digits,
    matchMant_render p hdot s.ip s.fp _ (fun c hc => (hp c).2 (h.ip_digits c hc))
      (fun f hf => ⟨(h.fp_digits f hf).1, fun c hc => (hp c).2 ((h.fp_digits f hf).2 c hc)⟩) h.ip_or_fp
      (stop_expChars p expCh hexp s.ex) (head_expChars expCh hne s.ex)]

/-- `_sci_to_fraction` applied to the parts of a spelling, an empty integer part replaced by `'0'` -/
def sciEval (base b : Nat) (s : Sci) : Except LErr Rat :=
  sciToFraction (signOpt s.sign) (if s.fp.isSome && s.ip.isEmpty then ['0'] else s.ip) s.fp (expText s.ex) base b

theorem noSign_body {base : Nat} (s : Sci) (t : List Char) (h : s.WF base) : NoSign (s.ip ++ (fracChars s.fp ++ t)) := by
  cases hip : s.ip with
  | nil =>
    cases hfp : s.fp with
    | none => exact absurd hip (h.ip_or_fp hfp)
    | some f => exact stop_cons (by decide) (f ++ t)
  | cons a r => have := digit_ne (h.ip_digits a (by simp [hip])); exact noSign_cons this.2.1 this.2.2 _

theorem decnumCore_render (s : Sci) (h : s.WF 10) : decnumCore (s.render [] 'e') = sciEval 10 10 s := by
  simp only [decnumCore, matchDec_eq, Sci.render, List.nil_append, matchSign_render s.sign _ (noSign_body s _ h),
    matchBody_render isDig_iff (by decide) (expCh := 'e') (by decide) (by decide) s h, splitDot_render s.ip s.fp h.ip_digits, sciEval]

theorem hexnumCore_render (s : Sci) (h : s.WF 16) : hexnumCore (s.render ['0', 'x'] 'p') = sciEval 16 2 s := by
  simp only [hexnumCore, matchHex_eq, Sci.render, List.cons_append, List.nil_append,
    matchSign_render s.sign _ (stop_cons (by decide) _ : NoSign ('0' :: _)),
    matchBody_render isHex_iff (by decide) (expCh := 'p') (by decide) (by decide) s h, splitDot_render s.ip s.fp h.ip_digits, sciEval]

theorem horner_eq {b : Nat} (base : Nat) (cs : List Char) (hd : ∀ c ∈ cs, IsDigit b c) (a : Nat) :
    cs.foldl (fun a c => a * base + digVal c) a = a * base ^ cs.length + intVal base cs := by
  induction cs generalizing a with
  | nil => simp [intVal]
  | cons c cs ih =>
    rw [List.foldl_cons, ih (fun c hc => hd c (by simp [hc])), digVal_eq (hd c (by simp)), List.length_cons, intVal,
      Nat.pow_succ, Nat.add_mul, Nat.mul_assoc, Nat.mul_comm base, Nat.add_assoc]

theorem horner_zero {b : Nat} (base : Nat) (cs : List Char) (hd : ∀ c ∈ cs, IsDigit b c) :
    cs.foldl (fun a c => a * base + digVal c) 0 = intVal base cs := by
  rw [horner_eq base cs hd 0, Nat.zero_mul, Nat.zero_add]

/-- `int(cs, base)` does not refuse `cs` for its length (the limit applies to base 10 only) -/
def fits (base : Nat) (cs : List Char) : Bool := base != 10 || decide (cs.length ≤ maxStrDigits)

def fitsExp : Option (Sign × List Char) → Bool
  | none => true
  | some (_, ds) => fits 10 ds

/-- the `int(str)` length limit as a Boolean -/
def withinB (base : Nat) (s : Sci) : Bool :=
  (base != 10 || decide (s.ip.length ≤ maxStrDigits)) &&
  (base != 10 || decide ((s.fp.getD []).length ≤ maxStrDigits)) &&
  (match s.ex with | none => true | some (_, ds) => decide (ds.length ≤ maxStrDigits))

theorem withinB_eq (base : Nat) (s : Sci) :
    withinB base s = (fits base s.ip && fits base (s.fp.getD []) && fitsExp s.ex) := by
  unfold withinB fitsExp; cases s.ex <;> rfl

theorem pyInt_eq {b : Nat} (base : Nat) (cs : List Char) (hne : cs ≠ []) (hd : ∀ c ∈ cs, IsDigit b c) :
    pyInt base cs = if fits base cs then .ok (intVal base cs) else .error .value := by
  have : (base == 10 && decide (cs.length > maxStrDigits)) = !fits base cs := by
    simp [fits, bne, ← decide_not, Nat.not_le]
  simp only [pyInt, List.isEmpty_eq_false_iff.2 hne, Bool.false_eq_true, ↓reduceIte, this, horner_zero base cs hd]
  cases fits base cs <;> rfl

/-- The left side is what `pySInt` elaborates to: in `(pyInt 10 r).map (fun n => -(n : Int))` the binder `n` is taken
at type `Int`, so Lean first lifts `pyInt 10 r : Except LErr Nat` by `do let a ← pyInt 10 r; pure (a : Int)`. -/
theorem map_lift (e : Except LErr Nat) (f : Int → Int) :
    Except.map f (do let a ← e; pure (a : Int)) = e.map (fun (n : Nat) => f (n : Int)) := by
  cases e <;> rfl

theorem pySInt_render (sg : Sign) (ds : List Char) (h : NoSign ds) :
    pySInt (sg.chars ++ ds) = (pyInt 10 ds).map (fun (n : Nat) => if sg.isNeg then -(n : Int) else (n : Int)) := by
  cases sg
  · show pySInt ds = _
    unfold pySInt
    split
    · exact absurd (h _ _ rfl) (by decide)
    · exact absurd (h _ _ rfl) (by decide)
    · exact map_lift _ _
  · exact map_lift (pyInt 10 ds) (fun n => n)
  · exact map_lift (pyInt 10 ds) (fun n => -n)

theorem fracVal_eq (base : Nat) (hb : 0 < base) (f : List Char) :
    ((intVal base f : Nat) : Rat) * ((base : Nat) : Rat) ^ (-(f.length : Int)) = fracVal base f := by
  have hB : ((base : Nat) : Rat) ≠ 0 := by exact_mod_cast Nat.ne_of_gt hb
  induction f with
  | nil => simp [intVal, fracVal]
  | cons c cs ih =>
    have hpow : ((base : Nat) : Rat) ^ cs.length * ((base : Nat) : Rat) ^ (-(cs.length : Int)) = 1 := by
      rw [← Rat.zpow_natCast, ← Rat.zpow_add hB, Int.add_right_neg, Rat.zpow_zero]
    simp only [List.length_cons, intVal, fracVal]
    -- both sides are a multiple of `base⁻¹`; what remains is `(d·baseⁿ + I)·base⁻ⁿ = d + I·base⁻ⁿ`
    rw [← ih, Int.natCast_succ, Int.neg_add, ← Int.sub_eq_add_neg, Rat.zpow_sub_one hB, Rat.div_def, ← Rat.mul_assoc]
    congr 1
    push_cast
    rw [Rat.add_mul, Rat.mul_assoc, hpow, Rat.mul_one]

/-- the fraction and exponent conversions inside `_sci_to_fraction` -/
def fracConv (base : Nat) : Option (List Char) → Except LErr (Nat × Int)
  | some f => (pyInt base f).map (fun n => (n, -(f.length : Int)))
  | none => .ok (0, 0)

def expConv : Option (Sign × List Char) → Except LErr Int
  | some (sg, ds) => pySInt (sg.chars ++ ds)
  | none => .ok 0

theorem sciEval_bind (base b : Nat) (s : Sci) :
    sciEval base b s = (do
      let ipart ← pyInt base (if s.fp.isSome && s.ip.isEmpty then ['0'] else s.ip)
      let (fpart, efrac) ← fracConv base s.fp
      let exp ← expConv s.ex
      let mag : Rat := ((ipart : Rat) + (fpart : Rat) * ((base : Nat) : Rat) ^ efrac) * ((b : Nat) : Rat) ^ exp
      pure (if s.sign.isNeg then -mag else mag)) := by
  obtain ⟨sg, ip, fp, ex⟩ := s
  unfold sciEval sciToFraction
  rw [signOpt_isNeg]
  rcases fp with _ | f <;> rcases ex with _ | ⟨sg', ds⟩ <;> rfl

theorem intConv_eq {base : Nat} (s : Sci) (h : s.WF base) :
    pyInt base (if s.fp.isSome && s.ip.isEmpty then ['0'] else s.ip) =
      if fits base s.ip then .ok (intVal base s.ip) else .error .value := by
  by_cases hip : s.ip = []
  · have hfp : s.fp.isSome = true := by
      cases hf : s.fp with
      | none => exact absurd hip (h.ip_or_fp hf)
      | some f => rfl
    simp [hip, hfp, pyInt, fits, intVal, maxStrDigits, show digVal '0' = 0 by decide]
  · simp only [List.isEmpty_eq_false_iff.2 hip, Bool.and_false, Bool.false_eq_true, ↓reduceIte]
    exact pyInt_eq base s.ip hip h.ip_digits

theorem fracConv_eq {base : Nat} (s : Sci) (h : s.WF base) :
    fracConv base s.fp =
      if fits base (s.fp.getD []) then .ok (intVal base (s.fp.getD []), -((s.fp.getD []).length : Int))
      else .error .value := by
  cases hfp : s.fp with
  | none => simp [fracConv, fits, intVal]
  | some f =>
    obtain ⟨hne, hd⟩ := h.fp_digits f hfp
    simp only [fracConv, Option.getD_some, pyInt_eq base f hne hd]
    cases fits base f <;> rfl

theorem expConv_eq {base : Nat} (s : Sci) (h : s.WF base) :
    expConv s.ex = if fitsExp s.ex then .ok s.expVal else .error .value := by
  unfold Sci.expVal
  cases hex : s.ex with
  | none => rfl
  | some v =>
    obtain ⟨sg, ds⟩ := v
    obtain ⟨hne, hd⟩ := h.ex_digits sg ds hex
    show pySInt (sg.chars ++ ds) = if fits 10 ds then _ else _
    rw [pySInt_render sg ds (noSign_of_digits hd), pyInt_eq 10 ds hne hd]
    cases fits 10 ds <;> rfl

/-- complete description of `_sci_to_fraction` on the parts of a well-formed spelling:
the positional value, or `ValueError` when a digit group exceeds CPython's `int(str)` limit -/
theorem sciEval_eq (base b : Nat) (hb : 0 < base) (s : Sci) (h : s.WF base) :
    sciEval base b s = if withinB base s then .ok (s.value base b) else .error .value := by
  unfold Sci.value
  rw [withinB_eq, sciEval_bind, intConv_eq s h, fracConv_eq s h, expConv_eq s h, ← fracVal_eq base hb (s.fp.getD [])]
  generalize fits base s.ip = wi
  generalize fits base (s.fp.getD []) = wf
  generalize fitsExp s.ex = we
  cases wi <;> cases wf <;> cases we <;> rfl

theorem matchSign_only (cs : List Char) : ∃ sg : Sign, cs = sg.chars ++ (matchSign cs).2 := by
  unfold matchSign
  split
  · exact ⟨.minus, rfl⟩
  · exact ⟨.plus, rfl⟩
  · exact ⟨.none, rfl⟩

theorem matchMant_only (p : Char → Bool) (cs : List Char) {m r : List Char} (h : matchMant p cs = some (m, r)) :
    ∃ ip fp, cs = ip ++ (fracChars fp ++ r) ∧ (∀ c ∈ ip, p c = true) ∧
      (∀ f, fp = some f → f ≠ [] ∧ ∀ c ∈ f, p c = true) ∧ (fp = none → ip ≠ []) := by
  obtain ⟨i, r0, hi, hr, rfl, hall⟩ := span_spec p cs
  simp only [matchMant, hi, hr] at h
  -- what is left after the first run: the rest itself, or a point, a second run and the rest
  suffices hs : (i ≠ [] ∧ r0 = r) ∨ ∃ f, f ≠ [] ∧ (∀ c ∈ f, p c = true) ∧ r0 = '.' :: (f ++ r) by
    rcases hs with ⟨hne, rfl⟩ | ⟨f, hne, hf, rfl⟩
    · exact ⟨i, none, rfl, hall, nofun, fun _ => hne⟩
    · exact ⟨i, some f, rfl, hall, fun f' hf' => by cases hf'; exact ⟨hne, hf⟩, nofun⟩
  by_cases hie : i = []
  · subst hie
    simp only [List.isEmpty_nil, ↓reduceIte] at h
    split at h
    · rename_i r'
      obtain ⟨f, d, hf, hd, rfl, hfall⟩ := span_spec p r'
      simp only [hf, hd] at h
      by_cases hfe : f = []
      · subst hfe; cases h
      · rw [if_neg (mt List.isEmpty_iff.1 hfe)] at h
        cases h
        exact .inr ⟨f, hfe, hfall, rfl⟩
    · cases h
  · simp only [List.isEmpty_eq_false_iff.2 hie, Bool.false_eq_true, ↓reduceIte] at h
    split at h
    · rename_i r'
      obtain ⟨f, d, hf, hd, rfl, hfall⟩ := span_spec p r'
      simp only [hf, hd] at h
      by_cases hfe : f = []
      · subst hfe; cases h; exact .inl ⟨hie, rfl⟩
      · rw [if_neg (mt List.isEmpty_iff.1 hfe)] at h
        cases h
        exact .inr ⟨f, hfe, hfall, rfl⟩
    · cases h; exact .inl ⟨hie, rfl⟩

theorem matchExp_only (expCh : Char) (r : List Char) {e : Option (List Char)} (h : matchExp expCh r = some e) :
    ∃ ex, r = expChars expCh ex ∧ (∀ sg ds, ex = some (sg, ds) → ds ≠ [] ∧ ∀ c ∈ ds, IsDigit 10 c) := by
  cases r with
  | nil => exact ⟨none, rfl, nofun⟩
  | cons c r' =>
    obtain ⟨sg, hr'⟩ := matchSign_only r'
    obtain ⟨ds, dd, hds, hdd, hcs, hall⟩ := span_spec isDig (matchSign r').2
    simp only [matchExp, hds, hdd] at h
    -- the three tests of `matchExp`: the exponent character, a digit, nothing after the digits
    by_cases hc : (c == expCh) = true
    · by_cases hde : ds.isEmpty = true
      · rw [if_pos hc, if_pos hde] at h; cases h
      · by_cases hdde : dd.isEmpty = true
        · refine ⟨some (sg, ds), ?_, ?_⟩
          · rw [hr', hcs, List.isEmpty_iff.1 hdde, List.append_nil, eq_of_beq hc]; rfl
          · intro sg' ds' he; cases he
            exact ⟨fun e => hde (List.isEmpty_iff.2 e), fun c hc => (isDig_iff c).1 (hall c hc)⟩
        · rw [if_pos hc, if_neg hde, if_neg hdde] at h; cases h
    · rw [if_neg hc] at h; cases h

theorem matchBody_only {p : Char → Bool} {base : Nat} (hp : ∀ c, p c = true ↔ IsDigit base c) {expCh : Char}
    {sg : Option Char} {r : List Char} {g : Groups} (h : matchBody p expCh sg r = some g) (sign : Sign) :
    ∃ s : Sci, s.sign = sign ∧ s.WF base ∧ r = s.ip ++ (fracChars s.fp ++ expChars expCh s.ex) := by
  unfold matchBody at h
  split at h
  · cases h
  · rename_i m r1 hmm
    obtain ⟨ip, fp, hr, hip, hfp, hne⟩ := matchMant_only p r hmm
    split at h
    · cases h
    · rename_i e hme
      obtain ⟨ex, hr1, hex⟩ := matchExp_only expCh r1 hme
      exact ⟨⟨sign, ip, fp, ex⟩, rfl, ⟨fun c hc => (hp c).1 (hip c hc),
        fun f hf => ⟨(hfp f hf).1, fun c hc => (hp c).1 ((hfp f hf).2 c hc)⟩, hne, hex⟩, by rw [hr, hr1]⟩

theorem matchDec_only (cs : List Char) {g : Groups} (h : matchDec cs = some g) :
    ∃ s : Sci, s.WF 10 ∧ cs = s.render [] 'e' := by
  obtain ⟨sign, hcs⟩ := matchSign_only cs
  obtain ⟨s, rfl, hwf, hr⟩ := matchBody_only isDig_iff (matchDec_eq cs ▸ h) sign
  exact ⟨s, hwf, by rw [hcs, hr]; rfl⟩

theorem matchHex_only (cs : List Char) {g : Groups} (h : matchHex cs = some g) :
    ∃ s : Sci, s.WF 16 ∧ cs = s.render ['0', 'x'] 'p' := by
  obtain ⟨sign, hcs⟩ := matchSign_only cs
  rw [matchHex_eq] at h
  split at h
  · rename_i r0 hr0
    obtain ⟨s, rfl, hwf, hr⟩ := matchBody_only isHex_iff h sign
    exact ⟨s, hwf, by rw [hcs, hr0, hr]; rfl⟩
  · cases h

theorem strip_id {cs : List Char} (h1 : Stop isSpace cs) (h2 : Stop isSpace cs.reverse) : strip cs = cs := by
  rw [strip, lstrip, dropWhile_stop h1, dropWhile_stop h2, List.reverse_reverse]

/-- the last group that is present is not empty -/
theorem render_last (base : Nat) (pre : List Char) (expCh : Char) (s : Sci) (h : s.WF base) :
    ∃ i z, s.render pre expCh = i ++ [z] ∧ isSpace z = false := by
  have key : ∀ {b : Nat} (front ds : List Char), ds ≠ [] → (∀ c ∈ ds, IsDigit b c) →
      ∃ i z, front ++ ds = i ++ [z] ∧ isSpace z = false := fun front ds hne hd =>
    ⟨front ++ ds.dropLast, ds.getLast hne,
      by rw [List.append_assoc, List.dropLast_concat_getLast], isSpace_digit (hd _ (List.getLast_mem hne))⟩
  unfold Sci.render
  cases hex : s.ex with
  | some v =>
    obtain ⟨hne, hd⟩ := h.ex_digits v.1 v.2 hex
    have := key (s.sign.chars ++ (pre ++ (s.ip ++ (fracChars s.fp ++ (expCh :: v.1.chars))))) v.2 hne hd
    simpa only [expChars, List.append_assoc, List.cons_append] using this
  | none =>
    cases hfp : s.fp with
    | some f =>
      obtain ⟨hne, hd⟩ := h.fp_digits f hfp
      have := key (s.sign.chars ++ (pre ++ (s.ip ++ ['.']))) f hne hd
      simpa only [expChars, fracChars, List.append_assoc, List.append_nil, List.cons_append, List.nil_append] using this
    | none =>
      have := key (s.sign.chars ++ pre) s.ip (h.ip_or_fp hfp) h.ip_digits
      simpa only [expChars, fracChars, List.append_assoc, List.append_nil] using this

theorem render_first (base : Nat) (pre : List Char) (hpre : ∀ c ∈ pre, isSpace c = false ∧ c ≠ '-') (expCh : Char)
    (s : Sci) (h : s.WF base) :
    ∃ a t, s.render pre expCh = a :: t ∧ isSpace a = false ∧ (a == '-') = s.sign.isNeg := by
  unfold Sci.render
  cases hsg : s.sign with
  | plus => exact ⟨'+', _, rfl, by decide, rfl⟩
  | minus => exact ⟨'-', _, rfl, by decide, rfl⟩
  | none =>
    cases hp : pre with
    | cons a t => exact ⟨a, _, rfl, (hpre a (by simp [hp])).1, beq_eq_false_iff_ne.2 (hpre a (by simp [hp])).2⟩
    | nil =>
      cases hip : s.ip with
      | cons a t =>
        have ha := h.ip_digits a (by simp [hip])
        exact ⟨a, _, rfl, isSpace_digit ha, beq_eq_false_iff_ne.2 (digit_ne ha).2.1⟩
      | nil =>
        cases hfp : s.fp with
        | none => exact absurd hip (h.ip_or_fp hfp)
        | some f => exact ⟨'.', _, rfl, by decide, rfl⟩

theorem strip_render (base : Nat) (pre : List Char) (hpre : ∀ c ∈ pre, isSpace c = false ∧ c ≠ '-') (expCh : Char)
    (s : Sci) (h : s.WF base) : strip (s.render pre expCh) = s.render pre expCh := by
  obtain ⟨a, t, h1, ha, _⟩ := render_first base pre hpre expCh s h
  obtain ⟨i, z, h2, hz⟩ := render_last base pre expCh s h
  exact strip_id (h1 ▸ stop_cons ha t) (by rw [h2, List.reverse_append]; exact stop_cons hz _)

theorem lstrip_render_head (base : Nat) (pre : List Char) (hpre : ∀ c ∈ pre, isSpace c = false ∧ c ≠ '-')
    (expCh : Char) (s : Sci) (h : s.WF base) :
    ((lstrip (s.render pre expCh)).head? == some '-') = s.sign.isNeg := by
  obtain ⟨a, t, h1, ha, hs⟩ := render_first base pre hpre expCh s h
  rw [h1, lstrip, List.dropWhile_cons_of_neg (by simp [ha]), List.head?_cons, ← hs, Option.some_beq_some]

theorem ok_of_ite {e : Except LErr Rat} {w : Bool} {x v : Rat} (h : e = .ok v)
    (hs : e = if w then .ok x else .error .value) : w = true ∧ v = x := by
  rw [hs] at h
  cases w
  · cases h
  · exact ⟨rfl, (Except.ok.inj h).symm⟩

end Fpy.Lit
