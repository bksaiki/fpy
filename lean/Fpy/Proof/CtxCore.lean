/-
`_round_at(x, n, exact)` of every rounding family except `RealContext` and `ExpContext` is one unbounded
`RealFloat.round(max_p, min_n, rm, num_randbits, exact)` (`Ctx.core`; a requested `n` replaces `min_n` where it is
higher, `Ctx.posAt`) followed by a step that looks only at the rounded record, its flags and the operand's sign
(`Ctx.post`): the range check of the bounded families, the rewriting of `-0`, `EFloatContext._fixup`; under
`exact` an out-of-range rounding is an error.  The equations below state this once; what is proved about a family
is then proved about its post-step.  Beside them: `Context.round` of a non-dyadic `Fraction` is `_round_at` of
`mpfrValue` (`Ctx.round_frac_eq`); what `ExpContext._round_at`, which has no such normal form, can return
(`expRoundAt_fin`); at the end `truncRat` in closed form (`C01v.truncRat_eq`).
-/
import Fpy.Model.Num.Ctx
namespace Fpy

/-- `(max_p, min_n, rm, num_randbits)` of the rounding that `_round_at(x, n = None)` performs on a finite
non-zero operand -/
def Ctx.core : Ctx → Option (Option Nat × Option Int × RM × Option Nat)
  | .mp p rm k _ => some (some p, none, rm, k)
  | .mps p emin rm k _ => some (some p, some (emin - p), rm, k)
  | .mpb c => some (some c.p, some c.nmin, c.rm, c.k)
  | .efloat c => some (some c.mpb.p, some c.mpb.nmin, c.mpb.rm, c.mpb.k)
  | .mpfix nmin rm k _ _ => some (none, some nmin, rm, k)
  | .mpbfix c => some (none, some c.nmin, c.rm, c.k)
  | .real | .exp _ => none

/-- `(neg_maxval, pos_maxval)` of the bounded families -/
def Ctx.range : Ctx → Option (RF × RF)
  | .mpb c => some (c.negMax, c.posMax)
  | .efloat c => some (c.mpb.negMax, c.mpb.posMax)
  | .mpbfix c => some (c.negMax, c.posMax)
  | _ => none

/-- the negation of the `overflowing` test of `MPBFloatContext`/`MPBFixedContext._round_at` -/
def Ctx.inRange (C : Ctx) (y : RF) : Bool :=
  match C.range with
  | none => true
  | some (lo, hi) => !(if y.s then y.lt lo else y.gt hi)

/-- the families that write a rounded `-0` as `+0` -/
def Ctx.dropsNegZero : Ctx → Bool
  | .efloat c => c.kind == .negZero
  | .mpfix _ _ _ nz _ => !nz
  | .mpbfix c => !c.negZero
  | _ => false

def RF.dropNegZero (y : RF) (drop : Bool) : RF := if y.c = 0 && y.s && drop then { y with s := false } else y

/-- The overflow arm shared by `MPBFloatContext` and `MPBFixedContext` (`exact = False`): `xs`, `ys` are the
signs of the operand and of its rounding, `sub` re-signs the configured substitute of infinity, `sat` is the end
of the range on the side of `ys`, `wrap` the WRAP arm. -/
def ovfResult (rm : RM) (ov : OV) (o : Opts) (xs ys : Bool) (sub : FV → FV) (sat : Res) (wrap : Except Err Res) :
    Except Err Res :=
  match ov with
  | .overflow =>
    if overflowToInfinity rm ys then
      if o.enableInf then .ok (setOvf ⟨.inf xs, {}⟩)
      else match o.infValue with
        | none => .error .valueError
        | some iv => .ok (setOvf ⟨sub iv, {}⟩)
    else .ok (setOvf sat)
  | .saturate => .ok (setOvf sat)
  | .assert => .error .overflowError
  | .wrap => wrap

/-- the overflow arm of `MPBFloatContext`: the substitute of infinity takes the sign of the rounding, no WRAP -/
def mpbOverflowed (c : MPBParams) (xs : Bool) (y : RF) : Except Err Res :=
  ovfResult c.rm c.ov c.o xs y.s (·.withSign y.s) ⟨.fin (if y.s then c.negMax else c.posMax), {}⟩ (.error .assertion)

/-- the value `MPBFixedContext` wraps an out-of-range rounding to (`from_ordinal` of the ordinal modulo the
number of members) -/
def mpbfixWrapped (c : MPBFixParams) (y : RF) : FV :=
  let negOrd := fixOrdinal c.nmin c.negMax
  let ordMod := ((fixOrdinal c.nmin y - negOrd) % (fixOrdinal c.nmin c.posMax - negOrd + 1)) + negOrd
  if ordMod = 0 then .fin ⟨false, 0, 0⟩ else .fin ⟨ordMod < 0, c.nmin + 1, ordMod.natAbs⟩

/-- what a bounded family returns (`exact = False`) for an operand of sign `xs` whose rounding `y` left the range;
the last arm is never asked for: a family without a range has every `y` in range -/
def Ctx.overflowed : Ctx → Bool → RF → Except Err Res
  | .mpb c, xs, y => mpbOverflowed c xs y
  | .efloat c, xs, y =>
    match mpbOverflowed c.mpb xs y with
    | .error e => .error e
    | .ok res => efloatFixup c res
  | .mpbfix c, xs, y =>
    ovfResult c.rm c.ov c.o xs y.s id (c.rangeEnd y.s) (.ok (setOvf ⟨mpbfixWrapped c y, {}⟩))
  | _, _, _ => .error .assertion

/-- the step after the unbounded rounding `(y, fl)` of an operand of sign `xs` -/
def Ctx.post (C : Ctx) (xs : Bool) (y : RF) (fl : Flags) : Except Err Res :=
  if C.inRange y then .ok ⟨.fin (y.dropNegZero C.dropsNegZero), fl⟩ else C.overflowed xs y

theorem RF.dropNegZero_false (y : RF) : y.dropNegZero false = y := by
  simp only [RF.dropNegZero, Bool.and_false, Bool.false_eq_true, if_false]

theorem RF.dropNegZero_spec (y : RF) (d : Bool) :
    (y.dropNegZero d).c = y.c ∧
    ((y.dropNegZero d).s = y.s ∨ (y.c = 0 ∧ (y.dropNegZero d).s = false)) ∧
    ((y.dropNegZero d).c = 0 → (y.dropNegZero d).s = true → d = false) := by
  unfold RF.dropNegZero
  by_cases h : (decide (y.c = 0) && y.s && d) = true
  · rw [if_pos h]
    simp only [Bool.and_eq_true, decide_eq_true_eq] at h
    exact ⟨rfl, Or.inr ⟨h.1.1, rfl⟩, fun _ hs => by cases hs⟩
  · rw [if_neg h]
    refine ⟨rfl, Or.inl rfl, fun hc hs => ?_⟩
    cases d
    · rfl
    · exact absurd (by simp [hc, hs]) h

theorem RF.dropNegZero_val (y : RF) (d : Bool) : (y.dropNegZero d).val = y.val := by
  unfold RF.dropNegZero
  split
  · rename_i h
    have hc : y.c = 0 := by
      simp only [Bool.and_eq_true, decide_eq_true_eq] at h; exact h.1.1
    simp [RF.val, hc]
  · rfl

theorem efloatFixup_fin (c : EFloatParams) (y : RF) (fl : Flags) :
    efloatFixup c ⟨.fin y, fl⟩ = .ok ⟨.fin (y.dropNegZero (c.kind == .negZero)), fl⟩ := by
  simp only [efloatFixup, RF.dropNegZero]
  split <;> rfl

/-- the position `_round_at(x, n)` rounds at: the requested `n`, not below the family's own `min_n` (`N`) -/
def Ctx.posAt (N n : Option Int) : Option Int :=
  match N with
  | none => n
  | some N => some (match n with | none => N | some n => max n N)

theorem Ctx.posAt_none (N : Option Int) : Ctx.posAt N none = N := by cases N <;> rfl

theorem clamp_eq_max (n m : Int) : (if n < m then m else n) = max n m := by
  omega

theorem Ctx.post_exact (C : Ctx) (exact xs : Bool) (y : RF) (fl : Flags) :
    (if exact && !C.inRange y then .error .valueError else C.post xs y fl) =
      if !C.inRange y then (if exact then .error .valueError else C.overflowed xs y)
      else .ok ⟨.fin (y.dropNegZero C.dropsNegZero), fl⟩ := by
  unfold Ctx.post
  cases C.inRange y <;> cases exact <;> rfl

theorem Ctx.roundAtCore_fin_at {C : Ctx} {P : Option Nat} {N : Option Int} {rm : RM} {k : Option Nat}
    (h : C.core = some (P, N, rm, k)) {x : RF} (hx : x.c ≠ 0) (n : Option Int) (exact : Bool) (r : Nat) :
    C.roundAtCore (.fin x) n exact r =
      match x.round P (Ctx.posAt N n) rm k r exact with
      | .error e => .error e
      | .ok (y, fl) => if exact && !C.inRange y then .error .valueError else C.post x.s y fl := by
  -- the right side in the order of the code: the range check first, `exact` inside it
  simp only [Ctx.post_exact]
  cases C <;> simp only [Ctx.core, Option.some.injEq, Prod.mk.injEq, reduceCtorEq] at h <;>
    obtain ⟨rfl, rfl, rfl, rfl⟩ := h
  case mp | mps =>
    simp only [Ctx.roundAtCore, floatSpecial, hx, if_false, Ctx.posAt, clamp_eq_max,
      Ctx.inRange, Ctx.range, Bool.not_true, Bool.false_eq_true, Ctx.dropsNegZero, RF.dropNegZero_false]
    rfl
  case mpb c =>
    simp only [Ctx.roundAtCore, mpbRoundAt, floatSpecial, hx, if_false, Ctx.posAt, clamp_eq_max,
      Ctx.inRange, Ctx.range, Bool.not_not, Ctx.dropsNegZero, RF.dropNegZero_false]
    rfl
  case efloat c =>
    simp only [Ctx.roundAtCore, mpbRoundAt, floatSpecial, hx, if_false, Ctx.posAt, clamp_eq_max,
      Ctx.inRange, Ctx.range, Bool.not_not, Ctx.dropsNegZero]
    cases x.round _ _ _ _ r exact with
    | error e => rfl
    | ok yf =>
      cases hov : (if yf.1.s then yf.1.lt c.mpb.negMax else yf.1.gt c.mpb.posMax)
      · simp only [hov, Bool.false_eq_true, if_false]
        exact efloatFixup_fin c _ _
      · simp only [hov, if_true]
        cases exact <;> rfl
  case mpfix nmin rm k nz o =>
    simp only [Ctx.roundAtCore, fixedSpecial, hx, if_false, Ctx.posAt,
      Ctx.inRange, Ctx.range, Bool.not_true, Bool.false_eq_true, Ctx.dropsNegZero, RF.dropNegZero]
    cases x.round _ _ _ _ r exact with
    | error e => rfl
    | ok yf =>
      by_cases hz : (decide (yf.1.c = 0) && yf.1.s && !nz) = true <;> simp only [hz, if_true, Bool.false_eq_true, if_false]
  case mpbfix c =>
    simp only [Ctx.roundAtCore, mpbfixRoundAt, fixedSpecial, hx, if_false, Ctx.posAt,
      Ctx.inRange, Ctx.range, Bool.not_not, Ctx.dropsNegZero, RF.dropNegZero]
    cases x.round _ _ _ _ r exact with
    | error e => rfl
    | ok yf =>
      by_cases hov : (if yf.1.s then yf.1.lt c.negMax else yf.1.gt c.posMax) = true
      · simp only [hov, if_true, Ctx.overflowed, ovfResult, mpbfixWrapped]
        cases exact
        · cases c.ov <;> rfl
        · rfl
      · simp only [hov, Bool.false_eq_true, if_false]
        by_cases hz : (decide (yf.1.c = 0) && yf.1.s && !c.negZero) = true <;> simp only [hz, if_true, Bool.false_eq_true, if_false]

theorem Ctx.roundAtCore_fin {C : Ctx} {P : Option Nat} {N : Option Int} {rm : RM} {k : Option Nat}
    (h : C.core = some (P, N, rm, k)) {x : RF} (hx : x.c ≠ 0) (r : Nat) :
    C.roundAtCore (.fin x) none false r =
      match x.round P N rm k r false with
      | .error e => .error e
      | .ok (y, fl) => C.post x.s y fl := by
  rw [Ctx.roundAtCore_fin_at h hx none false r, Ctx.posAt_none]
  rfl

theorem Ctx.roundAtCore_zero_at {C : Ctx} (h : C.core.isSome = true) {x : RF} (hx : x.c = 0) (n : Option Int)
    (exact : Bool) (r : Nat) :
    C.roundAtCore (.fin x) n exact r = .ok ⟨.fin ⟨x.s && !C.dropsNegZero, 0, 0⟩, {}⟩ := by
  cases C <;> simp only [Ctx.core, Option.isSome, reduceCtorEq] at h
  case mp | mps => simp [Ctx.roundAtCore, floatSpecial, hx, Ctx.dropsNegZero]
  case mpb => simp [Ctx.roundAtCore, mpbRoundAt, floatSpecial, hx, Ctx.dropsNegZero]
  case efloat c =>
    simp only [Ctx.roundAtCore, mpbRoundAt, floatSpecial, hx, if_true, efloatFixup_fin, Ctx.dropsNegZero,
      RF.dropNegZero]
    cases x.s <;> cases (c.kind == NanKind.negZero) <;> rfl
  case mpfix => simp [Ctx.roundAtCore, fixedSpecial, hx, Ctx.dropsNegZero]
  case mpbfix => simp [Ctx.roundAtCore, mpbfixRoundAt, fixedSpecial, hx, Ctx.dropsNegZero]

theorem Ctx.roundAtCore_zero {C : Ctx} (h : C.core.isSome = true) {x : RF} (hx : x.c = 0) (r : Nat) :
    C.roundAtCore (.fin x) none false r = .ok ⟨.fin ⟨x.s && !C.dropsNegZero, 0, 0⟩, {}⟩ :=
  Ctx.roundAtCore_zero_at h hx none false r

theorem Ctx.roundParams_core {C : Ctx} {P : Option Nat} {N : Option Int} {rm : RM}
    (h : C.core = some (P, N, rm, some 0)) : C.roundParams = (P, N) := by
  cases C <;> simp only [Ctx.core, Option.some.injEq, Prod.mk.injEq, reduceCtorEq] at h <;>
    obtain ⟨rfl, rfl, rfl, hk⟩ := h <;>
    simp [Ctx.roundParams, widenP, widenN, hk]

theorem prepare_frac (params : Option Nat × Option Int) (num : Int) (den : Nat) (h1 : den ≠ 1)
    (h2 : isPow2 den = false) :
    prepare params (.frac num den) =
      match mpfrValue (decide (num < 0)) num.natAbs den params.1 params.2 with
      | .ok x => .ok (.fin x)
      | .error e => .error e := by
  unfold prepare
  simp only [h1, h2, if_false, Bool.false_eq_true]
  cases mpfrValue (decide (num < 0)) num.natAbs den params.1 params.2 <;> rfl

theorem Ctx.round_frac_eq {C : Ctx} {P : Option Nat} {N : Option Int} {rm : RM}
    (h : C.core = some (P, N, rm, some 0)) (num : Int) (den : Nat) (h1 : den ≠ 1) (h2 : isPow2 den = false) :
    C.round (.frac num den) =
      match mpfrValue (decide (num < 0)) num.natAbs den P N with
      | .ok xi => C.roundAtCore (.fin xi) none false 0
      | .error e => .error e := by
  unfold Ctx.round
  rw [prepare_frac _ num den h1 h2, Ctx.roundParams_core h]
  cases mpfrValue (decide (num < 0)) num.natAbs den P N <;> rfl

theorem Ctx.round_frac_float {C : Ctx} {p : Nat} {N : Option Int} {rm : RM}
    (h : C.core = some (some p, N, rm, some 0)) (num : Int) (den : Nat) (h1 : den ≠ 1) (h2 : isPow2 den = false) :
    C.round (.frac num den) =
      C.roundAtCore (.fin (rtoRat (decide (num < 0)) num.natAbs den (p + 2))) none false 0 :=
  Ctx.round_frac_eq h num den h1 h2

theorem ovfResult_arms {rm : RM} {ov : OV} {o : Opts} {xs ys : Bool} {sub : FV → FV} {sat : Res}
    {wrap : Except Err Res} {res : Res} (h : ovfResult rm ov o xs ys sub sat wrap = .ok res) :
    (ov = .overflow ∧ overflowToInfinity rm ys = true ∧
      ((o.enableInf = true ∧ res = setOvf ⟨.inf xs, {}⟩) ∨
       (o.enableInf = false ∧ ∃ iv, o.infValue = some iv ∧ res = setOvf ⟨sub iv, {}⟩))) ∨
    ((ov = .saturate ∨ (ov = .overflow ∧ overflowToInfinity rm ys = false)) ∧ res = setOvf sat) ∨
    (ov = .wrap ∧ wrap = .ok res) := by
  unfold ovfResult at h
  cases ov with
  | assert => cases h
  | wrap => exact Or.inr (Or.inr ⟨rfl, h⟩)
  | saturate => cases h; exact Or.inr (Or.inl ⟨Or.inl rfl, rfl⟩)
  | overflow =>
    cases ht : overflowToInfinity rm ys <;> rw [ht] at h
    · cases h; exact Or.inr (Or.inl ⟨Or.inr ⟨rfl, rfl⟩, rfl⟩)
    · refine Or.inl ⟨rfl, rfl, ?_⟩
      cases hen : o.enableInf <;> rw [hen] at h
      · cases hiv : o.infValue <;> rw [hiv] at h <;> cases h
        exact Or.inr ⟨rfl, _, rfl, rfl⟩
      · cases h; exact Or.inl ⟨rfl, rfl⟩

theorem efloatFixup_flags (c : EFloatParams) (v : FV) (f : Flags) :
    efloatFixup c ⟨v, f⟩ = (efloatFixup c ⟨v, {}⟩).map fun r => ⟨r.v, f⟩ := by
  cases v with
  | fin x => rw [efloatFixup_fin, efloatFixup_fin]; rfl
  | inf s =>
    simp only [efloatFixup]
    cases (!c.inf)
    · rfl
    · cases c.infValue
      · cases (c.kind != NanKind.none)
        · cases c.maxvalOk s <;> rfl
        · rfl
      · rfl
  | nan s =>
    simp only [efloatFixup]
    cases (c.kind == NanKind.none)
    · rfl
    · cases c.nanValue
      · cases c.inf
        · cases c.maxvalOk s <;> rfl
        · rfl
      · rfl

theorem efloatFixup_fl (c : EFloatParams) (r res : Res) (h : efloatFixup c r = .ok res) : res.fl = r.fl := by
  obtain ⟨v, f⟩ := r
  rw [efloatFixup_flags] at h
  cases h0 : efloatFixup c ⟨v, {}⟩ <;> rw [h0] at h <;> cases h
  rfl

/-- under- and overflow arm of `ExpContext`: NaN, or the power of two `m` at that end of the range -/
theorem exp_ovf_arm {exact b : Bool} {ov : OV} {m res : Res}
    (h : (if exact then .error .valueError else
          match ov with
          | .overflow => if b then .ok (setOvf ⟨.nan false, {}⟩) else .ok (setOvf m)
          | .saturate => .ok (setOvf m)
          | .assert => .error .valueError
          | .wrap => .error .assertion : Except Err Res) = .ok res) :
    res.v = .nan false ∨ res.v = m.v := by
  cases exact
  · cases ov
    · cases b <;> cases h
      · exact .inr rfl
      · exact .inl rfl
    · cases h; exact .inr rfl
    · cases h
    · cases h
  · cases h

/-- What `ExpContext._round_at` can make of a finite operand: NaN (a zero, a negative number, a result out of range
that the mode sends away), the power of two at the end of the range the result left, or the one-digit rounding `y`
itself, which is then positive and in range. -/
theorem expRoundAt_fin {c : ExpParams} {x : RF} {n : Option Int} {exact : Bool} {res : Res}
    (h : expRoundAt c (.fin x) n exact = .ok res) :
    res.v = .nan false ∨ res.v = .fin ⟨false, c.emin, 1⟩ ∨ res.v = .fin ⟨false, c.emax, 1⟩ ∨
    ∃ y fl, x.c ≠ 0 ∧ x.round (some 1) n c.rm (some 0) 0 exact = .ok (y, fl) ∧ y.c ≠ 0 ∧ y.s = false ∧
      c.emin ≤ y.e ∧ y.e ≤ c.emax ∧ res = ⟨.fin y, fl⟩ := by
  unfold expRoundAt at h
  simp only [floatSpecial] at h
  by_cases hx : x.c = 0
  · rw [if_pos hx] at h; cases h; exact .inl rfl
  rw [if_neg hx] at h
  cases hr : x.round (some 1) n c.rm (some 0) 0 exact with
  | error e => rw [hr] at h; cases h
  | ok yf =>
    obtain ⟨y, fl⟩ := yf
    rw [hr] at h
    change (if (decide (y.c = 0) || y.s) = true then _ else _) = _ at h
    by_cases h1 : (decide (y.c = 0) || y.s) = true
    · rw [if_pos h1] at h; cases h; exact .inl rfl
    rw [if_neg h1] at h
    by_cases h2 : y.e < c.emin
    · rw [if_pos h2] at h; exact (exp_ovf_arm h).imp_right .inl
    rw [if_neg h2] at h
    by_cases h3 : y.e > c.emax
    · rw [if_pos h3] at h; exact (exp_ovf_arm h).imp_right (.inr ∘ .inl)
    rw [if_neg h3] at h; cases h
    simp only [Bool.or_eq_true, decide_eq_true_eq, not_or, Bool.not_eq_true] at h1
    exact .inr (.inr (.inr ⟨y, fl, hx, rfl, h1.1, h1.2, Int.not_lt.1 h2, Int.not_lt.1 h3, rfl⟩))

theorem Ctx.post_in {C : Ctx} {y : RF} (h : C.inRange y = true) (xs : Bool) (fl : Flags) :
    C.post xs y fl = .ok ⟨.fin (y.dropNegZero C.dropsNegZero), fl⟩ := by
  simp only [Ctx.post, h, if_true]

/-- out of range: whatever the overflow arm returns went through `setOvf`, which raises `overflow` and `inexact` -/
theorem Ctx.post_out {C : Ctx} {y : RF} (h : C.inRange y = false) (xs : Bool) (fl : Flags) :
    C.post xs y fl = C.overflowed xs y ∧
      ∀ res, C.overflowed xs y = .ok res → res.fl.overflow = true ∧ res.fl.inexact = true := by
  refine ⟨by simp only [Ctx.post, h, Bool.false_eq_true, if_false], fun res hr => ?_⟩
  have key : ∀ {rm ov o ys sub sat wrap} {res : Res},
      (∀ w, wrap = .ok w → w.fl.overflow = true ∧ w.fl.inexact = true) →
      ovfResult rm ov o xs ys sub sat wrap = .ok res → res.fl.overflow = true ∧ res.fl.inexact = true := by
    intro rm ov o ys sub sat wrap res hw hh
    rcases ovfResult_arms hh with ⟨-, -, ⟨-, e⟩ | ⟨-, iv, -, e⟩⟩ | ⟨-, e⟩ | ⟨-, e⟩
    · rw [e]; exact ⟨rfl, rfl⟩
    · rw [e]; exact ⟨rfl, rfl⟩
    · rw [e]; exact ⟨rfl, rfl⟩
    · exact hw res e
  cases C <;> simp only [Ctx.overflowed, reduceCtorEq] at hr
  case mpb c => exact key (fun _ e => by cases e) hr
  case mpbfix c => exact key (fun _ e => by cases e; exact ⟨rfl, rfl⟩) hr
  case efloat c =>
    cases hm : mpbOverflowed c.mpb xs y with
    | error e => rw [hm] at hr; cases hr
    | ok res' =>
      rw [hm] at hr
      rw [efloatFixup_fl c res' res hr]
      exact key (fun _ e => by cases e) hm

theorem Ctx.inRange_of {C : Ctx} {lo hi : RF} (h : C.range = some (lo, hi)) {y : RF} (hl : y.lt lo = false)
    (hg : y.gt hi = false) : C.inRange y = true := by
  unfold Ctx.inRange; rw [h]; simp only [hl, hg, ite_self]; rfl

theorem Ctx.inRange_of_range_none {C : Ctx} (h : C.range = none) (y : RF) : C.inRange y = true := by
  simp only [Ctx.inRange, h]

theorem Ctx.roundAtCore_fin_congr {C C' : Ctx} (hs : C.core.isSome = true) (hc : C'.core = C.core)
    (hr : C'.range = C.range) (hd : C'.dropsNegZero = C.dropsNegZero)
    (ho : ∀ xs y, C'.overflowed xs y = C.overflowed xs y) (x : RF) (n : Option Int) (ex : Bool) (r : Nat) :
    C'.roundAtCore (.fin x) n ex r = C.roundAtCore (.fin x) n ex r := by
  by_cases hx : x.c = 0
  · rw [Ctx.roundAtCore_zero_at hs hx, Ctx.roundAtCore_zero_at (hc ▸ hs) hx, hd]
  · obtain ⟨⟨P, N, rm, k⟩, h⟩ := Option.isSome_iff_exists.1 hs
    have hin : C'.inRange = C.inRange := by funext y; simp only [Ctx.inRange, hr]
    have hp : C'.post = C.post := by funext xs y fl; simp only [Ctx.post, hin, hd, ho]
    rw [Ctx.roundAtCore_fin_at h hx, Ctx.roundAtCore_fin_at (hc.trans h) hx, hin, hp]

theorem Ctx.roundAtCore_out {C : Ctx} {P : Option Nat} {N : Option Int} {rm : RM} {k : Option Nat}
    (h : C.core = some (P, N, rm, k)) {x y : RF} {fl : Flags} (hx : x.c ≠ 0) (n : Option Int) (r : Nat)
    (hr : x.round P (Ctx.posAt N n) rm k r false = .ok (y, fl)) (hout : C.inRange y = false) :
    C.roundAtCore (.fin x) n false r = C.overflowed x.s y := by
  rw [Ctx.roundAtCore_fin_at h hx, hr]
  exact (Ctx.post_out hout x.s fl).1

/-- What a bounded or unbounded family makes of a finite non-zero operand, read backwards from a result: the rounding
`(y, fl)` succeeded, and either `y` is in range and is returned (a `-0` rewritten where the format has none), or it is
not, `exact` was off, and the result is the overflow arm's, flagged. -/
theorem Ctx.roundAtCore_fin_inv {C : Ctx} {P : Option Nat} {N : Option Int} {rm : RM} {k : Option Nat}
    (hcore : C.core = some (P, N, rm, k)) {x : RF} (hx : x.c ≠ 0) {n : Option Int} {ex : Bool} {r : Nat} {res : Res}
    (h : C.roundAtCore (.fin x) n ex r = .ok res) :
    ∃ y fl, x.round P (Ctx.posAt N n) rm k r ex = .ok (y, fl) ∧
      ((C.inRange y = true ∧ res = ⟨.fin (y.dropNegZero C.dropsNegZero), fl⟩) ∨
       (C.inRange y = false ∧ ex = false ∧ C.overflowed x.s y = .ok res ∧
         res.fl.overflow = true ∧ res.fl.inexact = true)) := by
  rw [Ctx.roundAtCore_fin_at hcore hx] at h
  generalize x.round P (Ctx.posAt N n) rm k r ex = rr at h ⊢
  rcases rr with e | ⟨y, fl⟩
  · cases h
  dsimp only at h
  refine ⟨y, fl, rfl, ?_⟩
  cases hin : C.inRange y
  · obtain ⟨e, ho⟩ := Ctx.post_out hin x.s fl
    cases ex
    · rw [Bool.false_and, if_neg Bool.false_ne_true, e] at h
      exact .inr ⟨rfl, rfl, h, ho res h⟩
    · rw [hin] at h; cases h
  · rw [hin, Bool.not_true, Bool.and_false, if_neg Bool.false_ne_true, Ctx.post_in hin] at h
    cases h; exact .inl ⟨rfl, rfl⟩

end Fpy

namespace Fpy.C01v

/-- the scaled numerator and denominator `truncRat` divides -/
def ratA (N : Nat) (exp : Int) : Nat := if exp ≥ 0 then N else N * 2 ^ (-exp).toNat
def ratB (D : Nat) (exp : Int) : Nat := if exp ≥ 0 then D * 2 ^ exp.toNat else D

/-- the exponent search of `truncRat` -/
def ratE (N D : Nat) : Int :=
  let e0 : Int := (bitLength N : Int) - (bitLength D : Int)
  if (if e0 ≥ 0 then decide (N ≥ D * 2 ^ e0.toNat) else decide (N * 2 ^ (-e0).toNat ≥ D)) then e0 else e0 - 1

theorem truncRat_eq (N D prec : Nat) :
    truncRat N D prec =
      (ratA N (ratE N D - prec + 1) / ratB D (ratE N D - prec + 1), ratE N D - prec + 1,
       ratA N (ratE N D - prec + 1) % ratB D (ratE N D - prec + 1) != 0) := by
  unfold truncRat
  extract_lets e0 ge e exp
  have he : e = ratE N D := rfl
  rw [show exp = ratE N D - prec + 1 from by rw [← he]]
  unfold ratA ratB
  generalize ratE N D - (prec : Int) + 1 = X
  by_cases h : X ≥ 0 <;> simp only [h, if_true, if_false]

end Fpy.C01v
