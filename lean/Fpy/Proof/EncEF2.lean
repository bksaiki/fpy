/-
C16: every decoded `EFloatFormat` value is representable, finite decoded values encode back to their pattern,
and what `encode` writes for ±∞ and NaN; all through the classification of patterns by magnitude code of
`EncEF.lean`.
-/
import Fpy.Proof.EncEF
namespace Fpy
open Fpy.Enc Fpy.Spec

theorem efNumber_facts (f : EF) (hv : f.valid = true) (s : Bool) (G : Nat) (hG : G ≠ 0) :
    (efNumber f s G).c ≠ 0 ∧ (efNumber f s G).s = s ∧ f.mpb.mps.reprRF (efNumber f s G) = true ∧
    mpsUord f.mpb.mps (efNumber f s G) = G := by
  have hp := ef_pmax_pos f hv
  unfold efNumber
  simp only [hG, if_false]
  have hk : (if s then -(G : Int) else (G : Int)) ≠ 0 := by cases s <;> simp <;> omega
  have ⟨hc, hs, hr, hu⟩ := mps_unord_facts f.mpb.mps hp _ hk
  refine ⟨hc, ?_, hr, ?_⟩
  · rw [hs]; cases s <;> simp <;> omega
  · rw [hu]; cases s <;> simp

theorem ef_no_nan (f : EF) (hv : f.valid = true) (hk : f.kind = .negZero ∨ f.kind = .none) (G : Nat)
    (hG : G < 2 ^ (f.nbits - 1)) : G ≤ efGmax f ∨ (f.inf = true ∧ G = efGmax f + 1) := by
  have h2 := (ef_kind_pow f hv).2.2 hk
  rw [efGmax_eq f hv, codeMax_other hk]
  cases hi : f.inf
  · left; simp only [Bool.false_eq_true, if_false]; omega
  · have := h2 hi
    simp only [if_true, true_and]; omega

theorem ef_negzero_no_nan (f : EF) (hv : f.valid = true) (hk : f.kind = .negZero) (G : Nat) (hG : G < 2 ^ (f.nbits - 1)) :
    G ≤ efGmax f ∨ (f.inf = true ∧ G = efGmax f + 1) :=
  ef_no_nan f hv (.inl hk) G hG

theorem efNumber_zero (f : EF) (s : Bool) : efNumber f s 0 = ⟨s, f.expmin, 0⟩ := rfl

theorem ef_decode_cases (f : EF) (hv : f.valid = true) (b : Nat) (hb : b < 2 ^ f.nbits) :
    let S := b / 2 ^ (f.nbits - 1); let G := b % 2 ^ (f.nbits - 1); let s := decide (S = 1)
    (G ≤ efGmax f ∧ ¬ (f.kind = .negZero ∧ G = 0 ∧ S = 1) ∧ f.decode b = .ok (.fin (efNumber f s G))) ∨
    (f.inf = true ∧ G = efGmax f + 1 ∧ f.decode b = .ok (.inf s)) ∨
    (f.kind ≠ .none ∧ f.decode b = .ok (.nan s)) := by
  intro S G s
  have hGlt : G < 2 ^ (f.nbits - 1) := Nat.mod_lt _ (Nat.two_pow_pos _)
  have hd := ef_decode_class f hv b hb
  by_cases hz : f.kind = .negZero ∧ G = 0 ∧ S = 1
  · rw [if_pos hz] at hd
    exact .inr (.inr ⟨by rw [hz.1]; simp, hd⟩)
  · rw [if_neg hz] at hd
    by_cases hle : G ≤ efGmax f
    · rw [if_pos hle] at hd; exact .inl ⟨hle, hz, hd⟩
    · rw [if_neg hle] at hd
      by_cases hi : f.inf = true ∧ G = efGmax f + 1
      · rw [if_pos hi] at hd; exact .inr (.inl ⟨hi.1, hi.2, hd⟩)
      · rw [if_neg hi] at hd
        refine .inr (.inr ⟨fun hk => ?_, hd⟩)
        rcases ef_no_nan f hv (.inr hk) G hGlt with h | h
        · exact hle h
        · exact hi h

theorem ef_decode_fin_inv (f : EF) (hv : f.valid = true) (b : Nat) (hb : b < 2 ^ f.nbits) (x : RF)
    (hd : f.decode b = .ok (.fin x)) :
    b % 2 ^ (f.nbits - 1) ≤ efGmax f ∧
    x = efNumber f (decide (b / 2 ^ (f.nbits - 1) = 1)) (b % 2 ^ (f.nbits - 1)) := by
  rcases ef_decode_cases f hv b hb with ⟨h1, _, h⟩ | ⟨_, _, h⟩ | ⟨_, h⟩ <;> rw [hd] at h <;> cases h
  exact ⟨h1, rfl⟩

theorem ef_decode_repr (f : EF) (hv : f.valid = true) (b : Nat) (hb : b < 2 ^ f.nbits) :
    ∃ v, f.decode b = .ok v ∧ f.repr v = true := by
  rcases ef_decode_cases f hv b hb with ⟨hle, hz, h⟩ | ⟨hi, _, h⟩ | ⟨hk, h⟩ <;> refine ⟨_, h, ?_⟩
  · generalize b / 2 ^ (f.nbits - 1) = S at *
    generalize b % 2 ^ (f.nbits - 1) = G at *
    by_cases hG0 : G = 0
    · subst hG0
      rw [ef_repr_fin_zero f _ rfl, efNumber_zero]
      by_cases hS : S = 1
      · have : f.kind ≠ .negZero := fun h => hz ⟨h, rfl, hS⟩
        simp [this]
      · simp [hS]
    · have ⟨hc, _, hr, hu⟩ := efNumber_facts f hv (decide (S = 1)) G hG0
      rw [ef_repr_fin_nonzero f hv _ hc, hr, hu, ef_hasNonzero f hv]
      simp; omega
  · rw [ef_repr_inf, hi]
  · rw [ef_repr_nan]; simp [hk]

theorem ef_encode_decode_fin (f : EF) (hv : f.valid = true) (b : Nat) (hb : b < 2 ^ f.nbits) (x : RF)
    (hd : f.decode b = .ok (.fin x)) (hr : f.repr (.fin x) = true) : f.encode (.fin x) = .ok b := by
  have ⟨_, _, _, hN⟩ := ef_pow f hv
  have hH := Nat.two_pow_pos (f.nbits - 1)
  have hdm := Nat.div_add_mod b (2 ^ (f.nbits - 1))
  have hS : b / 2 ^ (f.nbits - 1) < 2 := (Nat.div_lt_iff_lt_mul hH).2 (by omega)
  obtain ⟨_, rfl⟩ := ef_decode_fin_inv f hv b hb x hd
  clear hd hb hN
  generalize b / 2 ^ (f.nbits - 1) = S at *
  generalize b % 2 ^ (f.nbits - 1) = G at *
  have hsb := (sign_bit hS).2
  by_cases hG0 : G = 0
  · subst hG0
    rw [ef_encode_fin_zero f _ rfl hr, efNumber_zero]
    simp only [hsb]; rw [← hdm, Nat.add_zero]
  · have ⟨hc, hs, _, hu⟩ := efNumber_facts f hv (decide (S = 1)) G hG0
    rw [(ef_encode_fin_nonzero f hv _ hc hr).2, hs, hu, hsb, hdm]

theorem ef_encode_inf (f : EF) (hv : f.valid = true) (s : Bool) (hr : f.repr (.inf s) = true) :
    efGmax f + 1 < 2 ^ (f.nbits - 1) ∧
    f.encode (.inf s) = .ok (2 ^ (f.nbits - 1) * (if s then 1 else 0) + (efGmax f + 1)) := by
  have ⟨hA, hB, hH, _⟩ := ef_pow f hv
  have ⟨hki, hkm, hkz⟩ := ef_kind_pow f hv
  have hi : f.inf = true := by rw [ef_repr_inf] at hr; exact hr
  have ⟨hmul, hAle⟩ := ef_pow_sub f hv
  have key : ∃ e mb, f.encodeFields (.inf s) = .ok (e, mb) ∧ mb < 2 ^ f.m ∧
      2 ^ f.m * e + mb = efGmax f + 1 ∧ efGmax f + 1 < 2 ^ (f.nbits - 1) := by
    rw [efGmax_eq f hv]
    unfold EF.encodeFields codeMax bitmask
    simp only [hi, if_true]
    cases hk : f.kind <;> simp only
    · have hle := Nat.mul_le_mul_left (2 ^ f.m) (hki hk).1
      rw [← hH] at hle
      exact ⟨_, _, rfl, by omega⟩
    · have := (hkm hk).2 hi
      by_cases hp1 : f.pmax = 1
      · -- one-bit significand: no mantissa field, ∞ is the exponent code below the NaN code
        have hA1 : 2 ^ f.m = 1 := by rw [ef_m, hp1]
        rw [hA1, Nat.one_mul] at hH
        simp only [hp1, if_true, hA1, Nat.one_mul]
        exact ⟨_, _, rfl, by omega⟩
      · have hA2 : 2 ≤ 2 ^ f.m := Nat.pow_le_pow_right (i := 1) Nat.two_pos (by rw [ef_m]; have := ef_pmax_pos f hv; omega)
        simp only [hp1, if_false]
        exact ⟨_, _, rfl, by omega⟩
    · have := hkz (.inl hk) hi
      exact ⟨_, _, rfl, by omega⟩
    · have := hkz (.inr hk) hi
      exact ⟨_, _, rfl, by omega⟩
  obtain ⟨e, mb, hf, hmb, hsum, hlt⟩ := key
  exact ⟨hlt, ef_encode_code f _ e mb _ hr hf ((two_pow_mul_or _ _ _ hmb).trans hsum) hlt⟩

theorem ef_encode_nan (f : EF) (hv : f.valid = true) (s : Bool) (hr : f.repr (.nan s) = true) :
    ∃ b t, f.encode (.nan s) = .ok b ∧ b < 2 ^ f.nbits ∧ f.decode b = .ok (.nan t) := by
  have ⟨hA, hB, hH, _⟩ := ef_pow f hv
  have ⟨hki, hkm, hkz⟩ := ef_kind_pow f hv
  have ⟨hmul, hAle⟩ := ef_pow_sub f hv
  -- fields and resulting code `G'`: NEG_ZERO writes code 0 (under the sign bit), the other kinds a code
  -- above the largest finite one and above the infinity code
  have key : ∃ e mb G', f.encodeFields (.nan s) = .ok (e, mb) ∧ mb < 2 ^ f.m ∧ 2 ^ f.m * e + mb = G' ∧
      ((f.kind = .negZero ∧ G' = 0) ∨
       (f.kind ≠ .negZero ∧ efGmax f + (if f.inf then 1 else 0) < G' ∧ G' < 2 ^ (f.nbits - 1))) := by
    rw [efGmax_eq f hv]
    unfold EF.encodeFields codeMax bitmask
    cases hk : f.kind <;> simp only
    · -- IEEE: the all-ones exponent with mantissa 0 (no infinities) or `10…0`
      have ⟨hb2, hpi⟩ := hki hk
      have h2A := Nat.mul_le_mul_left (2 ^ f.m) hb2
      rw [← hH] at h2A
      cases hi : f.inf
      · exact ⟨_, _, _, rfl, hA, rfl, .inr ⟨by simp, by simp only [Bool.false_eq_true, if_false]; omega⟩⟩
      · have hm0 : ¬ f.m = 0 := fun h => by have := hpi hi; rw [h] at this; omega
        have hhalf := two_pow_pred f.m (by omega)
        have hpos := Nat.two_pow_pos (f.m - 1)
        simp only [if_true, hm0, if_false]
        exact ⟨_, _, _, rfl, by omega, rfl, .inr ⟨by simp, by omega⟩⟩
    · -- MAX_VAL: the all-ones magnitude
      have ⟨h2, h4⟩ := hkm hk
      refine ⟨_, _, _, rfl, Nat.sub_lt hA Nat.one_pos, rfl, .inr ⟨by simp, ?_⟩⟩
      cases hi : f.inf
      · simp only [Bool.false_eq_true, if_false]; omega
      · have := h4 hi
        simp only [if_true]; omega
    · exact ⟨_, _, _, rfl, hA, rfl, .inl ⟨trivial, by simp⟩⟩
    · rw [ef_repr_nan, hk] at hr; simp at hr
  obtain ⟨e, mb, G', hf, hmb, hsum, hcls⟩ := key
  have hlt : G' < 2 ^ (f.nbits - 1) := by
    rcases hcls with ⟨_, h0⟩ | ⟨_, _, h⟩
    · rw [h0]; exact Nat.two_pow_pos _
    · exact h
  have hsb : f.encodeSign (.nan s) = if (f.kind == .negZero || s) then 1 else 0 := by
    unfold EF.encodeSign; cases f.kind == .negZero <;> rfl
  have ⟨hblt, hdec⟩ := ef_decode_split f hv (f.kind == .negZero || s) G' hlt
  rw [← hsb] at hblt hdec
  refine ⟨_, f.kind == .negZero || s, ef_encode_code f _ e mb G' hr hf ((two_pow_mul_or _ _ _ hmb).trans hsum) hlt, hblt, ?_⟩
  rw [hdec]
  rcases hcls with ⟨h1, h2⟩ | ⟨h1, hgt, _⟩
  · simp [h1, h2]
  · have h2 : ¬ G' ≤ efGmax f := Nat.not_le.2 (Nat.lt_of_le_of_lt (Nat.le_add_right _ _) hgt)
    have h3 : ¬ (f.inf = true ∧ G' = efGmax f + 1) := fun ⟨hi, h⟩ => by
      rw [hi, h] at hgt; exact Nat.lt_irrefl _ hgt
    rw [if_neg (fun h => h1 h.1), if_neg h2, if_neg h3]

theorem ef_repr_mpb (f : EF) (v : FV) (hr : f.repr v = true) : f.mpb.repr v = true := by
  unfold EF.repr at hr
  by_cases h : f.mpb.repr v = true
  · exact h
  · simp [h] at hr

end Fpy
