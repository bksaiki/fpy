/-
The specification `Spec.roundVal` alone, for an arbitrary rational operand (no model involved).  Two facts carry the
sanity theorems, both in value space: `roundVal_cell` (the operand is a grid point or lies strictly inside a cell one
spacing wide; the rounding is an end of the cell, under the nearest modes the nearer one) and the extremality of the
neighbours (`grid_le_gridLo`, `gridHi_le_grid`: no grid point lies inside the cell; at the grid point `0` this is
what makes RTZ/RAZ point toward/away from zero).  Beside them the bridge `roundInt_frac` from the integer-level
`Spec.roundQuot`/`roundDiv` (quotient + remainder comparisons) to `roundVal` (floor/ceil of a rational), which alone
says what RTE/RTO and the ties choose.
-/
import Fpy.Proof.RoundQuot
import Fpy.Spec.Denote
import Fpy.Spec.Rep
namespace Fpy.C01v
open Fpy Fpy.Spec

theorem zpow_nat_ge_one (k : Nat) : (1 : Rat) ≤ (2 : Rat) ^ (k : Int) := by
  rw [RF.two_zpow_nat]
  have : (1 : Nat) ≤ 2 ^ k := Nat.pow_pos (by decide)
  have := Rat.natCast_le_natCast.2 this
  simpa using this

theorem zpow_le_of_le {a b : Int} (h : a ≤ b) : (2 : Rat) ^ a ≤ (2 : Rat) ^ b := by
  obtain ⟨k, hk⟩ : ∃ k : Nat, b = a + (k : Int) := ⟨(b - a).toNat, by omega⟩
  rw [hk, RF.two_zpow_add]
  have h1 := zpow_nat_ge_one k
  have h2 := RF.two_zpow_pos a
  have := Rat.mul_le_mul_of_nonneg_left h1 (Rat.le_of_lt h2)
  rwa [Rat.mul_one] at this

theorem lt_of_zpow_lt {a b : Int} (h : (2 : Rat) ^ a < (2 : Rat) ^ b) : a < b := by
  by_cases h' : a < b
  · exact h'
  · exact absurd (zpow_le_of_le (by omega : b ≤ a)) (Rat.not_le.2 h)

theorem two_zpow_succ (n : Int) : (2 : Rat) ^ (n + 1) = 2 * (2 : Rat) ^ n := by
  rw [RF.two_zpow_add, Rat.zpow_one, Rat.mul_comm]

theorem floor_eq {t : Rat} {z : Int} (h1 : (z : Rat) ≤ t) (h2 : t < (z : Rat) + 1) : t.floor = z := by
  apply Int.le_antisymm
  · have : t.floor < z + 1 := Rat.floor_lt_iff.2 (by rw [Rat.intCast_add]; exact h2)
    omega
  · exact Rat.le_floor_iff.2 h1

theorem ceil_eq {t : Rat} {z : Int} (h1 : (z : Rat) - 1 < t) (h2 : t ≤ (z : Rat)) : t.ceil = z := by
  apply Int.le_antisymm
  · exact Rat.ceil_le_iff.2 h2
  · have : z - 1 < t.ceil := Rat.lt_ceil_iff.2 (by rw [Rat.intCast_sub]; exact h1)
    omega

theorem fc_facts (t : Rat) :
    (t.floor : Rat) ≤ t ∧ t < (t.floor : Rat) + 1 ∧ t ≤ (t.ceil : Rat) ∧ (t.ceil : Rat) - 1 < t ∧
    (t.ceil = t.floor ∨ t.ceil = t.floor + 1) := by
  have h1 := Rat.floor_le t
  have h2 : t < (t.floor : Rat) + 1 := by have := Rat.lt_floor_add_one t; rwa [Rat.intCast_add] at this
  have h3 : t ≤ (t.ceil : Rat) := Rat.le_ceil
  have h4 : (t.ceil : Rat) - 1 < t := by
    have : t.ceil - 1 < t.ceil := by omega
    have := (Rat.lt_ceil_iff (x := t) (y := t.ceil - 1)).1 this
    rwa [Rat.intCast_sub] at this
  refine ⟨h1, h2, h3, h4, ?_⟩
  have a : t.floor ≤ t.ceil := Rat.intCast_le_intCast.1 (Rat.le_trans h1 h3)
  have b : t.ceil - 1 < t.floor + 1 := by
    apply Rat.intCast_lt_intCast.1
    rw [Rat.intCast_sub, Rat.intCast_add]
    grind
  omega

theorem le_abs_of_le {a b : Rat} (h : b ≤ a) : b ≤ a.abs := by
  unfold Rat.abs; split <;> grind

theorem le_abs_of_le_neg {a b : Rat} (h : a ≤ -b) : b ≤ a.abs := by
  unfold Rat.abs; split <;> grind

theorem abs_le_of {a b : Rat} (h1 : -b ≤ a) (h2 : a ≤ b) : a.abs ≤ b := by
  unfold Rat.abs; split <;> grind

theorem abs_mul_pos (a G : Rat) (hG : 0 < G) : (a * G).abs = a.abs * G := by
  by_cases h : 0 ≤ a
  · rw [Rat.abs_of_nonneg h, Rat.abs_of_nonneg (Rat.mul_nonneg h (Rat.le_of_lt hG))]
  · have h' : a < 0 := Rat.not_le.1 h
    have h2 : a * G < 0 := (Rat.mul_neg_iff_of_pos_right hG).2 h'
    rw [Rat.abs_of_nonpos (Rat.le_of_lt h'), Rat.abs_of_nonpos (Rat.le_of_lt h2), Rat.neg_mul]

theorem nonneg_mul_iff (t G : Rat) (hG : 0 < G) : 0 ≤ t * G ↔ 0 ≤ t := by
  constructor
  · intro h
    apply Rat.not_lt.1
    intro h'
    exact absurd ((Rat.mul_neg_iff_of_pos_right hG).2 h') (Rat.not_lt.2 h)
  · intro h; exact Rat.mul_nonneg h (Rat.le_of_lt hG)

theorem frac_split (N D : Nat) (hD : 0 < D) :
    ∃ f : Rat, (N : Rat) / (D : Rat) = ((N / D : Nat) : Rat) + f ∧ 0 ≤ f ∧ f < 1 ∧
      (f = 0 ↔ N % D = 0) ∧ (2 * f < 1 ↔ 2 * (N % D) < D) ∧ (1 < 2 * f ↔ D < 2 * (N % D)) := by
  have hDq : (0 : Rat) < (D : Rat) := Rat.natCast_pos.2 hD
  have hD0 : (D : Rat) ≠ 0 := Rat.ne_of_gt hDq
  have hdm : (N : Rat) = (D : Rat) * ((N / D : Nat) : Rat) + ((N % D : Nat) : Rat) := by
    rw [← Rat.natCast_mul, ← Rat.natCast_add, Nat.div_add_mod]
  have hlt : N % D < D := Nat.mod_lt _ hD
  generalize N % D = r at *
  have h2 : (2 : Rat) * ((r : Rat) / (D : Rat)) = ((2 * r : Nat) : Rat) / (D : Rat) := by
    rw [Rat.natCast_mul]; simp only [Rat.natCast_ofNat]; grind
  refine ⟨(r : Rat) / (D : Rat), ?_, ?_, ?_, ?_, ?_, ?_⟩
  · rw [hdm]; grind
  · rw [Rat.div_def]; exact Rat.mul_nonneg Rat.natCast_nonneg (Rat.le_of_lt (Rat.inv_pos.2 hDq))
  · rw [Rat.div_lt_iff hDq, Rat.one_mul]; exact Rat.natCast_lt_natCast.2 hlt
  · rw [Rat.div_def, Rat.mul_eq_zero]
    constructor
    · rintro (h | h)
      · exact Rat.natCast_eq_zero_iff.1 h
      · exact absurd (Rat.inv_pos.2 hDq) (by rw [h]; exact Rat.lt_irrefl)
    · intro h; left; rw [h]; rfl
  · rw [h2, Rat.div_lt_iff hDq, Rat.one_mul]; exact Rat.natCast_lt_natCast
  · rw [h2, Rat.lt_div_iff hDq, Rat.one_mul]; exact Rat.natCast_lt_natCast

/-- `Spec.roundDiv` (`Spec/Rep.lean`) and `Spec.roundQuotG` (`Spec/RoundRat.lean`) are one function written out twice -/
theorem roundDiv_eq_roundQuotG : roundDiv = roundQuotG := rfl

theorem roundQuot_eq_roundDiv (rm : RM) (s : Bool) (c k : Nat) : roundQuot rm s c k = roundDiv rm s c (2 ^ k) := by
  rw [roundDiv_eq_roundQuotG, roundQuotG_pow]

/-- The negative is written `-1 * (·)` here and in `frac_dist`: that is what `RF.sgn true * ·` has become where
`roundInt_frac` uses them (conjuncts 1–2 serve `s = false`, 3–4 `s = true`). -/
theorem floor_ceil_nat_add (q : Nat) (f : Rat) (h0 : 0 ≤ f) (h1 : f < 1) :
    ((q : Rat) + f).floor = (q : Int) ∧ ((q : Rat) + f).ceil = (if f = 0 then (q : Int) else (q : Int) + 1) ∧
    (-1 * ((q : Rat) + f)).ceil = -(q : Int) ∧
    (-1 * ((q : Rat) + f)).floor = (if f = 0 then -(q : Int) else -(q : Int) - 1) := by
  have hq : (((q : Int) : Rat)) = (q : Rat) := Rat.intCast_natCast q
  have a : ((q : Rat) + f).floor = (q : Int) := floor_eq (by rw [hq]; grind) (by rw [hq]; grind)
  have b : ((q : Rat) + f).ceil = (if f = 0 then (q : Int) else (q : Int) + 1) := by
    split
    · exact ceil_eq (by rw [hq]; grind) (by rw [hq]; grind)
    · exact ceil_eq (by rw [Rat.intCast_add, hq, Rat.intCast_one]; grind) (by rw [Rat.intCast_add, hq, Rat.intCast_one]; grind)
  have e : -1 * ((q : Rat) + f) = -((q : Rat) + f) := by grind
  refine ⟨a, b, ?_, ?_⟩
  · rw [e, Rat.ceil_eq_neg_floor_neg, Rat.neg_neg, a]
  · have := Rat.ceil_eq_neg_floor_neg ((q : Rat) + f)
    rw [e]
    by_cases h : f = 0
    · rw [if_pos h] at b ⊢; omega
    · rw [if_neg h] at b ⊢; omega

theorem frac_dist (a f : Rat) :
    a + f - a = f ∧ a + 1 - (a + f) = 1 - f ∧ -1 * (a + f) - (-a - 1) = 1 - f ∧ -a - -1 * (a + f) = f := by
  refine ⟨?_, ?_, ?_, ?_⟩ <;> grind

theorem lt_one_sub_iff (f : Rat) : f < 1 - f ↔ 2 * f < 1 := by constructor <;> intro h <;> grind
theorem one_sub_lt_iff (f : Rat) : 1 - f < f ↔ 1 < 2 * f := by constructor <;> intro h <;> grind

theorem roundInt_frac (rm : RM) (s : Bool) (N D : Nat) (hD : 0 < D) (u : Int) :
    roundInt rm u (RF.sgn s * ((N : Rat) / (D : Rat)) * (2 : Rat) ^ u)
      = (if s then -1 else 1) * ((roundDiv rm s N D : Nat) : Int) := by
  obtain ⟨f, hN, hf0, hf1, hfz, hflt, hfgt⟩ := frac_split N D hD
  obtain ⟨hfl, hce, hnc, hnf⟩ := floor_ceil_nat_add (N / D) f hf0 hf1
  have hG := RF.two_zpow_pos u
  have ht : ∀ a : Rat, a * (2 : Rat) ^ u / (2 : Rat) ^ u = a := fun a => Rat.mul_div_cancel (RF.two_zpow_ne u)
  have hv : ∀ a : Rat, 0 ≤ a * (2 : Rat) ^ u ↔ 0 ≤ a := fun a => nonneg_mul_iff a _ hG
  have hpos : 0 ≤ ((N / D : Nat) : Rat) + f := Rat.add_nonneg Rat.natCast_nonneg hf0
  unfold roundInt roundDiv
  simp only [ht, hv, hN]
  generalize N / D = q at *
  generalize N % D = r at *
  by_cases hr0 : r = 0
  · have hf : f = 0 := hfz.2 hr0
    rw [if_pos hf] at hce hnf
    cases s
    · simp only [RF.sgn, Bool.false_eq_true, if_false, Rat.one_mul, hfl, hce, hr0, if_true, Int.one_mul]
    · simp only [RF.sgn, if_true, hnf, hnc, hr0, Int.neg_mul, Int.one_mul]
  · have hf : ¬ f = 0 := fun h => hr0 (hfz.1 h)
    rw [if_neg hf] at hce hnf
    have hq : (((q : Int) : Rat)) = (q : Rat) := Rat.intCast_natCast q
    cases s
    · have hne : ¬ ((q : Int) = (q : Int) + 1) := by omega
      obtain ⟨e1, e2, -, -⟩ := frac_dist (q : Rat) f
      simp only [RF.sgn, Bool.false_eq_true, if_false, Rat.one_mul, hfl, hce, hne, hr0, hpos, if_true,
        Rat.intCast_add, hq, Rat.intCast_one, Int.one_mul, e1, e2, lt_one_sub_iff, one_sub_lt_iff, hflt, hfgt]
      -- Both sides are now `match rm with …` over the same facts about naturals: floor and ceiling have become
      -- `q`, `q + 1` (negated below, for `s`), the distance tests `2 * r < D`, `D < 2 * r`.  Per mode an integer
      -- `if`-tree stands against the cast of a natural one (parity of `q` in `Int` and in `Nat`, the order of the
      -- two strict tests); the `clear` leaves `grind` nothing about `Rat` to explore.
      clear e1 e2 hfl hce hnc hnf hpos hN ht hv hG hfz hflt hfgt hf0 hf1 hf hq
      cases rm <;> simp only [] <;> grind
    · have hne : ¬ (-(q : Int) - 1 = -(q : Int)) := by omega
      have hneg : ¬ (0 ≤ -1 * ((q : Rat) + f)) := by grind
      obtain ⟨-, -, e1, e2⟩ := frac_dist (q : Rat) f
      simp only [RF.sgn, if_true, hnf, hnc, hne, hr0, hneg, if_false, Rat.intCast_sub, Rat.intCast_neg, hq,
        Rat.intCast_one, e1, e2, lt_one_sub_iff, one_sub_lt_iff, hflt, hfgt]
      clear e1 e2 hfl hce hnc hnf hpos hN ht hv hG hfz hflt hfgt hf0 hf1 hf hq hneg
      cases rm <;> simp only [] <;> grind

theorem roundVal_frac (rm : RM) (s : Bool) (N D : Nat) (hD : 0 < D) (u : Int) :
    roundVal rm u (RF.sgn s * ((N : Rat) / (D : Rat)) * (2 : Rat) ^ u)
      = RF.sgn s * ((roundDiv rm s N D : Nat) : Rat) * (2 : Rat) ^ u := by
  unfold roundVal
  rw [roundInt_frac rm s N D hD u]
  cases s <;> simp [RF.sgn, Rat.intCast_neg, Rat.intCast_natCast, Rat.neg_mul]

theorem nearest_pick {a b : Rat} (lo hi tie : Int) (htie : tie = lo ∨ tie = hi) :
    ((if a < b then lo else if b < a then hi else tie) = lo ∧ a ≤ b) ∨
    ((if a < b then lo else if b < a then hi else tie) = hi ∧ b ≤ a) := by
  by_cases h1 : a < b
  · rw [if_pos h1]; exact Or.inl ⟨rfl, Rat.le_of_lt h1⟩
  · rw [if_neg h1]
    by_cases h2 : b < a
    · rw [if_pos h2]; exact Or.inr ⟨rfl, Rat.le_of_lt h2⟩
    · rw [if_neg h2]
      rcases htie with e | e
      · exact Or.inl ⟨e, Rat.not_lt.1 h2⟩
      · exact Or.inr ⟨e, Rat.not_lt.1 h1⟩

/-- **The cell of `q` on the grid `2^u`, and where `roundVal` lies in it.**  The only place where `Spec.roundInt` is
unfolded for these facts (what RTE/RTO and the ties choose is left to `roundInt_frac`). -/
theorem roundVal_cell (rm : RM) (u : Int) (q : Rat) :
    ((gridHi u q = gridLo u q ∧ q = gridLo u q) ∨
      (gridHi u q = gridLo u q + (2 : Rat) ^ u ∧ gridLo u q < q ∧ q < gridHi u q)) ∧
    (roundVal rm u q = gridLo u q ∨ roundVal rm u q = gridHi u q) ∧
    (rm = .rne ∨ rm = .rna →
      (roundVal rm u q = gridLo u q ∧ q - gridLo u q ≤ gridHi u q - q) ∨
      (roundVal rm u q = gridHi u q ∧ gridHi u q - q ≤ q - gridLo u q)) := by
  have hG := RF.two_zpow_pos u
  have hq : q = q / (2 : Rat) ^ u * (2 : Rat) ^ u := (Rat.div_mul_cancel (RF.two_zpow_ne u)).symm
  have sm : ∀ a b : Rat, a * (2 : Rat) ^ u - b * (2 : Rat) ^ u = (a - b) * (2 : Rat) ^ u := fun a b => by grind
  have le : ∀ {a b : Rat}, a ≤ b → a * (2 : Rat) ^ u ≤ b * (2 : Rat) ^ u :=
    fun h => Rat.mul_le_mul_of_nonneg_right h (Rat.le_of_lt hG)
  have lt : ∀ {a b : Rat}, a < b → a * (2 : Rat) ^ u < b * (2 : Rat) ^ u := fun h => Rat.mul_lt_mul_of_pos_right h hG
  unfold roundVal gridLo gridHi roundInt
  simp only
  obtain ⟨f1, f2, f3, f4, f5⟩ := fc_facts (q / (2 : Rat) ^ u)
  generalize q / (2 : Rat) ^ u = t at *
  subst hq
  -- proved while `simp` can still compute `t.floor`, `t.ceil`: they are generalised next
  have hint : t = (t.floor : Rat) → t.ceil = t.floor := fun h => by
    rw [h]; simp
  generalize t.floor = lo at *
  generalize t.ceil = hi at *
  rcases f5 with e | e
  · subst e
    have ht : t = (hi : Rat) := Rat.le_antisymm f3 f1
    simp only [if_true]
    exact ⟨Or.inl ⟨trivial, by rw [ht]⟩, Or.inl trivial, fun _ => Or.inl ⟨trivial, by rw [ht]; exact Rat.le_refl⟩⟩
  · have hne : t ≠ (lo : Rat) := fun h => by have := hint h; omega
    have hlt : (lo : Rat) < t := Rat.lt_of_le_of_ne f1 (fun h => hne h.symm)
    subst e
    have hne2 : ¬ (lo = lo + 1) := by omega
    simp only [hne2, if_false, sm]
    refine ⟨Or.inr ⟨by rw [Rat.intCast_add, Rat.intCast_one]; grind, lt hlt,
      lt (by rw [Rat.intCast_add, Rat.intCast_one]; exact f2)⟩, ?_, ?_⟩
    · have pick : ∀ (c : Prop) [Decidable c] {a b : Int}, (a = lo ∨ a = lo + 1) → (b = lo ∨ b = lo + 1) →
          ((if c then a else b) = lo ∨ (if c then a else b) = lo + 1) := by
        intro c _ a b ha hb; split <;> assumption
      have l : lo = lo ∨ lo = lo + 1 := Or.inl rfl
      have r : lo + 1 = lo ∨ lo + 1 = lo + 1 := Or.inr rfl
      have : ∀ R : Int, (R = lo ∨ R = lo + 1) →
          ((R : Rat) * (2 : Rat) ^ u = (lo : Rat) * (2 : Rat) ^ u ∨
            (R : Rat) * (2 : Rat) ^ u = ((lo + 1 : Int) : Rat) * (2 : Rat) ^ u) :=
        fun R h => h.imp (fun e => by rw [e]) (fun e => by rw [e])
      apply this
      cases rm
      case rtn => exact l
      case rtp => exact r
      case rtz | rte => exact pick _ l r
      case raz | rto => exact pick _ r l
      case rne => exact pick _ l (pick _ r (pick _ l r))
      case rna => exact pick _ l (pick _ r (pick _ r l))
    · have scale : ∀ (R : Int) {a b : Rat}, (R = lo ∧ a ≤ b) ∨ (R = lo + 1 ∧ b ≤ a) →
          ((R : Rat) * (2 : Rat) ^ u = (lo : Rat) * (2 : Rat) ^ u ∧ a * (2 : Rat) ^ u ≤ b * (2 : Rat) ^ u) ∨
          ((R : Rat) * (2 : Rat) ^ u = ((lo + 1 : Int) : Rat) * (2 : Rat) ^ u ∧ b * (2 : Rat) ^ u ≤ a * (2 : Rat) ^ u) :=
        fun R _ _ h => h.imp (fun ⟨e, h⟩ => ⟨by rw [e], le h⟩) (fun ⟨e, h⟩ => ⟨by rw [e], le h⟩)
      rintro (h | h) <;> subst h <;> exact scale _ (nearest_pick _ _ _ (by split <;> simp))

theorem onGrid_roundVal (rm : RM) (u : Int) (q : Rat) : OnGrid u (roundVal rm u q) := ⟨_, rfl⟩
theorem onGrid_gridLo (u : Int) (q : Rat) : OnGrid u (gridLo u q) := ⟨_, rfl⟩
theorem onGrid_gridHi (u : Int) (q : Rat) : OnGrid u (gridHi u q) := ⟨_, rfl⟩
theorem onGrid_zero (u : Int) : OnGrid u 0 := ⟨0, by simp⟩

theorem grid_le_gridLo {u : Int} {g q : Rat} (hg : OnGrid u g) (h : g ≤ q) : g ≤ gridLo u q := by
  obtain ⟨m, rfl⟩ := hg
  have hG := RF.two_zpow_pos u
  apply Rat.mul_le_mul_of_nonneg_right _ (Rat.le_of_lt hG)
  rw [Rat.intCast_le_intCast, Rat.le_floor_iff, ← Rat.not_lt, Rat.div_lt_iff hG, Rat.not_lt]
  exact h

theorem gridHi_le_grid {u : Int} {g q : Rat} (hg : OnGrid u g) (h : q ≤ g) : gridHi u q ≤ g := by
  obtain ⟨m, rfl⟩ := hg
  have hG := RF.two_zpow_pos u
  apply Rat.mul_le_mul_of_nonneg_right _ (Rat.le_of_lt hG)
  rw [Rat.intCast_le_intCast, Rat.ceil_le_iff, ← Rat.not_lt, Rat.lt_div_iff hG, Rat.not_lt]
  exact h

theorem mul_right_cancel_pos {a b G : Rat} (hG : 0 < G) (h : a * G = b * G) : a = b := by
  have := congrArg (· / G) h
  simpa [Rat.mul_div_cancel (Rat.ne_of_gt hG)] using this

theorem roundVal_neighbours (rm : RM) (u : Int) (q : Rat) :
    gridLo u q ≤ q ∧ q ≤ gridHi u q ∧
    (gridHi u q = gridLo u q ∨ gridHi u q = gridLo u q + (2 : Rat) ^ u) ∧
    (roundVal rm u q = gridLo u q ∨ roundVal rm u q = gridHi u q) := by
  obtain ⟨h, hR, -⟩ := roundVal_cell rm u q
  rcases h with ⟨e, hq⟩ | ⟨e, h1, h2⟩
  · exact ⟨by rw [← hq]; exact Rat.le_refl, by rw [e, ← hq]; exact Rat.le_refl, Or.inl e, hR⟩
  · exact ⟨Rat.le_of_lt h1, Rat.le_of_lt h2, Or.inr e, hR⟩

theorem roundVal_eq_iff (rm : RM) (u : Int) (q : Rat) : roundVal rm u q = q ↔ OnGrid u q := by
  constructor
  · intro h; rw [← h]; exact onGrid_roundVal rm u q
  · intro hg
    obtain ⟨h1, h2, -, h4⟩ := roundVal_neighbours rm u q
    rcases h4 with h | h <;> rw [h]
    · exact Rat.le_antisymm h1 (grid_le_gridLo hg Rat.le_refl)
    · exact Rat.le_antisymm (gridHi_le_grid hg Rat.le_refl) h2

/-- nearest modes: the side taken is no further than the other, hence no further than anything outside the cell -/
theorem roundVal_nearest_outside (rm : RM) (hrm : rm = .rne ∨ rm = .rna) (u : Int) (q z : Rat)
    (hz : z ≤ gridLo u q ∨ gridHi u q ≤ z) : (roundVal rm u q - q).abs ≤ (z - q).abs := by
  obtain ⟨h1, h2, -⟩ := roundVal_neighbours rm u q
  rcases (roundVal_cell rm u q).2.2 hrm with ⟨e, h⟩ | ⟨e, h⟩ <;> rw [e]
  · rw [Rat.abs_sub_comm, Rat.abs_of_nonneg ((Rat.le_iff_sub_nonneg _ _).1 h1)]
    rcases hz with hz | hz
    · exact le_abs_of_le_neg (by grind)
    · exact le_abs_of_le (by grind)
  · rw [Rat.abs_of_nonneg ((Rat.le_iff_sub_nonneg _ _).1 h2)]
    rcases hz with hz | hz
    · exact le_abs_of_le_neg (by grind)
    · exact le_abs_of_le (by grind)

theorem roundVal_nearest_best (rm : RM) (hrm : rm = .rne ∨ rm = .rna) (u : Int) (q g : Rat) (hg : OnGrid u g) :
    (roundVal rm u q - q).abs ≤ (g - q).abs := by
  apply roundVal_nearest_outside rm hrm
  by_cases h : g ≤ q
  · exact Or.inl (grid_le_gridLo hg h)
  · exact Or.inr (gridHi_le_grid hg (Rat.le_of_lt (Rat.not_le.1 h)))

theorem roundVal_rtn (u : Int) (q : Rat) : roundVal .rtn u q = gridLo u q := by
  unfold roundVal roundInt gridLo; simp only [ite_self]

theorem roundVal_rtp (u : Int) (q : Rat) : roundVal .rtp u q = gridHi u q := by
  unfold roundVal roundInt gridHi
  simp only
  split
  · rename_i h; rw [h]
  · rfl

/-- RTZ and RAZ test the sign of the operand itself; which way that points in magnitude follows from `0` being a
grid point, so that it is not inside the cell -/
theorem roundVal_rtz_raz (u : Int) (q : Rat) :
    roundVal .rtz u q = (if 0 ≤ q then gridLo u q else gridHi u q) ∧
    roundVal .raz u q = (if 0 ≤ q then gridHi u q else gridLo u q) := by
  unfold roundVal roundInt gridLo gridHi
  simp only
  by_cases h : (q / (2 : Rat) ^ u).floor = (q / (2 : Rat) ^ u).ceil
  · simp only [h, ite_self, and_self]
  · by_cases h0 : 0 ≤ q <;> simp only [h, h0, if_false, if_true, and_self]

theorem roundVal_rtz (u : Int) (q : Rat) : (roundVal .rtz u q).abs ≤ q.abs := by
  obtain ⟨h1, h2, -⟩ := roundVal_neighbours .rtz u q
  rw [(roundVal_rtz_raz u q).1]
  by_cases h0 : 0 ≤ q
  · rw [if_pos h0, Rat.abs_of_nonneg (grid_le_gridLo (onGrid_zero u) h0), Rat.abs_of_nonneg h0]
    exact h1
  · have h0' := Rat.le_of_lt (Rat.not_le.1 h0)
    rw [if_neg h0, Rat.abs_of_nonpos (gridHi_le_grid (onGrid_zero u) h0'), Rat.abs_of_nonpos h0']
    exact Rat.neg_le_neg h2

theorem roundVal_raz (u : Int) (q : Rat) : q.abs ≤ (roundVal .raz u q).abs := by
  obtain ⟨h1, h2, -⟩ := roundVal_neighbours .raz u q
  rw [(roundVal_rtz_raz u q).2]
  by_cases h0 : 0 ≤ q
  · rw [if_pos h0, Rat.abs_of_nonneg h0, Rat.abs_of_nonneg (Rat.le_trans h0 h2)]
    exact h2
  · have h0' := Rat.le_of_lt (Rat.not_le.1 h0)
    rw [if_neg h0, Rat.abs_of_nonpos h0', Rat.abs_of_nonpos (Rat.le_trans h1 h0')]
    exact Rat.neg_le_neg h1

theorem onGrid_frac_iff (s : Bool) (N D : Nat) (hD : 0 < D) (u : Int) :
    OnGrid u (RF.sgn s * ((N : Rat) / (D : Rat)) * (2 : Rat) ^ u) ↔ N % D = 0 := by
  rw [← roundVal_eq_iff .rtz, roundVal_frac .rtz s N D hD u]
  have hq : roundDiv .rtz s N D = N / D := by unfold roundDiv; simp
  rw [hq]
  obtain ⟨f, hN, hf0, hf1, hfz, -⟩ := frac_split N D hD
  rw [hN, ← hfz]
  have hG := RF.two_zpow_pos u
  generalize (2 : Rat) ^ u = G at *
  generalize ((N / D : Nat) : Rat) = Q
  constructor
  · intro h
    have := mul_right_cancel_pos hG h
    cases s <;> simp [RF.sgn] at this <;> grind
  · intro h; rw [h, Rat.add_zero]

end Fpy.C01v
