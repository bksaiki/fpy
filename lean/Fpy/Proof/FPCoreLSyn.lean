/-
C12, the compiler model with loops — syntax: names and the sets `mutatedOf` / `passedL` / `gamma`, free variables of a
compiled expression (`fvF_toFsub_iff`, `fvF_toF`) and of the shapes the compiler emits, and the scoping rules `fvIn_*` of
these shapes (`FvIn G E`: the free variables of `E`, other than compiler temporaries, are among `G`).
-/
import Fpy.Proof.FPCoreBlock
import Fpy.Proof.FPCoreExpr
namespace Fpy.C12
open Fpy Fpy.Lang

theorem isTmp_of_isTmpL {x : String} (h : isTmpL x = false) : isTmp x = false := by
  unfold isTmpL tmpNames at h
  unfold isTmp tmpName
  simp only [List.contains_cons, List.contains_nil, Bool.or_false, Bool.or_eq_false_iff] at h
  simp [h.1, h.2.2.2.2]

theorem isTmpL_ne {x : String} (h : isTmpL x = false) :
    x ≠ "%t" ∧ x ≠ "%it" ∧ x ≠ "%k" ∧ x ≠ "%j" ∧ x ≠ "_" := by
  unfold isTmpL tmpNames at h
  simp only [List.contains_cons, List.contains_nil, Bool.or_false, Bool.or_eq_false_iff, beq_eq_false_iff_ne, ne_eq] at h
  exact ⟨h.1, h.2.1, h.2.2.1, h.2.2.2.1, h.2.2.2.2⟩

/-- `Agree` with `isTmpL` for `isTmp`: the loop-free compiler model reserves only `%t` and `_`, the one with loops also
`%it`, `%k`, `%j`. -/
def AgreeL (S : List String) (ρ σ : Env) : Prop := ∀ x, x ∈ S → isTmpL x = false → ρ.get? x = σ.get? x

theorem AgreeL.mono {S T : List String} {ρ σ : Env} (h : AgreeL T ρ σ) (hs : ∀ x, x ∈ S → x ∈ T) : AgreeL S ρ σ :=
  fun x hx ht => h x (hs x hx) ht

theorem agreeL_refl (S : List String) (σ : Env) : AgreeL S σ σ := fun _ _ _ => rfl

theorem subOK_var {ρ : Env} {P : Props} {σ : Env} {S : List String} (hA : AgreeL S ρ σ)
    (hT : ∀ x, x ∈ S → isTmpL x = false) : SubOK ρ P σ FExpr.var S :=
  fun x hx w hw => conv_var (by rw [hA x hx (hT x hx)]; exact hw)

theorem set_set_same (ρ : Env) (x : String) (v : Val) : (ρ.set x v).set x v = ρ.set x v := by
  unfold Env.set
  simp only [List.filter_cons, bne_self_eq_false, Bool.false_eq_true, if_false, List.filter_filter, Bool.and_self]

theorem mem_rmNames (xs l : List String) (y : String) : y ∈ rmNames xs l ↔ y ∈ l ∧ y ∉ xs := by
  unfold rmNames
  simp [List.mem_filter]

theorem mem_mutatedOf (G : List String) (ss : List LStmt) (y : String) :
    y ∈ mutatedOf G ss ↔ y ∈ LStmt.asgL ss ∧ y ∈ G := by
  unfold mutatedOf
  rw [mem_sortNames, List.mem_filter]
  simp

theorem mutatedOf_cons (x : String) (G : List String) (ss : List LStmt) (hx : x ∉ LStmt.asgL ss) :
    mutatedOf (x :: G) ss = mutatedOf G ss := by
  unfold mutatedOf
  congr 1
  apply List.filter_congr
  intro y hy
  have : y ≠ x := fun e => hx (e ▸ hy)
  simp [this]

theorem mem_passedL (G : List String) (body : List LStmt) (K : FExpr) (y : String) :
    y ∈ passedL G body K ↔ y ∈ LStmt.asgL body ∧ y ∈ LStmt.gammaL G body ∧ y ∈ occ K := by
  unfold passedL
  rw [mem_sortNames, List.mem_filter]
  simp

theorem asgL_append (a b : List LStmt) : LStmt.asgL (a ++ b) = LStmt.asgL a ++ LStmt.asgL b := by
  induction a with
  | nil => rfl
  | cons s ss ih => simp [LStmt.asgL, ih]

theorem isMany_cons2 (x y : String) (l : List String) : isMany (x :: y :: l) = true := by simp [isMany]
theorem isMany_nil : isMany [] = false := by simp [isMany]
theorem isMany_one (x : String) : isMany [x] = false := by simp [isMany]

theorem mem_gamma_ifte {c : LExpr} {t f : List LStmt} {G : List String} {y : String} :
    y ∈ (LStmt.ifte c t f).gamma G ↔ y ∈ LStmt.gammaL G t ∧ y ∈ LStmt.gammaL G f := by
  simp [LStmt.gamma, List.mem_filter]

mutual
theorem gamma_mono : ∀ (s : LStmt) (G : List String) (y : String), y ∈ G → y ∈ s.gamma G
  | .assign x e, G, y, h => by simp [LStmt.gamma, h]
  | .tassign xs e, G, y, h => by simp [LStmt.gamma, h]
  | .with_ d body, G, y, h => by simp only [LStmt.gamma]; exact gammaL_mono body G y h
  | .ifte c t f, G, y, h => mem_gamma_ifte.2 ⟨gammaL_mono t G y h, gammaL_mono f G y h⟩
  | .if1 c t, G, y, h => h
  | .while_ c b, G, y, h => h
  | .forRange x n b, G, y, h => h
  | .ret e, G, y, h => h
theorem gammaL_mono : ∀ (ss : List LStmt) (G : List String) (y : String), y ∈ G → y ∈ LStmt.gammaL G ss
  | [], G, y, h => h
  | s :: ss, G, y, h => by
    simp only [LStmt.gammaL]
    exact gammaL_mono ss (s.gamma G) y (gamma_mono s G y h)
end

mutual
theorem gamma_sub : ∀ (s : LStmt) (G : List String) (y : String), y ∈ s.gamma G → y ∈ G ∨ y ∈ s.asg
  | .assign x e, G, y, h => by
    simp only [LStmt.gamma, List.mem_cons] at h
    rcases h with h | h
    · exact Or.inr (by simp [LStmt.asg, h])
    · exact Or.inl h
  | .tassign xs e, G, y, h => by
    simp only [LStmt.gamma, List.mem_append] at h
    rcases h with h | h
    · exact Or.inr (by simpa [LStmt.asg] using h)
    · exact Or.inl h
  | .with_ d body, G, y, h => by
    simp only [LStmt.gamma] at h
    simpa [LStmt.asg] using gammaL_sub body G y h
  | .ifte c t f, G, y, h => by
    rcases gammaL_sub t G y (mem_gamma_ifte.1 h).1 with h' | h'
    · exact Or.inl h'
    · exact Or.inr (by simp [LStmt.asg, h'])
  | .if1 c t, G, y, h => Or.inl h
  | .while_ c b, G, y, h => Or.inl h
  | .forRange x n b, G, y, h => Or.inl h
  | .ret e, G, y, h => Or.inl h
theorem gammaL_sub : ∀ (ss : List LStmt) (G : List String) (y : String), y ∈ LStmt.gammaL G ss → y ∈ G ∨ y ∈ LStmt.asgL ss
  | [], G, y, h => Or.inl h
  | s :: ss, G, y, h => by
    simp only [LStmt.gammaL] at h
    rcases gammaL_sub ss (s.gamma G) y h with h' | h'
    · rcases gamma_sub s G y h' with h'' | h''
      · exact Or.inl h''
      · exact Or.inr (by simp [LStmt.asgL, h''])
    · exact Or.inr (by simp [LStmt.asgL, h'])
end

theorem mem_append_mono {a a' b b' : List String} (ha : ∀ y, y ∈ a → y ∈ a') (hb : ∀ y, y ∈ b → y ∈ b') :
    ∀ y, y ∈ a ++ b → y ∈ a' ++ b' := fun y h =>
  (List.mem_append.1 h).elim (fun h => List.mem_append.2 (Or.inl (ha y h))) (fun h => List.mem_append.2 (Or.inr (hb y h)))

theorem mem_rmNames_mono {xs l l' : List String} (h : ∀ y, y ∈ l → y ∈ l') : ∀ y, y ∈ rmNames xs l → y ∈ l' :=
  fun y hy => h y ((mem_rmNames xs l y).1 hy).1

mutual
theorem fvF_sub_occ : ∀ (e : FExpr) (y : String), y ∈ fvF e → y ∈ occ e
  | .var _ => fun _ h => h
  | .num _ => fun _ h => h
  | .const _ => fun _ h => h
  | .op _ args => fvL_sub_occ args
  | .pred _ a => fvF_sub_occ a
  | .cmp _ args => fvL_sub_occ args
  | .and es => fvL_sub_occ es
  | .or es => fvL_sub_occ es
  | .not e => fvF_sub_occ e
  | .ite c t f => mem_append_mono (mem_append_mono (fvF_sub_occ c) (fvF_sub_occ t)) (fvF_sub_occ f)
  | .let_ false binds body => mem_append_mono (fvB_sub_occ binds) (mem_rmNames_mono (fvF_sub_occ body))
  | .let_ true binds body => fun y h =>
    List.mem_append.2 ((fvStar_sub binds (fvF body) y h).imp_right (fvF_sub_occ body y))
  | .while_ _ c binds body => fun y h => by
    simp only [fvF, occ, List.mem_append, mem_rmNames] at *
    rcases h with h | ⟨(h | h) | h, _⟩
    · exact Or.inl (Or.inr (fvInit_sub binds y h))
    · exact Or.inl (Or.inl (fvF_sub_occ c y h))
    · exact Or.inl (Or.inr (fvUpd_sub binds y h))
    · exact Or.inr (fvF_sub_occ body y h)
  | .for_ _ dims binds body => fun y h => by
    simp only [fvF, occ, List.mem_append, mem_rmNames] at *
    rcases h with (h | h) | ⟨h | h, _⟩
    · exact Or.inl (Or.inl (fvB_sub_occ dims y h))
    · exact Or.inl (Or.inr (fvInit_sub binds y h))
    · exact Or.inl (Or.inr (fvUpd_sub binds y h))
    · exact Or.inr (fvF_sub_occ body y h)
  | .tensor dims body => mem_append_mono (fvB_sub_occ dims) (mem_rmNames_mono (fvF_sub_occ body))
  | .array es => fvL_sub_occ es
  | .ref a idx => mem_append_mono (fvF_sub_occ a) (fvL_sub_occ idx)
  | .size a k => mem_append_mono (fvF_sub_occ a) (fvF_sub_occ k)
  | .dim a => fvF_sub_occ a
  | .ann _ e => fvF_sub_occ e
theorem fvL_sub_occ : ∀ (es : List FExpr) (y : String), y ∈ fvL es → y ∈ occL es
  | [] => fun _ h => h
  | e :: es => mem_append_mono (fvF_sub_occ e) (fvL_sub_occ es)
theorem fvB_sub_occ : ∀ (bs : List (String × FExpr)) (y : String), y ∈ fvB bs → y ∈ occB bs
  | [] => fun _ h => h
  | (_, e) :: rest => mem_append_mono (fvF_sub_occ e) (fvB_sub_occ rest)
theorem fvStar_sub : ∀ (bs : List (String × FExpr)) (acc : List String) (y : String),
    y ∈ fvStar bs acc → y ∈ occB bs ∨ y ∈ acc
  | [], acc => fun _ h => Or.inr h
  | (x, e) :: rest, acc => fun y h => by
    simp only [fvStar, occB, List.mem_append, mem_rmNames] at *
    rcases h with h | h
    · exact Or.inl (Or.inl (fvF_sub_occ e y h))
    · exact (fvStar_sub rest acc y h.1).imp_left Or.inr
theorem fvInit_sub : ∀ (bs : List (String × FExpr × FExpr)) (y : String), y ∈ fvInit bs → y ∈ occT bs
  | [] => fun _ h => h
  | (_, i, _) :: rest => fun y h =>
    (List.mem_append.1 h).elim (fun h => List.mem_append.2 (Or.inl (List.mem_append.2 (Or.inl (fvF_sub_occ i y h)))))
      (fun h => List.mem_append.2 (Or.inr (fvInit_sub rest y h)))
theorem fvUpd_sub : ∀ (bs : List (String × FExpr × FExpr)) (y : String), y ∈ fvUpd bs → y ∈ occT bs
  | [] => fun _ h => h
  | (_, _, u) :: rest => fun y h =>
    (List.mem_append.1 h).elim (fun h => List.mem_append.2 (Or.inl (List.mem_append.2 (Or.inr (fvF_sub_occ u y h)))))
      (fun h => List.mem_append.2 (Or.inr (fvUpd_sub rest y h)))
end

mutual
theorem fvF_toFsub_iff (sub : String → FExpr) : ∀ (e : LExpr) (y : String),
    y ∈ fvF (e.toFsub sub) ↔ ∃ x, x ∈ e.vars ∧ y ∈ fvF (sub x)
  | .var x, y => by simp [LExpr.toFsub, LExpr.vars]
  | .lit _, y => by simp [LExpr.toFsub, LExpr.vars, fvF]
  | .op _ args, y => by
    simp only [LExpr.toFsub, fvF, LExpr.vars]
    exact fvL_toFsubs_iff sub args y
  | .tuple es, y => by
    simp only [LExpr.toFsub, fvF, LExpr.vars]
    exact fvL_toFsubs_iff sub es y
  | .cmp _ a b, y => by
    simp only [LExpr.toFsub, fvF, fvL, LExpr.vars, List.mem_append, List.not_mem_nil, or_false,
      fvF_toFsub_iff sub a y, fvF_toFsub_iff sub b y, or_and_right, exists_or]
theorem fvL_toFsubs_iff (sub : String → FExpr) : ∀ (es : List LExpr) (y : String),
    y ∈ fvL (LExpr.toFsubs sub es) ↔ ∃ x, x ∈ LExpr.varsL es ∧ y ∈ fvF (sub x)
  | [], y => by simp [LExpr.toFsubs, fvL, LExpr.varsL]
  | e :: es, y => by
    simp only [LExpr.toFsubs, fvL, LExpr.varsL, List.mem_append, fvF_toFsub_iff sub e y, fvL_toFsubs_iff sub es y,
      or_and_right, exists_or]
end

theorem fvL_toFsubs (sub : String → FExpr) : ∀ (es : List LExpr) (y : String), y ∈ fvL (LExpr.toFsubs sub es) →
    ∃ x, x ∈ LExpr.varsL es ∧ y ∈ fvF (sub x) :=
  fun es y => (fvL_toFsubs_iff sub es y).1

theorem fvL_toFsubs_rev (sub : String → FExpr) : ∀ (es : List LExpr) (x : String), x ∈ LExpr.varsL es → ∀ y, y ∈ fvF (sub x) →
    y ∈ fvL (LExpr.toFsubs sub es) :=
  fun es x hx y hy => (fvL_toFsubs_iff sub es y).2 ⟨x, hx, hy⟩

theorem fv_var (x y : String) : y ∈ fvF (.var x) ↔ y = x := List.mem_singleton

theorem vars_sub_fvF (e : LExpr) (y : String) (h : y ∈ e.vars) : y ∈ fvF e.toF :=
  (fvF_toFsub_iff FExpr.var e y).2 ⟨y, h, (fv_var y y).2 rfl⟩

theorem fvF_toF (e : LExpr) (y : String) (h : y ∈ fvF e.toF) : y ∈ e.vars := by
  obtain ⟨x, hx, hy⟩ := (fvF_toFsub_iff FExpr.var e y).1 h
  cases (fv_var x y).1 hy
  exact hx

theorem fvL_vars (xs : List String) (y : String) : y ∈ fvL (xs.map FExpr.var) ↔ y ∈ xs := by
  induction xs with
  | nil => simp [fvL]
  | cons x xs ih => simp [fvL, fvF, ih]

theorem fv_bind1 (x : String) (e K : FExpr) (y : String) :
    y ∈ fvF (bind1 x e K) ↔ y ∈ fvF e ∨ (y ∈ fvF K ∧ y ≠ x) := by
  simp [bind1, fvF, fvB, mem_rmNames]

theorem fv_pack (xs : List String) (K : FExpr) (y : String) :
    y ∈ fvF (pack xs K) ↔ y ∈ xs ∨ (y ∈ fvF K ∧ y ≠ "%t") := by
  simp [pack, fvF, fvB, mem_rmNames, fvL_vars]

theorem fv_repack (xs : List String) (y : String) (hy : isTmpL y = false) : y ∈ fvF (repack xs) ↔ y ∈ xs := by
  have := (isTmpL_ne hy).1
  simp [repack, fv_pack, fvF, this]

theorem fvStar_refBinds (t : String) (acc : List String) (y : String) : ∀ (xs : List String) (i : Nat),
    y ∈ fvStar (refBinds t xs i) acc ↔ (y = t ∧ xs ≠ []) ∨ (y ∈ acc ∧ y ∉ xs) := by
  intro xs
  induction xs with
  | nil => intro i; simp [refBinds, fvStar]
  | cons x xs ih =>
    intro i
    simp only [refBinds, fvStar, fvF, fvL, List.mem_append, mem_rmNames, List.mem_cons, List.not_mem_nil, or_false, ih (i + 1)]
    constructor
    · rintro (h | ⟨(⟨h1, h2⟩ | ⟨h1, h2⟩), h3⟩)
      · exact Or.inl ⟨h, by simp⟩
      · exact Or.inl ⟨h1, by simp⟩
      · exact Or.inr ⟨h1, by intro h; rcases h with h | h; exact h3 h; exact h2 h⟩
    · rintro (⟨h, _⟩ | ⟨h1, h2⟩)
      · exact Or.inl h
      · exact Or.inr ⟨Or.inr ⟨h1, fun h => h2 (Or.inr h)⟩, fun h => h2 (Or.inl h)⟩

theorem fv_unpack (xs : List String) (e K : FExpr) (y : String) (hy : isTmpL y = false) :
    y ∈ fvF (unpack xs e K) ↔ y ∈ fvF e ∨ (y ∈ fvF K ∧ y ∉ xs) := by
  have hne := (isTmpL_ne hy).1
  simp only [unpack, fvF, fvStar, List.mem_append, mem_rmNames, List.mem_cons, List.not_mem_nil, or_false, fvStar_refBinds]
  constructor
  · rintro (h | ⟨(⟨h, _⟩ | h), _⟩)
    · exact Or.inl h
    · exact absurd h hne
    · exact Or.inr h
  · rintro (h | h)
    · exact Or.inl h
    · exact Or.inr ⟨Or.inr h, hne⟩

theorem fv_ite (c t f : FExpr) (y : String) : y ∈ fvF (.ite c t f) ↔ y ∈ fvF c ∨ y ∈ fvF t ∨ y ∈ fvF f := by
  simp only [fvF, List.mem_append, or_assoc]

theorem fv_whileE (c : FExpr) (m : String) (init U K : FExpr) (y : String) :
    y ∈ fvF (whileE c m init U K) ↔ y ∈ fvF init ∨ ((y ∈ fvF c ∨ y ∈ fvF U ∨ y ∈ fvF K) ∧ y ≠ m) := by
  simp [whileE, fvF, fvInit, fvUpd, mem_rmNames]

theorem fv_forE (x : String) (n : Nat) (m : String) (init B K : FExpr) (y : String) (hy : isTmpL y = false) :
    y ∈ fvF (forE x n m init B K) ↔ y ∈ fvF init ∨ (((y ∈ fvF B ∧ y ≠ x) ∨ y ∈ fvF K) ∧ y ≠ m) := by
  obtain ⟨h1, h2, h3, h4, h5⟩ := isTmpL_ne hy
  simp [forE, rangeE, fv_bind1, fvF, fvB, fvL, fvInit, fvUpd, mem_rmNames, h2, h3, h4]

theorem fv_retOf (D : List String) (y : String) : y ∈ fvF (retOf D) ↔ y ∈ D := by
  match D with
  | [] => simp [retOf, fvF]
  | [x] => simp [retOf, fvF]
  | x :: x2 :: rest => simp only [retOf, fvF]; exact fvL_vars _ y

theorem fv_bundle (D : List String) (inner K : FExpr) (y : String) (hy : isTmpL y = false) :
    y ∈ fvF (bundle D inner K) ↔ y ∈ fvF inner ∨ (y ∈ fvF K ∧ y ∉ D) := by
  obtain ⟨h1, _, _, _, h5⟩ := isTmpL_ne hy
  match D with
  | [] => simp [bundle, fvF, fvB, mem_rmNames, h5]
  | [x] => simp [bundle, fvF, fvB, mem_rmNames]
  | x :: x2 :: rest =>
    have := fv_unpack (x :: x2 :: rest) inner K y hy
    simpa [bundle, unpack, tmpName] using this

theorem fv_subIdx (M : List String) (x y : String) (h : y ∈ fvF (subIdx M x)) : y = "%t" ∨ y = x := by
  unfold subIdx at h
  cases hi : indexIn M x 0 with
  | none => rw [hi] at h; exact Or.inr ((fv_var x y).1 h)
  | some i => rw [hi] at h; simp [fvF, fvL] at h; exact Or.inl h

theorem fv_cond_sub (M : List String) (c : LExpr) (y : String) (h : y ∈ fvF (c.toFsub (subIdx M)))
    (hy : isTmpL y = false) : y ∈ c.vars := by
  obtain ⟨x, hx, hyx⟩ := (fvF_toFsub_iff (subIdx M) c y).1 h
  rcases fv_subIdx M x y hyx with h' | h'
  · exact absurd h' (isTmpL_ne hy).1
  · subst h'; exact hx

def FvIn (G : List String) (E : FExpr) : Prop := ∀ y, y ∈ fvF E → isTmpL y = false → y ∈ G

theorem forall_some {p : FExpr → Prop} {k0 : FExpr} (h : p k0) : ∀ k, some k0 = some k → p k :=
  fun _ e => Option.some.inj e ▸ h

theorem fvIn_toF {G : List String} {e : LExpr} (h : ∀ y, y ∈ e.vars → y ∈ G) : FvIn G e.toF :=
  fun y hy _ => h y (fvF_toF e y hy)

theorem fvIn_retOf {G D : List String} (h : ∀ y, y ∈ D → y ∈ G) : FvIn G (retOf D) :=
  fun y hy _ => h y ((fv_retOf D y).1 hy)

theorem fvIn_repack {G M : List String} (h : ∀ y, y ∈ M → y ∈ G) : FvIn G (repack M) :=
  fun y hy ht => h y ((fv_repack M y ht).1 hy)

theorem fvIn_num (G : List String) (v : NV) : FvIn G (.num v) := fun y hy _ => by simp [fvF] at hy

theorem fvIn_var {G : List String} {x : String} (h : x ∈ G) : FvIn G (.var x) :=
  fun y hy _ => (fv_var x y).1 hy ▸ h

theorem fvIn_unpackK {G M : List String} {K : FExpr} (hK : FvIn G K) : FvIn G (unpack M (.var "%t") K) := by
  intro y hy ht
  rcases (fv_unpack M (.var "%t") K y ht).1 hy with h | h
  · exact absurd ((fv_var _ y).1 h) (isTmpL_ne ht).1
  · exact hK y h.1 ht

theorem fvIn_bind1 {G : List String} {x : String} {e K : FExpr} (he : FvIn G e)
    (hK : ∀ y, y ∈ fvF K → isTmpL y = false → y ≠ x → y ∈ G) : FvIn G (bind1 x e K) := by
  intro y hy ht
  rcases (fv_bind1 x e K y).1 hy with h | h
  · exact he y h ht
  · exact hK y h.1 ht h.2

theorem fvIn_ite {G : List String} {c t f : FExpr} (hc : FvIn G c) (h1 : FvIn G t) (h2 : FvIn G f) : FvIn G (.ite c t f) := by
  intro y hy ht
  rcases (fv_ite c t f y).1 hy with h | h | h
  · exact hc y h ht
  · exact h1 y h ht
  · exact h2 y h ht

theorem fvIn_whileE {G : List String} {c init U K : FExpr} {m : String} (hc : FvIn G c) (hi : FvIn G init)
    (hU : FvIn G U) (hK : FvIn G K) : FvIn G (whileE c m init U K) := by
  intro y hy ht
  rcases (fv_whileE c m init U K y).1 hy with h | h
  · exact hi y h ht
  · rcases h.1 with h' | h' | h'
    · exact hc y h' ht
    · exact hU y h' ht
    · exact hK y h' ht

theorem fvIn_forE {G : List String} {x m : String} {n : Nat} {init B K : FExpr} (hi : FvIn G init)
    (hB : FvIn (x :: G) B) (hK : FvIn G K) : FvIn G (forE x n m init B K) := by
  intro y hy ht
  rcases (fv_forE x n m init B K y ht).1 hy with h | h
  · exact hi y h ht
  · rcases h.1 with h' | h'
    · rcases List.mem_cons.1 (hB y h'.1 ht) with e | e
      · exact absurd e h'.2
      · exact e
    · exact hK y h' ht

theorem fvIn_carryRet {G M : List String} (h : ∀ y, y ∈ M → y ∈ G) : FvIn G (carryRet M) := by
  match M with
  | [] => exact fvIn_num _ _
  | [x] => exact fvIn_var (h x (by simp))
  | x :: x2 :: rest => exact fvIn_repack h

theorem fvIn_carryInit {G M : List String} (h : ∀ y, y ∈ M → y ∈ G) : FvIn G (carryInit M) := by
  match M with
  | [] => exact fvIn_num _ _
  | [x] => exact fvIn_var (h x (by simp))
  | x :: x2 :: rest =>
    intro y hy ht
    exact absurd ((fv_var _ y).1 hy) (isTmpL_ne ht).1

theorem fvIn_carryIn {G : List String} (M : List String) {B : FExpr} (h : FvIn G B) : FvIn G (carryIn M B) := by
  unfold carryIn
  split
  · exact fvIn_unpackK h
  · exact h

theorem fvIn_carryOut {G M : List String} {E : FExpr} (hM : ∀ y, y ∈ M → y ∈ G) (h : FvIn G E) : FvIn G (carryOut M E) := by
  unfold carryOut
  split
  · intro y hy ht
    rcases (fv_pack M E y).1 hy with h' | h'
    · exact hM y h'
    · exact h y h'.1 ht
  · exact h

theorem fvIn_carryCond {G : List String} (M : List String) {c : LExpr} (h : ∀ y, y ∈ c.vars → y ∈ G) : FvIn G (carryCond M c) := by
  unfold carryCond
  split
  · exact fun y hy ht => h y (fv_cond_sub M c y hy ht)
  · exact fvIn_toF h

theorem fvIn_ifPre {G muts : List String} {B : FExpr} (hM : ∀ y, y ∈ muts → y ∈ G) (h : FvIn G B) : FvIn G (ifPre muts B) := by
  match muts with
  | [] => exact h
  | [m] => exact fvIn_bind1 (fvIn_var (hM m (by simp))) (fun y hy ht _ => h y hy ht)
  | m :: m2 :: rest => exact fvIn_unpackK h

theorem fvIn_ifEnd {G ch : List String} (h : ∀ y, y ∈ ch → y ∈ G) : FvIn G (ifEnd ch) := by
  match ch with
  | [] => exact fvIn_num _ _
  | [x] => exact fvIn_bind1 (fvIn_var (h x (by simp))) (fun y hy ht _ => fvIn_var (h x (by simp)) y hy ht)
  | x :: x2 :: rest => exact fvIn_repack h

/-- the result of an `if/else` is received as the carried variables of a loop are: bound to the carrier, then unpacked -/
theorem ifAfter_eq (ch : List String) (ifE K : FExpr) : ifAfter ch ifE K = bind1 (carrier ch) ifE (carryIn ch K) := by
  rcases ch with _ | ⟨x, _ | ⟨x2, rest⟩⟩ <;> rfl

theorem fv_ifAfter (ch : List String) (ifE K : FExpr) (y : String) (hy : isTmpL y = false) :
    y ∈ fvF (ifAfter ch ifE K) ↔ y ∈ fvF ifE ∨ (y ∈ fvF K ∧ y ∉ ch) := by
  match ch with
  | [] => exact fv_bundle [] ifE K y hy
  | [x] => exact fv_bundle [x] ifE K y hy
  | x :: x2 :: rest =>
    have h1 := (isTmpL_ne hy).1
    simp [ifAfter, fv_bind1, fv_unpack _ _ _ y hy, fvF, h1]

theorem fvIn_ifAfter {G ch : List String} {ifE K : FExpr} (hE : FvIn G ifE)
    (hK : ∀ y, y ∈ fvF K → isTmpL y = false → y ∉ ch → y ∈ G) : FvIn G (ifAfter ch ifE K) :=
  fun y hy ht => ((fv_ifAfter ch ifE K y ht).1 hy).elim (hE y · ht) (fun h => hK y h.1 ht h.2)

theorem mem_mutsIf (G : List String) (t f : List LStmt) (y : String) :
    y ∈ mutsIf G t f ↔ (y ∈ LStmt.asgL t ∨ y ∈ LStmt.asgL f) ∧ y ∈ G := by
  unfold mutsIf
  rw [mem_mutatedOf, asgL_append, List.mem_append]

theorem mem_introsIf (G : List String) (t f : List LStmt) (y : String) :
    y ∈ introsIf G t f ↔ y ∈ LStmt.gammaL G t ∧ y ∈ LStmt.gammaL G f ∧ y ∉ G := by
  unfold introsIf
  rw [mem_sortNames]
  simp only [List.mem_filter, List.contains_iff_mem, Bool.not_eq_true']
  constructor
  · rintro ⟨⟨h1, h2⟩, h3⟩
    exact ⟨h1, by simpa using h2, by simpa using h3⟩
  · rintro ⟨h1, h2, h3⟩
    exact ⟨⟨h1, by simpa using h2⟩, by simpa using h3⟩

theorem mutsIf_sub (G : List String) (t f : List LStmt) (y : String) (hy : y ∈ mutsIf G t f) : y ∈ G :=
  ((mem_mutsIf G t f y).1 hy).2

theorem changedIf_sub (G : List String) (t f : List LStmt) (y : String) (hy : y ∈ mutsIf G t f ++ introsIf G t f) :
    y ∈ LStmt.gammaL G t ∧ y ∈ LStmt.gammaL G f := by
  rcases List.mem_append.1 hy with h | h
  · exact ⟨gammaL_mono t G y (mutsIf_sub G t f y h), gammaL_mono f G y (mutsIf_sub G t f y h)⟩
  · exact ⟨((mem_introsIf G t f y).1 h).1, ((mem_introsIf G t f y).1 h).2.1⟩

theorem gamma_ifte_out {c : LExpr} {G : List String} {t f : List LStmt} {y : String}
    (hg : y ∈ (LStmt.ifte c t f).gamma G) (hn : y ∉ mutsIf G t f ++ introsIf G t f) : y ∈ G := by
  have hg := mem_gamma_ifte.1 hg
  by_cases hG : y ∈ G
  · exact hG
  · exact absurd (List.mem_append.2 (Or.inr ((mem_introsIf G t f y).2 ⟨hg.1, hg.2, hG⟩))) hn

theorem compileLB_cons_inv {cfg : Cfg} {G : List String} {s : LStmt} {ss : List LStmt} {K : Option FExpr} {E : FExpr}
    (hc : compileLB cfg G (s :: ss) K = some E) :
    (ss = [] ∧ K = none ∧ compileLS cfg G s none = some E) ∨
    ∃ K', compileLB cfg (s.gamma G) ss K = some K' ∧ compileLS cfg G s (some K') = some E := by
  unfold compileLB at hc
  split at hc
  · exact Or.inl ⟨rfl, rfl, hc⟩
  · split at hc
    · cases hc
    · next K' hK' => exact Or.inr ⟨K', hK', hc⟩

/-- (that `needsCast` is false is not kept: the refusal is the compiler's policy, `unsafe_int_cast`, and soundness does not rest on it) -/
theorem compileLS_ifte_inv {cfg : Cfg} {G : List String} {c : LExpr} {t f : List LStmt} {K : Option FExpr} {E : FExpr}
    (hc : compileLS cfg G (.ifte c t f) K = some E) :
    ∃ k T F, K = some k ∧ compileLB cfg G t (some (ifEnd (mutsIf G t f ++ introsIf G t f))) = some T ∧
      compileLB cfg G f (some (ifEnd (mutsIf G t f ++ introsIf G t f))) = some F ∧
      E = carryOut (mutsIf G t f) (ifAfter (mutsIf G t f ++ introsIf G t f)
        (.ite (carryCond (mutsIf G t f) c) (ifPre (mutsIf G t f) T) (ifPre (mutsIf G t f) F)) k) := by
  cases K with
  | none => cases hc
  | some k =>
    simp only [compileLS] at hc
    split at hc
    · cases hc
    · split at hc
      · next T F hT hF => cases hc; exact ⟨k, T, F, rfl, hT, hF, rfl⟩
      · cases hc

section
variable (cfg : Cfg) (hord : OrdOK cfg)
include hord

theorem mem_ord_mut {k : Nat} {G : List String} {ss : List LStmt} {y : String} (h : y ∈ cfg.ord k (mutatedOf G ss)) :
    y ∈ LStmt.asgL ss ∧ y ∈ G := (mem_mutatedOf G ss y).1 (((hord _ _).1 y).1 h)

end

end Fpy.C12
