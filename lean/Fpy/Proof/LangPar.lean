/-
Heap-location parametricity.  `π : Nat → Nat` renames heap references of the left run to those of the right run;
`VR π D d v w`: references of `v` are below `d`, not in the garbage set `D`, and `w` is `v` with its references renamed;
`HR π D μ₁ μ₂`: related cells at related references, the right heap may have extra cells; `Ext μ μ'`: the heap only
grew and every old cell kept its length.  The heap primitives (`heapGet`, `alloc`, `heapSet`) map related inputs to
related outputs, and that makes the relations an instance `parLR` of the interface `LR`: a world is a pair of related
heaps, a later world a pair they grew into (`ExtP`), a reference `r` is related to `π r`.  The theorem `parAt` is the
fundamental theorem (LangLR) at `parLR`.

`D` is `[]` wherever the relations are used (`WFH`, `WFE`, `Jinv.init`), and nothing calls the one lemma that makes it
grow, `HR.alloc_left`: it is there for a rewrite whose ORIGINAL allocates a cell the output does not (the list of
`zip`/`enumerate` when the output indexes the operands directly; open, see Props/C08.lean).
-/
import Fpy.Proof.LangLR
namespace Fpy.Xform
open Fpy Fpy.Lang

abbrev RMap := Nat → Nat

mutual
def VR (π : RMap) (D : List Nat) (d : Nat) : Val → Val → Prop
  | .bool a, w => w = .bool a
  | .num a, w => w = .num a
  | .ctx c, w => w = .ctx c
  | .tuple vs, w => match w with | .tuple ws => VRs π D d vs ws | _ => False
  | .list r, w => r < d ∧ r ∉ D ∧ w = .list (π r)
def VRs (π : RMap) (D : List Nat) (d : Nat) : List Val → List Val → Prop
  | [], ws => ws = []
  | v :: vs, ws => match ws with | w :: ws' => VR π D d v w ∧ VRs π D d vs ws' | [] => False
end

theorem VRs.nil (π : RMap) (D : List Nat) (d : Nat) : VRs π D d [] [] := by simp only [VRs]
theorem VRs.cons {π : RMap} {D : List Nat} {d : Nat} {v w : Val} {vs ws : List Val} (h : VR π D d v w) (hs : VRs π D d vs ws) :
    VRs π D d (v :: vs) (w :: ws) := by simp only [VRs]; exact ⟨h, hs⟩

theorem VRs.inv_nil {π : RMap} {D : List Nat} {d : Nat} {ws : List Val} (h : VRs π D d [] ws) : ws = [] := by
  simpa only [VRs] using h
theorem VRs.inv_cons {π : RMap} {D : List Nat} {d : Nat} {v : Val} {vs ws : List Val} (h : VRs π D d (v :: vs) ws) :
    ∃ w ws', ws = w :: ws' ∧ VR π D d v w ∧ VRs π D d vs ws' := by
  cases ws with
  | nil => simp only [VRs] at h
  | cons w ws' => simp only [VRs] at h; exact ⟨w, ws', rfl, h.1, h.2⟩

theorem VR.inv {π : RMap} {D : List Nat} {d : Nat} {v w : Val} (h : VR π D d v w) :
    (flatV v = true ∧ w = v) ∨ (∃ vs ws, v = .tuple vs ∧ w = .tuple ws ∧ VRs π D d vs ws) ∨
      (∃ r, v = .list r ∧ w = .list (π r) ∧ r < d ∧ r ∉ D) := by
  cases v <;> simp only [VR] at h
  · exact .inl ⟨rfl, h⟩
  · exact .inl ⟨rfl, h⟩
  · exact .inl ⟨rfl, h⟩
  · cases w <;> first | exact absurd h id | exact .inr (.inl ⟨_, _, rfl, rfl, h⟩)
  · exact .inr (.inr ⟨_, rfl, h.2.2, h.1, h.2.1⟩)

theorem VR.eq_of_flat {π : RMap} {D : List Nat} {d : Nat} {v w : Val} (h : VR π D d v w)
    (hf : flatV v = true ∨ flatV w = true) : w = v := by
  rcases VR.inv h with ⟨_, rfl⟩ | ⟨vs, ws, rfl, rfl, _⟩ | ⟨r, rfl, rfl, _, _⟩
  · rfl
  · simp [flatV] at hf
  · simp [flatV] at hf

mutual
theorem VR.transfer {π π' : RMap} {D D' : List Nat} {d d' : Nat} (hd : d ≤ d') (hπ : ∀ r, r < d → π r = π' r)
    (hD : ∀ r, r < d → r ∉ D → r ∉ D') :
    ∀ (v w : Val), VR π D d v w → VR π' D' d' v w
  | .bool _, _, h => by simp only [VR] at h ⊢; exact h
  | .num _, _, h => by simp only [VR] at h ⊢; exact h
  | .ctx _, _, h => by simp only [VR] at h ⊢; exact h
  | .tuple vs, w, h => by
    cases w <;> simp only [VR] at h ⊢
    exact VRs.transfer hd hπ hD vs _ h
  | .list r, w, h => by
    simp only [VR] at h ⊢
    exact ⟨Nat.lt_of_lt_of_le h.1 hd, hD r h.1 h.2.1, by rw [← hπ r h.1]; exact h.2.2⟩
theorem VRs.transfer {π π' : RMap} {D D' : List Nat} {d d' : Nat} (hd : d ≤ d') (hπ : ∀ r, r < d → π r = π' r)
    (hD : ∀ r, r < d → r ∉ D → r ∉ D') :
    ∀ (vs ws : List Val), VRs π D d vs ws → VRs π' D' d' vs ws
  | [], ws, h => by simp only [VRs] at h ⊢; exact h
  | v :: vs, ws, h => by
    cases ws with
    | nil => simp only [VRs] at h
    | cons w ws' =>
      simp only [VRs] at h ⊢
      exact ⟨VR.transfer hd hπ hD v w h.1, VRs.transfer hd hπ hD vs ws' h.2⟩
end

theorem VR.mono {π : RMap} {D : List Nat} {d d' : Nat} (hd : d ≤ d') {v w : Val} (h : VR π D d v w) : VR π D d' v w :=
  VR.transfer hd (fun _ _ => rfl) (fun _ _ h => h) v w h
theorem VRs.mono {π : RMap} {D : List Nat} {d d' : Nat} (hd : d ≤ d') {vs ws : List Val} (h : VRs π D d vs ws) : VRs π D d' vs ws :=
  VRs.transfer hd (fun _ _ => rfl) (fun _ _ h => h) vs ws h

theorem VRs.length_eq {π : RMap} {D : List Nat} {d : Nat} : ∀ {vs ws : List Val}, VRs π D d vs ws → vs.length = ws.length
  | [], ws, h => by rw [VRs.inv_nil h]
  | v :: vs, ws, h => by
    obtain ⟨w, ws', rfl, _, h2⟩ := VRs.inv_cons h
    simp only [List.length_cons, VRs.length_eq h2]

theorem VRs.get {π : RMap} {D : List Nat} {d : Nat} : ∀ {vs ws : List Val}, VRs π D d vs ws → ∀ (k : Nat), ORel (VR π D d) vs[k]? ws[k]?
  | [], ws, h, k => by rw [VRs.inv_nil h]; exact trivial
  | v :: vs, ws, h, k => by
    obtain ⟨w, ws', rfl, h1, h2⟩ := VRs.inv_cons h
    cases k with
    | zero => exact h1
    | succ k => rw [List.getElem?_cons_succ, List.getElem?_cons_succ]; exact VRs.get h2 k

theorem VR.flat_self {π : RMap} {D : List Nat} {d : Nat} {v : Val} (h : flatV v = true) : VR π D d v v := by
  cases v <;> simp only [flatV, Bool.false_eq_true] at h <;> simp only [VR]

theorem VR.num_inv {π : RMap} {D : List Nat} {d : Nat} {a : NV} {w : Val} (h : VR π D d (.num a) w) : w = .num a := by
  simpa only [VR] using h

theorem VR.num' (π : RMap) (D : List Nat) (d : Nat) (a : NV) : VR π D d (.num a) (.num a) := by simp only [VR]
theorem VR.bool' (π : RMap) (D : List Nat) (d : Nat) (a : Bool) : VR π D d (.bool a) (.bool a) := by simp only [VR]
theorem VR.ctx' (π : RMap) (D : List Nat) (d : Nat) (a : Ctx) : VR π D d (.ctx a) (.ctx a) := by simp only [VR]
theorem VR.tuple' {π : RMap} {D : List Nat} {d : Nat} {vs ws : List Val} (h : VRs π D d vs ws) : VR π D d (.tuple vs) (.tuple ws) := by
  simp only [VR]; exact h
theorem VR.list_inv {π : RMap} {D : List Nat} {d : Nat} {r : Nat} {w : Val} (h : VR π D d (.list r) w) : w = .list (π r) ∧ r < d := by
  simp only [VR] at h; exact ⟨h.2.2, h.1⟩

structure HR (π : RMap) (D : List Nat) (μ1 μ2 : Heap) : Prop where
  /-- from now on both heaps allocate in lockstep -/
  tail : ∀ j, π (μ1.length + j) = μ2.length + j
  low : ∀ r, r ∉ D → r < μ1.length → π r < μ2.length
  /-- the dead cells are cells of the left heap (that no live value refers to them is the `r ∉ D` of `VR`) -/
  dead : ∀ r, r ∈ D → r < μ1.length
  /-- distinct live cells stay distinct, so that a write to one is not seen through another -/
  inj : ∀ r r', r ∉ D → r' ∉ D → π r = π r' → r = r'
  cells : ∀ r l1, r ∉ D → μ1[r]? = some l1 → ∃ l2, μ2[π r]? = some l2 ∧ VRs π D μ1.length l1 l2

def ER (π : RMap) (D : List Nat) (d : Nat) (σ1 σ2 : Env) : Prop := ∀ x, ORel (VR π D d) (σ1.get? x) (σ2.get? x)

structure Ext (μ μ' : Heap) : Prop where
  le : μ.length ≤ μ'.length
  len : ∀ (r : Nat) (l : List Val), μ[r]? = some l → ∃ l' : List Val, μ'[r]? = some l' ∧ l'.length = l.length

theorem Ext.refl (μ : Heap) : Ext μ μ := ⟨Nat.le_refl _, fun _ l h => ⟨l, h, rfl⟩⟩
theorem Ext.trans {μ μ' μ'' : Heap} (h1 : Ext μ μ') (h2 : Ext μ' μ'') : Ext μ μ'' := by
  refine ⟨Nat.le_trans h1.le h2.le, fun r l h => ?_⟩
  obtain ⟨l', hl', hlen'⟩ := h1.len r l h
  obtain ⟨l'', hl'', hlen''⟩ := h2.len r l' hl'
  exact ⟨l'', hl'', hlen''.trans hlen'⟩

theorem Ext.alloc (μ : Heap) (l : List Val) : Ext μ (μ ++ [l]) := by
  refine ⟨by simp, fun r l0 h => ⟨l0, ?_, rfl⟩⟩
  exact getElem?_append_of_eq_some h

theorem Ext.set (μ : Heap) (r : Nat) (l l' : List Val) (hl : μ[r]? = some l) (hlen : l'.length = l.length) :
    Ext μ (heapSet μ r l') := by
  unfold heapSet
  refine ⟨by simp, fun r' l0 h => ?_⟩
  by_cases hrr : r = r'
  · subst hrr
    rw [hl] at h; cases h
    exact ⟨l', List.getElem?_set_self (lt_of_getElem?_eq_some hl), hlen⟩
  · exact ⟨l0, by rw [List.getElem?_set_ne hrr]; exact h, rfl⟩

theorem ER.transfer {π π' : RMap} {D D' : List Nat} {d d' : Nat} (hd : d ≤ d') (hπ : ∀ r, r < d → π r = π' r)
    (hD : ∀ r, r < d → r ∉ D → r ∉ D') {σ1 σ2 : Env}
    (h : ER π D d σ1 σ2) : ER π' D' d' σ1 σ2 :=
  fun x => (h x).imp (VR.transfer hd hπ hD)

theorem ER.mono {π : RMap} {D : List Nat} {d d' : Nat} (hd : d ≤ d') {σ1 σ2 : Env} (h : ER π D d σ1 σ2) : ER π D d' σ1 σ2 :=
  ER.transfer hd (fun _ _ => rfl) (fun _ _ h => h) h

theorem ER.nil (π : RMap) (D : List Nat) (d : Nat) : ER π D d [] [] := fun _ => trivial

theorem ER.set {π : RMap} {D : List Nat} {d : Nat} {σ1 σ2 : Env} (h : ER π D d σ1 σ2) (x : String) {v w : Val} (hv : VR π D d v w) :
    ER π D d (σ1.set x v) (σ2.set x w) := by
  intro y
  rw [Env.get?_set, Env.get?_set]
  split
  · exact hv
  · exact h y

theorem ER.var {π : RMap} {D : List Nat} {d : Nat} {σ1 σ2 : Env} (h : ER π D d σ1 σ2) (x : String) :
    ORel (VR π D d) (σ1.get? x) (σ2.get? x) := h x

theorem heapGet_rel {π : RMap} {D : List Nat} {μ1 μ2 : Heap} (hh : HR π D μ1 μ2) (r : Nat) (hr : r ∉ D) :
    RelM (VRs π D μ1.length) (heapGet μ1 r) (heapGet μ2 (π r)) := by
  unfold heapGet
  cases h1 : μ1[r]? with
  | some l1 =>
    obtain ⟨l2, h2, hl⟩ := hh.cells r l1 hr h1
    rw [h2]; exact hl
  | none =>
    -- `r` is beyond the left heap, so `π r` is beyond the right one
    have hr : μ1.length ≤ r := List.getElem?_eq_none_iff.1 h1
    have := hh.tail (r - μ1.length)
    rw [Nat.add_sub_cancel' hr] at this
    rw [List.getElem?_eq_none (by omega)]
    exact rfl

theorem HR.alloc {π : RMap} {D : List Nat} {μ1 μ2 : Heap} (hh : HR π D μ1 μ2) {l1 l2 : List Val} (hl : VRs π D μ1.length l1 l2) :
    HR π D (μ1 ++ [l1]) (μ2 ++ [l2]) ∧ VR π D (μ1 ++ [l1]).length (.list μ1.length) (.list μ2.length) := by
  have h0 : π μ1.length = μ2.length := by simpa using hh.tail 0
  have hnd : μ1.length ∉ D := fun h => Nat.lt_irrefl _ (hh.dead _ h)
  refine ⟨⟨fun j => ?_, fun r hrd hr => ?_, fun r hr => ?_, hh.inj, fun r l hrd hr => ?_⟩, ?_⟩
  · have := hh.tail (j + 1)
    simp only [List.length_append, List.length_singleton]
    rw [show μ1.length + 1 + j = μ1.length + (j + 1) by omega, this]; omega
  · simp only [List.length_append, List.length_singleton] at hr ⊢
    rcases Nat.lt_or_ge r μ1.length with h' | h'
    · have := hh.low r hrd h'; omega
    · have : r = μ1.length := by omega
      rw [this, h0]; omega
  · simp only [List.length_append, List.length_singleton]
    have := hh.dead r hr; omega
  · rcases Nat.lt_or_ge r μ1.length with h' | h'
    · rw [List.getElem?_append_left h'] at hr
      obtain ⟨l2', h2, hl2⟩ := hh.cells r l hrd hr
      refine ⟨l2', ?_, VRs.mono (by simp) hl2⟩
      rw [List.getElem?_append_left (hh.low r hrd h')]; exact h2
    · by_cases hr' : r = μ1.length
      · subst hr'
        rw [List.getElem?_append_right (Nat.le_refl _)] at hr
        simp only [Nat.sub_self, List.getElem?_cons_zero, Option.some.injEq] at hr
        subst hr
        refine ⟨l2, ?_, VRs.mono (by simp) hl⟩
        rw [h0, List.getElem?_append_right (Nat.le_refl _)]; simp
      · rw [List.getElem?_eq_none (by simp; omega)] at hr; cases hr
  · simp only [VR, List.length_append, List.length_singleton]
    exact ⟨by omega, hnd, by rw [h0]⟩

theorem HR.alloc_right {π : RMap} {D : List Nat} {μ1 μ2 : Heap} (hh : HR π D μ1 μ2) (l2 : List Val) :
    HR (fun r => if r < μ1.length then π r else π r + 1) D μ1 (μ2 ++ [l2]) := by
  refine ⟨fun j => ?_, fun r hrd hr => ?_, hh.dead, fun r r' hrd hrd' h => ?_, fun r l hrd hr => ?_⟩
  · simp only [List.length_append, List.length_singleton]
    rw [if_neg (by omega), hh.tail j]; omega
  · simp only [List.length_append, List.length_singleton]
    rw [if_pos hr]; have := hh.low r hrd hr; omega
  · by_cases h1 : r < μ1.length <;> by_cases h2 : r' < μ1.length
    · rw [if_pos h1, if_pos h2] at h; exact hh.inj r r' hrd hrd' h
    · rw [if_pos h1, if_neg h2] at h
      have := hh.low r hrd h1
      have h3 := hh.tail (r' - μ1.length)
      rw [Nat.add_sub_cancel' (by omega)] at h3; omega
    · rw [if_neg h1, if_pos h2] at h
      have := hh.low r' hrd' h2
      have h3 := hh.tail (r - μ1.length)
      rw [Nat.add_sub_cancel' (by omega)] at h3; omega
    · rw [if_neg h1, if_neg h2] at h
      exact hh.inj r r' hrd hrd' (by omega)
  · have hr' := lt_of_getElem?_eq_some hr
    obtain ⟨l2', h2, hl2⟩ := hh.cells r l hrd hr
    refine ⟨l2', ?_, VRs.transfer (Nat.le_refl _) (fun r hr => by rw [if_pos hr]) (fun _ _ h => h) _ _ hl2⟩
    rw [if_pos hr', List.getElem?_append_left (hh.low r hrd hr')]; exact h2

theorem HR.alloc_left {π : RMap} {D : List Nat} {μ1 μ2 : Heap} (hh : HR π D μ1 μ2) (l1 : List Val) :
    HR (fun r => if r < μ1.length then π r else π (r - 1)) (μ1.length :: D) (μ1 ++ [l1]) μ2 := by
  have hdl : ∀ r, r ∉ μ1.length :: D → r ≠ μ1.length ∧ r ∉ D := fun r h =>
    ⟨fun e => h (by rw [e]; exact List.mem_cons_self), fun e => h (List.mem_cons_of_mem _ e)⟩
  have hge : ∀ r, μ1.length ≤ r → r ∉ D := fun r h e => by have := hh.dead r e; omega
  refine ⟨fun j => ?_, fun r hrd hr => ?_, fun r hr => ?_, fun r r' hrd hrd' h => ?_, fun r l hrd hr => ?_⟩
  · simp only [List.length_append, List.length_singleton]
    rw [if_neg (by omega), show μ1.length + 1 + j - 1 = μ1.length + j by omega, hh.tail j]
  · simp only [List.length_append, List.length_singleton] at hr
    have := hdl r hrd
    have h1 : r < μ1.length := by omega
    rw [if_pos h1]; exact hh.low r this.2 h1
  · simp only [List.length_append, List.length_singleton]
    rcases List.mem_cons.1 hr with h | h
    · omega
    · have := hh.dead r h; omega
  · -- each side is `π` at the old reference `s0` the new one stands for
    have key : ∀ s, s ∉ μ1.length :: D → ∃ s0, (if s < μ1.length then π s else π (s - 1)) = π s0 ∧ s0 ∉ D ∧
        (s0 = s ∧ s < μ1.length ∨ s0 + 1 = s ∧ μ1.length ≤ s0) := by
      intro s hs
      have a := hdl s hs
      by_cases h1 : s < μ1.length
      · exact ⟨s, if_pos h1, a.2, .inl ⟨rfl, h1⟩⟩
      · have h2 : μ1.length ≤ s - 1 := by omega
        exact ⟨s - 1, if_neg h1, hge _ h2, .inr ⟨by omega, h2⟩⟩
    obtain ⟨s, e, hs, c⟩ := key r hrd
    obtain ⟨s', e', hs', c'⟩ := key r' hrd'
    rw [e, e'] at h
    have := hh.inj s s' hs hs' h
    omega
  · have a1 := hdl r hrd
    have hr' : r < μ1.length := by
      have := lt_of_getElem?_eq_some hr
      simp only [List.length_append, List.length_singleton] at this
      omega
    rw [List.getElem?_append_left hr'] at hr
    obtain ⟨l2', h2, hl2⟩ := hh.cells r l a1.2 hr
    refine ⟨l2', by rw [if_pos hr']; exact h2, ?_⟩
    refine VRs.transfer (by simp) (fun r hr => by rw [if_pos hr]) (fun r hr hrd e => ?_) _ _ hl2
    rcases List.mem_cons.1 e with e | e
    · omega
    · exact hrd e

theorem HR.set {π : RMap} {D : List Nat} {μ1 μ2 : Heap} (hh : HR π D μ1 μ2) {r : Nat} (hrd : r ∉ D) {l1 l2 : List Val}
    (hl : VRs π D μ1.length l1 l2) : HR π D (heapSet μ1 r l1) (heapSet μ2 (π r) l2) := by
  unfold heapSet
  refine ⟨fun j => ?_, fun r' hrd' hr => ?_, fun r' hr => ?_, hh.inj, fun r' l hrd' hr => ?_⟩
  · simpa using hh.tail j
  · simpa using hh.low r' hrd' (by simpa using hr)
  · simpa using hh.dead r' hr
  · simp only [List.length_set]
    by_cases hrr : r = r'
    · subst hrr
      have hr' : r < μ1.length := by simpa using lt_of_getElem?_eq_some hr
      rw [List.getElem?_set_self hr'] at hr
      cases hr
      exact ⟨l2, by rw [List.getElem?_set_self (hh.low r hrd hr')], hl⟩
    · rw [List.getElem?_set_ne hrr] at hr
      obtain ⟨l2', h2, hl2⟩ := hh.cells r' l hrd' hr
      refine ⟨l2', ?_, hl2⟩
      rw [List.getElem?_set_ne (fun h => hrr (hh.inj _ _ hrd hrd' h))]; exact h2

/-- how a pair of related heaps evolved: both only grew (cell lengths kept), and the cells of the
right heap that no live left reference maps to — the temporaries of the right program — are untouched -/
structure ExtP (π : RMap) (D : List Nat) (μ1 μ2 m1 m2 : Heap) : Prop where
  e1 : Ext μ1 m1
  e2 : Ext μ2 m2
  /-- `HR.tail` of the INITIAL pair: a reference fresh for `μ1` does not name an old cell of `μ2` (`fresh_ne`), which
  is what `trans` needs of the cells allocated in between -/
  tail : ∀ j, π (μ1.length + j) = μ2.length + j
  keep : ∀ s, s < μ2.length → (∀ r, r ∉ D → r < μ1.length → π r ≠ s) → m2[s]? = μ2[s]?

theorem ExtP.refl {π : RMap} {D : List Nat} {μ1 μ2 : Heap} (hh : HR π D μ1 μ2) : ExtP π D μ1 μ2 μ1 μ2 :=
  ⟨Ext.refl _, Ext.refl _, hh.tail, fun _ _ _ => rfl⟩

theorem ExtP.fresh_ne {π : RMap} {D : List Nat} {μ1 μ2 m1 m2 : Heap} (h : ExtP π D μ1 μ2 m1 m2) {r s : Nat}
    (hr : μ1.length ≤ r) (hs : s < μ2.length) : π r ≠ s := by
  have := h.tail (r - μ1.length)
  rw [Nat.add_sub_cancel' hr] at this
  omega

theorem ExtP.trans {π : RMap} {D : List Nat} {μ1 μ2 m1 m2 m1' m2' : Heap} (h : ExtP π D μ1 μ2 m1 m2)
    (h' : ExtP π D m1 m2 m1' m2') : ExtP π D μ1 μ2 m1' m2' := by
  refine ⟨h.e1.trans h'.e1, h.e2.trans h'.e2, h.tail, fun s hs hne => ?_⟩
  rw [← h.keep s hs hne]
  refine h'.keep s (Nat.lt_of_lt_of_le hs h.e2.le) (fun r hrd hr => ?_)
  rcases Nat.lt_or_ge r μ1.length with h1 | h1
  · exact hne r hrd h1
  · exact h.fresh_ne h1 hs

theorem ExtP.alloc {π : RMap} {D : List Nat} {m1 m2 : Heap} (hh : HR π D m1 m2) (l1 l2 : List Val) :
    ExtP π D m1 m2 (m1 ++ [l1]) (m2 ++ [l2]) :=
  ⟨Ext.alloc _ _, Ext.alloc _ _, hh.tail, fun _ hs _ => List.getElem?_append_left hs⟩

theorem ExtP.set {π : RMap} {D : List Nat} {m1 m2 : Heap} (hh : HR π D m1 m2) {r : Nat} (hrd : r ∉ D)
    {l1 l2 l1' l2' : List Val} (h1 : m1[r]? = some l1) (h2 : m2[π r]? = some l2)
    (hl1 : l1'.length = l1.length) (hl2 : l2'.length = l2.length) :
    ExtP π D m1 m2 (heapSet m1 r l1') (heapSet m2 (π r) l2') :=
  ⟨Ext.set _ _ _ _ h1 hl1, Ext.set _ _ _ _ h2 hl2, hh.tail,
    fun _ _ hne => List.getElem?_set_ne (hne r hrd (lt_of_getElem?_eq_some h1))⟩

/-- well-formed state: no dangling reference (every reference in a cell or a variable is allocated) -/
def WFH (μ : Heap) : Prop := HR (fun r => r) [] μ μ
def WFE (σ : Env) (μ : Heap) : Prop := ER (fun r => r) [] μ.length σ σ

def VRss (π : RMap) (D : List Nat) (d : Nat) : List (List Val) → List (List Val) → Prop
  | [], ls => ls = []
  | l :: ls, ls' => match ls' with | l' :: ls'' => VRs π D d l l' ∧ VRss π D d ls ls'' | [] => False

theorem VRss.column {π : RMap} {D : List Nat} {d : Nat} (i : Nat) : ∀ {ls ls' : List (List Val)}, VRss π D d ls ls' →
    VRs π D d (ls.filterMap (fun l => l[i]?)) (ls'.filterMap (fun l => l[i]?))
  | [], ls', h => by simp only [VRss] at h; rw [h]; exact VRs.nil _ _ _
  | l :: ls, ls', h => by
    cases ls' with
    | nil => simp only [VRss] at h
    | cons l' ls'' =>
      simp only [VRss] at h
      have ht := VRss.column i h.2
      rcases (VRs.get h.1 i).cases with ⟨e1, e2⟩ | ⟨x, y, e1, e2, hi⟩
      · rw [List.filterMap_cons_none (f := fun l : List Val => l[i]?) e1,
          List.filterMap_cons_none (f := fun l : List Val => l[i]?) e2]; exact ht
      · rw [List.filterMap_cons_some (f := fun l : List Val => l[i]?) e1,
          List.filterMap_cons_some (f := fun l : List Val => l[i]?) e2]; exact VRs.cons hi ht

/-- the variables outside `S` are unconstrained: temporaries -/
def ERS (S : List String) (π : RMap) (D : List Nat) (d : Nat) (σ1 σ2 : Env) : Prop :=
  ∀ x, x ∈ S → ORel (VR π D d) (σ1.get? x) (σ2.get? x)

theorem ERS.of_ER {S : List String} {π : RMap} {D : List Nat} {d : Nat} {σ1 σ2 : Env} (h : ER π D d σ1 σ2) :
    ERS S π D d σ1 σ2 := fun x _ => h x

theorem ERS.transfer {S : List String} {π π' : RMap} {D D' : List Nat} {d d' : Nat} (hd : d ≤ d')
    (hπ : ∀ r, r < d → π r = π' r) (hD : ∀ r, r < d → r ∉ D → r ∉ D') {σ1 σ2 : Env}
    (h : ERS S π D d σ1 σ2) : ERS S π' D' d' σ1 σ2 :=
  fun x hx => (h x hx).imp (VR.transfer hd hπ hD)

theorem ERS.mono {S : List String} {π : RMap} {D : List Nat} {d d' : Nat} (hd : d ≤ d') {σ1 σ2 : Env}
    (h : ERS S π D d σ1 σ2) : ERS S π D d' σ1 σ2 :=
  h.transfer hd (fun _ _ => rfl) (fun _ _ h => h)

theorem ERS.set {S : List String} {π : RMap} {D : List Nat} {d : Nat} {σ1 σ2 : Env} (h : ERS S π D d σ1 σ2) (x : String)
    {v w : Val} (hv : VR π D d v w) : ERS S π D d (σ1.set x v) (σ2.set x w) := by
  intro y hy
  rw [Env.get?_set, Env.get?_set]
  split
  · exact hv
  · exact h y hy

theorem ERS.congr_right {S : List String} {π : RMap} {D : List Nat} {d : Nat} {σ1 σ2 σ2' : Env}
    (h : ERS S π D d σ1 σ2) (heq : ∀ z, z ∈ S → σ2'.get? z = σ2.get? z) : ERS S π D d σ1 σ2' := by
  intro x hx; rw [heq x hx]; exact h x hx

theorem ERS.set_right {S : List String} {π : RMap} {D : List Nat} {d : Nat} {σ1 σ2 : Env} (h : ERS S π D d σ1 σ2)
    {x : String} (hx : x ∉ S) (w : Val) : ERS S π D d σ1 (σ2.set x w) :=
  h.congr_right fun y hy => Env.get?_set_ne _ _ fun (e : x = y) => hx (e ▸ hy)

def ORS (S : List String) (π : RMap) (D : List Nat) (d : Nat) : Outcome → Outcome → Prop
  | .normal σ1, .normal σ2 => ERS S π D d σ1 σ2
  | .ret v, .ret w => VR π D d v w
  | _, _ => False

/-- `QE`, `QEs`, `QS`, `QSS`: what two successful runs started at the heaps `(μ1, μ2)` return — results related at the
size of the final left heap, final heaps related, and the final pair an `ExtP` of the initial one; they differ in the
kind of result (`QSS`: outcomes whose environments are related on `S` only) -/
structure QSS (S : List String) (π : RMap) (D : List Nat) (μ1 μ2 : Heap) (a b : Outcome × Heap) : Prop where
  out : ORS S π D a.2.length a.1 b.1
  heap : HR π D a.2 b.2
  ext : ExtP π D μ1 μ2 a.2 b.2

structure QE (π : RMap) (D : List Nat) (μ1 μ2 : Heap) (a b : Val × Heap) : Prop where
  val : VR π D a.2.length a.1 b.1
  heap : HR π D a.2 b.2
  ext : ExtP π D μ1 μ2 a.2 b.2

structure QEs (π : RMap) (D : List Nat) (μ1 μ2 : Heap) (a b : List Val × Heap) : Prop where
  val : VRs π D a.2.length a.1 b.1
  heap : HR π D a.2 b.2
  ext : ExtP π D μ1 μ2 a.2 b.2

def OR (π : RMap) (D : List Nat) (d : Nat) : Outcome → Outcome → Prop
  | .normal σ1, .normal σ2 => ER π D d σ1 σ2
  | .ret v, .ret w => VR π D d v w
  | _, _ => False

structure QS (π : RMap) (D : List Nat) (μ1 μ2 : Heap) (a b : Outcome × Heap) : Prop where
  out : OR π D a.2.length a.1 b.1
  heap : HR π D a.2 b.2
  ext : ExtP π D μ1 μ2 a.2 b.2

/- `d`: the bound at which the caller knows the environments related, the size of an earlier left heap as a rule -/
structure ParAt (Φ : Funs) (π : RMap) (D : List Nat) (n : Nat) : Prop where
  evalE : ∀ d σ1 σ2 μ1 μ2 C e, d ≤ μ1.length → ER π D d σ1 σ2 → HR π D μ1 μ2 →
    RelM (QE π D μ1 μ2) (evalE Φ n σ1 μ1 C e) (evalE Φ n σ2 μ2 C e)
  evalEs : ∀ d σ1 σ2 μ1 μ2 C es, d ≤ μ1.length → ER π D d σ1 σ2 → HR π D μ1 μ2 →
    RelM (QEs π D μ1 μ2) (evalEs Φ n σ1 μ1 C es) (evalEs Φ n σ2 μ2 C es)
  evalChain : ∀ d σ1 σ2 μ1 μ2 C a1 a2 ops es, d ≤ μ1.length → ER π D d σ1 σ2 → HR π D μ1 μ2 → VR π D d a1 a2 →
    RelM (QE π D μ1 μ2) (evalChain Φ n σ1 μ1 C a1 ops es) (evalChain Φ n σ2 μ2 C a2 ops es)
  evalAnd : ∀ d σ1 σ2 μ1 μ2 C es, d ≤ μ1.length → ER π D d σ1 σ2 → HR π D μ1 μ2 →
    RelM (QE π D μ1 μ2) (evalAnd Φ n σ1 μ1 C es) (evalAnd Φ n σ2 μ2 C es)
  evalOr : ∀ d σ1 σ2 μ1 μ2 C es, d ≤ μ1.length → ER π D d σ1 σ2 → HR π D μ1 μ2 →
    RelM (QE π D μ1 μ2) (evalOr Φ n σ1 μ1 C es) (evalOr Φ n σ2 μ2 C es)
  evalComp : ∀ d σ1 σ2 μ1 μ2 C ps its elt, d ≤ μ1.length → ER π D d σ1 σ2 → HR π D μ1 μ2 →
    RelM (QEs π D μ1 μ2) (evalComp Φ n σ1 μ1 C ps its elt) (evalComp Φ n σ2 μ2 C ps its elt)
  compLoop : ∀ d σ1 σ2 μ1 μ2 C r i p ps its elt, d ≤ μ1.length → ER π D d σ1 σ2 → HR π D μ1 μ2 → r ∉ D →
    RelM (QEs π D μ1 μ2) (compLoop Φ n σ1 μ1 C r i p ps its elt) (compLoop Φ n σ2 μ2 C (π r) i p ps its elt)
  evalS : ∀ d σ1 σ2 μ1 μ2 C s, d ≤ μ1.length → ER π D d σ1 σ2 → HR π D μ1 μ2 →
    RelM (QS π D μ1 μ2) (evalS Φ n σ1 μ1 C s) (evalS Φ n σ2 μ2 C s)
  forLoop : ∀ d σ1 σ2 μ1 μ2 C r i p body, d ≤ μ1.length → ER π D d σ1 σ2 → HR π D μ1 μ2 → r ∉ D →
    RelM (QS π D μ1 μ2) (forLoop Φ n σ1 μ1 C r i p body) (forLoop Φ n σ2 μ2 C (π r) i p body)
  evalB : ∀ d σ1 σ2 μ1 μ2 C ss, d ≤ μ1.length → ER π D d σ1 σ2 → HR π D μ1 μ2 →
    RelM (QS π D μ1 μ2) (evalB Φ n σ1 μ1 C ss) (evalB Φ n σ2 μ2 C ss)

theorem OR.normal {π : RMap} {D : List Nat} {d : Nat} {σ1 σ2 : Env} (h : ER π D d σ1 σ2) : OR π D d (.normal σ1) (.normal σ2) := h
theorem OR.ret {π : RMap} {D : List Nat} {d : Nat} {v w : Val} (h : VR π D d v w) : OR π D d (.ret v) (.ret w) := h

theorem OR.cases {π : RMap} {D : List Nat} {d : Nat} {o1 o2 : Outcome} (h : OR π D d o1 o2) :
    (∃ σ1 σ2, o1 = .normal σ1 ∧ o2 = .normal σ2 ∧ ER π D d σ1 σ2) ∨ ∃ v w, o1 = .ret v ∧ o2 = .ret w ∧ VR π D d v w := by
  cases o1 <;> cases o2 <;> simp only [OR] at h
  · exact .inl ⟨_, _, rfl, rfl, h⟩
  · exact .inr ⟨_, _, rfl, rfl, h⟩

theorem all2_VRs {π : RMap} {D : List Nat} {d : Nat} : ∀ {vs ws : List Val}, All2 (VR π D d) vs ws ↔ VRs π D d vs ws := by
  intro vs
  induction vs with
  | nil => intro ws; exact ⟨fun h => by cases h; exact VRs.nil _ _ _, fun h => by rw [VRs.inv_nil h]; exact .nil⟩
  | cons v vs ih =>
    intro ws
    constructor
    · intro h
      cases h with
      | cons h1 h2 => exact VRs.cons h1 (ih.1 h2)
    · intro h
      obtain ⟨w, ws', rfl, h1, h2⟩ := VRs.inv_cons h
      exact .cons h1 (ih.2 h2)

def parLR (π : RMap) (D : List Nat) : LR where
  W := { p : Heap × Heap // HR π D p.1 p.2 }
  Fut w w' := ExtP π D w.1.1 w.1.2 w'.1.1 w'.1.2
  VR w := VR π D w.1.1.length
  LocR _ r r' := r ∉ D ∧ r' = π r
  ER w := ER π D w.1.1.length
  HR w μ μ' := μ = w.1.1 ∧ μ' = w.1.2
  frefl w := ExtP.refl w.2
  ftrans := ExtP.trans
  vmono hf h := h.mono hf.e1.le
  lmono _ h := h
  emono hf h := h.mono hf.e1.le
  inv h := by
    rcases VR.inv h with h | ⟨vs, ws, rfl, rfl, h⟩ | ⟨r, rfl, rfl, _, hrd⟩
    · exact .inl h
    · exact .inr (.inl ⟨vs, ws, rfl, rfl, all2_VRs.2 h⟩)
    · exact .inr (.inr ⟨_, _, rfl, rfl, hrd, rfl⟩)
  flat := VR.flat_self
  tup h := VR.tuple' (all2_VRs.1 h)
  get h := h
  set x h hv := h.set x hv
  enil _ := ER.nil _ _ _
  load := by
    rintro w _ _ r _ ⟨rfl, rfl⟩ ⟨hrd, rfl⟩
    exact (heapGet_rel w.2 r hrd).imp fun _ _ => all2_VRs.2
  alloc := by
    rintro w _ _ l l' ⟨rfl, rfl⟩ hl
    obtain ⟨hh', hv'⟩ := w.2.alloc (all2_VRs.1 hl)
    exact ⟨⟨(_, _), hh'⟩, ExtP.alloc w.2 _ _, ⟨rfl, rfl⟩, hv'⟩
  store := by
    rintro w _ _ r _ l0 l0' l l' ⟨rfl, rfl⟩ ⟨hrd, rfl⟩ g1 g2 hl h1 h2
    exact ⟨⟨(_, _), HR.set w.2 hrd (all2_VRs.1 hl)⟩,
      ExtP.set w.2 hrd (heapGet_ok_iff.1 g1) (heapGet_ok_iff.1 g2) h1 h2, ⟨rfl, rfl⟩⟩

theorem parAt (Φ : Funs) (π : RMap) (D : List Nat) (n : Nat) : ParAt Φ π D n := by
  have F := fund .sym (parLR π D) Φ n n rfl
  have hE : ∀ {μ1 μ2 : Heap} (hh : HR π D μ1 μ2) (a b : Val × Heap),
      (parLR π D).Res (parLR π D).VR ⟨(μ1, μ2), hh⟩ a b → QE π D μ1 μ2 a b := by
    rintro μ1 μ2 hh ⟨x, m⟩ ⟨y, m'⟩ ⟨w', hf, hv, rfl, rfl⟩; exact ⟨hv, w'.2, hf⟩
  have hEs : ∀ {μ1 μ2 : Heap} (hh : HR π D μ1 μ2) (a b : List Val × Heap),
      (parLR π D).Res (fun w => All2 ((parLR π D).VR w)) ⟨(μ1, μ2), hh⟩ a b → QEs π D μ1 μ2 a b := by
    rintro μ1 μ2 hh ⟨x, m⟩ ⟨y, m'⟩ ⟨w', hf, hv, rfl, rfl⟩; exact ⟨all2_VRs.1 hv, w'.2, hf⟩
  have hS : ∀ {μ1 μ2 : Heap} (hh : HR π D μ1 μ2) (a b : Outcome × Heap),
      (parLR π D).Res (parLR π D).OR ⟨(μ1, μ2), hh⟩ a b → QS π D μ1 μ2 a b := by
    rintro μ1 μ2 hh ⟨o1, m⟩ ⟨o2, m'⟩ ⟨w', hf, ho, rfl, rfl⟩
    exact ⟨ho.elim (P := OR π D _) (fun _ _ => .normal) fun _ _ => .ret, w'.2, hf⟩
  exact
   ⟨fun _ _ _ _ _ C e hd henv hh =>
      (F.evalE (N := .diag _) (w := ⟨(_, _), hh⟩) (henv.mono hd) ⟨rfl, rfl⟩ C (.refl e)).imp (hE hh),
    fun _ _ _ _ _ C es hd henv hh =>
      (F.evalEs (N := .diag _) (w := ⟨(_, _), hh⟩) (henv.mono hd) ⟨rfl, rfl⟩ C (SimEs.refl es)).imp (hEs hh),
    fun _ _ _ _ _ C _ _ ops es hd henv hh ha =>
      (F.evalChain (N := .diag _) (w := ⟨(_, _), hh⟩) (henv.mono hd) ⟨rfl, rfl⟩ C ops (SimEs.refl es) (ha.mono hd)).imp (hE hh),
    fun _ _ _ _ _ C es hd henv hh =>
      (F.evalAnd (N := .diag _) (w := ⟨(_, _), hh⟩) (henv.mono hd) ⟨rfl, rfl⟩ C (SimEs.refl es)).imp (hE hh),
    fun _ _ _ _ _ C es hd henv hh =>
      (F.evalOr (N := .diag _) (w := ⟨(_, _), hh⟩) (henv.mono hd) ⟨rfl, rfl⟩ C (SimEs.refl es)).imp (hE hh),
    fun _ _ _ _ _ C ps its elt hd henv hh =>
      (F.evalComp (N := .diag _) (w := ⟨(_, _), hh⟩) (henv.mono hd) ⟨rfl, rfl⟩ C (SimPs.refl ps) (SimEs.refl its)
        (.refl elt)).imp (hEs hh),
    fun _ _ _ _ _ C _ i p ps its elt hd henv hh hr =>
      (F.compLoop (N := .diag _) (w := ⟨(_, _), hh⟩) (henv.mono hd) ⟨rfl, rfl⟩ C i (.refl p) (SimPs.refl ps) (SimEs.refl its)
        (.refl elt) ⟨hr, rfl⟩).imp (hEs hh),
    fun _ _ _ _ _ C s hd henv hh =>
      (F.evalS (N := .diag _) (w := ⟨(_, _), hh⟩) (henv.mono hd) ⟨rfl, rfl⟩ C (.refl s)).imp (hS hh),
    fun _ _ _ _ _ C _ i p body hd henv hh hr =>
      (F.forLoop (N := .diag _) (w := ⟨(_, _), hh⟩) (henv.mono hd) ⟨rfl, rfl⟩ C i (.refl p) (SimB.refl body) ⟨hr, rfl⟩).imp (hS hh),
    fun _ _ _ _ _ C ss hd henv hh =>
      (F.evalB (N := .diag _) (w := ⟨(_, _), hh⟩) (henv.mono hd) ⟨rfl, rfl⟩ C (SimB.refl ss)).imp (hS hh)⟩

/-- the environments of `ERS S`, for programs that read only names in `S` -/
def onNR (S : List String) (π : RMap) (D : List Nat) : NR (parLR π D) where
  rd a b := a = b ∧ a ∈ S
  bd := Eq
  ER w := ERS S π D w.1.1.length
  emono hf h := h.mono hf.e1.le
  get h := by rintro x _ ⟨rfl, hx⟩; exact h x hx
  set := by rintro _ _ _ _ _ x _ rfl h hv; exact h.set x hv

end Fpy.Xform
