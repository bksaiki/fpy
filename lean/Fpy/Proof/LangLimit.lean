/-
The fuel-free semantics.  `lim a` is the limit of a chain of results: its unique value other than `.outOfFuel` if it
has one, and `.outOfFuel` — here meaning DIVERGENCE — otherwise.  `evalEω … evalBω`, the limits of the ten evaluator
functions, satisfy the evaluator's defining equations with the fuel erased (written out for the forms the schemas of
this file and its clients rewrite with; each is one line, by the recipe at `lim_of_succ`), so `evalBω … ss = evalBω … ss'`
says that the two blocks return the same value and heap, end normally in the same environment and heap, fail with the
same error, or both diverge.  Then the rewrite schemas that hold in every state: sequencing, `while` unrolling (the
shape `fpy2/transform/while_unroll.py` emits) and congruence of observational equivalence.
-/
import Fpy.Proof.LangMeta
namespace Fpy.Xform
open Fpy Fpy.Lang

noncomputable def lim {α : Type} (a : Nat → M α) : M α :=
  open Classical in
  if h : ∃ n, a n ≠ .error .outOfFuel then a (Classical.choose h) else .error .outOfFuel

structure Tends {α : Type} (a : Nat → M α) (l : M α) : Prop where
  le : ∀ n, Le (a n) l
  reach : l ≠ .error .outOfFuel → ∃ n, ∀ m, n ≤ m → a m = l

theorem Tends.lim_eq {α : Type} {a : Nat → M α} {l : M α} (h : Tends a l) : lim a = l := by
  unfold lim
  split
  · rename_i hex
    exact ((h.le _).stable rfl (Classical.choose_spec hex)).symm
  · rename_i hex
    by_cases hl : l = .error .outOfFuel
    · exact hl.symm
    · obtain ⟨n, hn⟩ := h.reach hl
      exact absurd ⟨n, by rw [hn n (Nat.le_refl _)]; exact hl⟩ hex

theorem Tends.of_chain {α : Type} {a : Nat → M α} (h : ∀ n m, n ≤ m → Le (a n) (a m)) : Tends a (lim a) := by
  unfold lim
  split
  · rename_i hex
    have h1 := Classical.choose_spec hex
    refine ⟨fun n => ?_, fun _ => ⟨Classical.choose hex, fun m hm => ?_⟩⟩
    · rcases Nat.le_total n (Classical.choose hex) with hn | hn
      · exact h _ _ hn
      · rcases h _ _ hn with h2 | h2
        · exact absurd h2 h1
        · exact .inr h2.symm
    · rcases h _ _ hm with h2 | h2
      · exact absurd h2 h1
      · exact h2.symm
  · rename_i hex
    refine ⟨fun n => .inl ?_, fun hl => absurd rfl hl⟩
    exact Classical.byContradiction fun hn => hex ⟨n, hn⟩

theorem Tends.unique {α : Type} {a : Nat → M α} {l l' : M α} (h : Tends a l) (h' : Tends a l') : l = l' := by
  rw [← h.lim_eq, ← h'.lim_eq]

theorem Tends.const {α : Type} (c : M α) : Tends (fun _ => c) c :=
  ⟨fun _ => Le.refl _, fun _ => ⟨0, fun _ _ => rfl⟩⟩

theorem Tends.bind {α β : Type} {a : Nat → M α} {l : M α} {k : Nat → α → M β} {m : α → M β}
    (h : Tends a l) (hk : ∀ x, Tends (fun n => k n x) (m x)) : Tends (fun n => a n >>= k n) (l >>= m) := by
  refine ⟨fun n => Le.bind (h.le n) (fun x => (hk x).le n), fun hne => ?_⟩
  cases l with
  | error e =>
    have he : (Except.error e : M α) ≠ .error .outOfFuel := by
      intro h0; apply hne; rw [h0]; rfl
    obtain ⟨n, hn⟩ := h.reach he
    exact ⟨n, fun j hj => by show a j >>= k j = _; rw [hn j hj]; rfl⟩
  | ok x =>
    obtain ⟨n, hn⟩ := h.reach (by intro h0; cases h0)
    obtain ⟨n', hn'⟩ := (hk x).reach hne
    refine ⟨max n n', fun j hj => ?_⟩
    show a j >>= k j = _
    rw [hn j (Nat.le_trans (Nat.le_max_left n n') hj)]
    exact hn' j (Nat.le_trans (Nat.le_max_right n n') hj)

theorem Tends.emap {α β : Type} {a : Nat → M α} {l : M α} (g : α → β) (h : Tends a l) :
    Tends (fun n => Except.map g (a n)) (Except.map g l) := by
  refine ⟨fun n => Le.emap g (h.le n), fun hne => ?_⟩
  have hl : l ≠ .error .outOfFuel := by intro h0; apply hne; rw [h0]; rfl
  obtain ⟨n, hn⟩ := h.reach hl
  exact ⟨n, fun j hj => by rw [hn j hj]⟩

theorem Tends.unshift {α : Type} {a : Nat → M α} {l : M α} (h0 : a 0 = .error .outOfFuel)
    (h : Tends (fun n => a (n + 1)) l) : Tends a l := by
  refine ⟨fun n => ?_, fun hne => ?_⟩
  · cases n with
    | zero => exact .inl h0
    | succ n => exact h.le n
  · obtain ⟨n, hn⟩ := h.reach hne
    refine ⟨n + 1, fun j hj => ?_⟩
    cases j with
    | zero => exact absurd hj (Nat.not_succ_le_zero n)
    | succ j => exact hn j (Nat.le_of_succ_le_succ hj)

theorem Tends.definite {α : Type} {a : Nat → M α} {l : M α} (h : Tends a l) {n : Nat} {r : M α}
    (hr : a n = r) (hne : r ≠ .error .outOfFuel) : l = r := (h.le n).stable hr hne

theorem lim_eq_of_le {α : Type} {a b : Nat → M α} {la lb : M α} (ha : Tends a la) (hb : Tends b lb)
    (hab : ∀ n, Le (a n) lb) (hba : ∀ n, Le (b n) la) : la = lb := by
  by_cases h : la = .error .outOfFuel
  · by_cases h' : lb = .error .outOfFuel
    · rw [h, h']
    · obtain ⟨n, hn⟩ := hb.reach h'
      exact (hba n).stable (hn n (Nat.le_refl _)) h'
  · obtain ⟨n, hn⟩ := ha.reach h
    exact ((hab n).stable (hn n (Nat.le_refl _)) h).symm

/-- a relation that forces errors to coincide passes to the limits: a side that is still out of fuel where
the other has reached its definite limit would be related to it -/
theorem RelM.tends {α β : Type} {Q : α → β → Prop} {a : Nat → M α} {b : Nat → M β} {la : M α} {lb : M β}
    (ha : Tends a la) (hb : Tends b lb) (h : ∀ n, RelM Q (a n) (b n)) : RelM Q la lb := by
  by_cases hla : la = .error .outOfFuel
  · by_cases hlb : lb = .error .outOfFuel
    · rw [hla, hlb]; exact rfl
    · obtain ⟨n, hn⟩ := hb.reach hlb
      have h1 := h n
      have h2 : a n = .error .outOfFuel := (ha.le n).elim id (·.trans hla)
      rw [hn n (Nat.le_refl _), h2] at h1
      exact absurd ((h1.err_iff _).1 rfl) hlb
  · obtain ⟨n, hn⟩ := ha.reach hla
    have h1 := h n
    rw [hn n (Nat.le_refl _)] at h1
    rcases hb.le n with h2 | h2
    · rw [h2] at h1; exact absurd ((h1.err_iff _).2 rfl) hla
    · rwa [h2] at h1

noncomputable def evalEω (Φ : Funs) (σ : Env) (μ : Heap) (C : Ctx) (e : Expr) : M (Val × Heap) :=
  lim (fun n => evalE Φ n σ μ C e)
noncomputable def evalEsω (Φ : Funs) (σ : Env) (μ : Heap) (C : Ctx) (es : List Expr) : M (List Val × Heap) :=
  lim (fun n => evalEs Φ n σ μ C es)
noncomputable def evalChainω (Φ : Funs) (σ : Env) (μ : Heap) (C : Ctx) (a : Val) (ops : List CmpOp) (es : List Expr) : M (Val × Heap) :=
  lim (fun n => evalChain Φ n σ μ C a ops es)
noncomputable def evalAndω (Φ : Funs) (σ : Env) (μ : Heap) (C : Ctx) (es : List Expr) : M (Val × Heap) :=
  lim (fun n => evalAnd Φ n σ μ C es)
noncomputable def evalOrω (Φ : Funs) (σ : Env) (μ : Heap) (C : Ctx) (es : List Expr) : M (Val × Heap) :=
  lim (fun n => evalOr Φ n σ μ C es)
noncomputable def evalCompω (Φ : Funs) (σ : Env) (μ : Heap) (C : Ctx) (ps : List Pat) (its : List Expr) (elt : Expr) : M (List Val × Heap) :=
  lim (fun n => evalComp Φ n σ μ C ps its elt)
noncomputable def compLoopω (Φ : Funs) (σ : Env) (μ : Heap) (C : Ctx) (r i : Nat) (p : Pat) (ps : List Pat) (its : List Expr) (elt : Expr) : M (List Val × Heap) :=
  lim (fun n => compLoop Φ n σ μ C r i p ps its elt)
noncomputable def evalSω (Φ : Funs) (σ : Env) (μ : Heap) (C : Ctx) (s : Stmt) : M (Outcome × Heap) :=
  lim (fun n => evalS Φ n σ μ C s)
noncomputable def forLoopω (Φ : Funs) (σ : Env) (μ : Heap) (C : Ctx) (r i : Nat) (p : Pat) (body : List Stmt) : M (Outcome × Heap) :=
  lim (fun n => forLoop Φ n σ μ C r i p body)
noncomputable def evalBω (Φ : Funs) (σ : Env) (μ : Heap) (C : Ctx) (ss : List Stmt) : M (Outcome × Heap) :=
  lim (fun n => evalB Φ n σ μ C ss)
/-- structural equality and pattern matching need fuel proportional to the depth of the value /
pattern only; their limits are what they compute with enough fuel -/
noncomputable def valEqω (μ : Heap) (a b : Val) : M Bool := lim (fun n => valEq μ n a b)
noncomputable def bindPatω (p : Pat) (v : Val) (σ : Env) : M Env := lim (fun n => bindPat n p v σ)

theorem tends_evalE (Φ σ μ C e) : Tends (fun n => evalE Φ n σ μ C e) (evalEω Φ σ μ C e) :=
  Tends.of_chain fun n m h => (monoAt Φ n m h).evalE _ _ _ _
theorem tends_evalEs (Φ σ μ C es) : Tends (fun n => evalEs Φ n σ μ C es) (evalEsω Φ σ μ C es) :=
  Tends.of_chain fun n m h => (monoAt Φ n m h).evalEs _ _ _ _
theorem tends_evalChain (Φ σ μ C a ops es) : Tends (fun n => evalChain Φ n σ μ C a ops es) (evalChainω Φ σ μ C a ops es) :=
  Tends.of_chain fun n m h => (monoAt Φ n m h).evalChain _ _ _ _ _ _
theorem tends_evalAnd (Φ σ μ C es) : Tends (fun n => evalAnd Φ n σ μ C es) (evalAndω Φ σ μ C es) :=
  Tends.of_chain fun n m h => (monoAt Φ n m h).evalAnd _ _ _ _
theorem tends_evalOr (Φ σ μ C es) : Tends (fun n => evalOr Φ n σ μ C es) (evalOrω Φ σ μ C es) :=
  Tends.of_chain fun n m h => (monoAt Φ n m h).evalOr _ _ _ _
theorem tends_evalComp (Φ σ μ C ps its elt) : Tends (fun n => evalComp Φ n σ μ C ps its elt) (evalCompω Φ σ μ C ps its elt) :=
  Tends.of_chain fun n m h => (monoAt Φ n m h).evalComp _ _ _ _ _ _
theorem tends_compLoop (Φ σ μ C r i p ps its elt) : Tends (fun n => compLoop Φ n σ μ C r i p ps its elt) (compLoopω Φ σ μ C r i p ps its elt) :=
  Tends.of_chain fun n m h => (monoAt Φ n m h).compLoop _ _ _ _ _ _ _ _ _
theorem tends_evalS (Φ σ μ C s) : Tends (fun n => evalS Φ n σ μ C s) (evalSω Φ σ μ C s) :=
  Tends.of_chain fun n m h => (monoAt Φ n m h).evalS _ _ _ _
theorem tends_forLoop (Φ σ μ C r i p body) : Tends (fun n => forLoop Φ n σ μ C r i p body) (forLoopω Φ σ μ C r i p body) :=
  Tends.of_chain fun n m h => (monoAt Φ n m h).forLoop _ _ _ _ _ _ _
theorem tends_evalB (Φ σ μ C ss) : Tends (fun n => evalB Φ n σ μ C ss) (evalBω Φ σ μ C ss) :=
  Tends.of_chain fun n m h => (monoAt Φ n m h).evalB _ _ _ _
theorem tends_valEq (μ a b) : Tends (fun n => valEq μ n a b) (valEqω μ a b) :=
  Tends.of_chain fun _ _ h => valEq_mono_le μ h a b
theorem tends_bindPat (p v σ) : Tends (fun n => bindPat n p v σ) (bindPatω p v σ) :=
  Tends.of_chain fun _ _ h => bindPat_mono_le h p v σ

/-! Each equation is the evaluator's defining clause at fuel `n + 1` read in the limit: `Tends.bind` follows its
`>>=`, a recursive call tends to its limit (`tends_evalE …`), every other step does not depend on the fuel
(`Tends.const`); `lim_of_succ` adds the run without fuel, which is out of fuel by `rfl`. -/

theorem lim_of_succ {α : Type} {a : Nat → M α} {l : M α} (h0 : a 0 = .error .outOfFuel)
    (h : Tends (fun n => a (n + 1)) l) : lim a = l :=
  (Tends.unshift h0 h).lim_eq

theorem evalCompω_of {Φ σ μ C ps its elt l} (h : Tends (fun n => evalComp Φ (n+1) σ μ C ps its elt) l) :
    evalCompω Φ σ μ C ps its elt = l :=
  lim_of_succ rfl h
theorem compLoopω_of {Φ σ μ C r i p ps its elt l} (h : Tends (fun n => compLoop Φ (n+1) σ μ C r i p ps its elt) l) :
    compLoopω Φ σ μ C r i p ps its elt = l :=
  lim_of_succ rfl h

section
variable (Φ : Funs) (σ : Env) (μ : Heap) (C : Ctx)

theorem evalBω_nil : evalBω Φ σ μ C [] = .ok (.normal σ, μ) :=
  lim_of_succ rfl (Tends.const _)

theorem evalBω_cons (s : Stmt) (ss : List Stmt) :
    evalBω Φ σ μ C (s :: ss) =
      (do let (o, μ') ← evalSω Φ σ μ C s
          match o with
          | .ret v => .ok (.ret v, μ')
          | .normal σ' => evalBω Φ σ' μ' C ss) :=
  lim_of_succ rfl (Tends.bind (tends_evalS ..) fun ⟨o, _⟩ => by cases o; exact tends_evalB ..; exact Tends.const _)

theorem evalSω_assign (p : Pat) (e : Expr) :
    evalSω Φ σ μ C (.assign p e) =
      (do let (v, μ') ← evalEω Φ σ μ C e
          let σ' ← bindPatω p v σ
          .ok (.normal σ', μ')) :=
  lim_of_succ rfl (Tends.bind (tends_evalE ..) fun _ => Tends.bind (tends_bindPat ..) fun _ => Tends.const _)

theorem evalSω_ifte (c : Expr) (t f : List Stmt) :
    evalSω Φ σ μ C (.ifte c t f) =
      (do let (v, μ') ← evalEω Φ σ μ C c
          if ← asBool v then evalBω Φ σ μ' C t else evalBω Φ σ μ' C f) :=
  lim_of_succ rfl (Tends.bind (tends_evalE ..) fun _ => Tends.bind (Tends.const _) fun b => by
    cases b; exact tends_evalB ..; exact tends_evalB ..)

/-- `if c: t` is `if c: t else: <nothing>`: what is known of `ifte` is known of `if1` -/
theorem evalSω_if1 (c : Expr) (t : List Stmt) : evalSω Φ σ μ C (.if1 c t) = evalSω Φ σ μ C (.ifte c t []) := by
  rw [evalSω_ifte]
  exact lim_of_succ rfl (Tends.bind (tends_evalE ..) fun _ => Tends.bind (Tends.const _) fun b => by
    cases b
    · rw [evalBω_nil]; exact Tends.const _
    · exact tends_evalB ..)

theorem evalSω_while (c : Expr) (body : List Stmt) :
    evalSω Φ σ μ C (.while c body) =
      (do let (v, μ') ← evalEω Φ σ μ C c
          if ← asBool v then
            (do let (o, μ'') ← evalBω Φ σ μ' C body
                match o with
                | .ret r => .ok (.ret r, μ'')
                | .normal σ' => evalSω Φ σ' μ'' C (.while c body))
          else .ok (.normal σ, μ')) :=
  lim_of_succ rfl (Tends.bind (tends_evalE ..) fun _ => Tends.bind (Tends.const _) fun b => by
    cases b
    · exact Tends.const _
    · exact Tends.bind (tends_evalB ..) fun ⟨o, _⟩ => by cases o; exact tends_evalS ..; exact Tends.const _)

theorem evalSω_for (p : Pat) (it : Expr) (body : List Stmt) :
    evalSω Φ σ μ C (.for p it body) =
      (do let (iv, μ') ← evalEω Φ σ μ C it
          match iv with
          | .list r => forLoopω Φ σ μ' C r 0 p body
          | _ => .error .typeError) :=
  lim_of_succ rfl (Tends.bind (tends_evalE ..) fun ⟨iv, _⟩ => by
    cases iv with
    | list r => exact tends_forLoop ..
    | _ => exact Tends.const _)

theorem forLoopω_eq (r i : Nat) (p : Pat) (body : List Stmt) :
    forLoopω Φ σ μ C r i p body =
      (do let l ← heapGet μ r
          match l[i]? with
          | none => .ok (.normal σ, μ)
          | some x => do
            let σ' ← bindPatω p x σ
            let (o, μ') ← evalBω Φ σ' μ C body
            match o with
            | .ret v => .ok (.ret v, μ')
            | .normal σ'' => forLoopω Φ σ'' μ' C r (i + 1) p body) :=
  lim_of_succ rfl (Tends.bind (Tends.const _) fun l => by
    cases l[i]?
    · exact Tends.const _
    · exact Tends.bind (tends_bindPat ..) fun _ => Tends.bind (tends_evalB ..) fun ⟨o, _⟩ => by
        cases o; exact tends_forLoop ..; exact Tends.const _)

theorem evalSω_with (ce : Expr) (name : Option String) (body : List Stmt) :
    evalSω Φ σ μ C (.with ce name body) =
      (do let (cv, μ') ← evalEω Φ σ μ .real ce
          match cv with
          | .ctx C' => evalBω Φ (match name with | some x => σ.set x (.ctx C') | none => σ) μ' C' body
          | _ => .error .typeError) :=
  lim_of_succ rfl (Tends.bind (tends_evalE ..) fun ⟨cv, _⟩ => by
    cases cv with
    | ctx C' => exact tends_evalB ..
    | _ => exact Tends.const _)

theorem evalSω_assert (e : Expr) :
    evalSω Φ σ μ C (.assert e) =
      (do let (v, μ') ← evalEω Φ σ μ C e
          if ← asBool v then .ok (.normal σ, μ') else .error .assertion) :=
  lim_of_succ rfl (Tends.bind (tends_evalE ..) fun _ => Tends.const _)

theorem evalSω_effect (e : Expr) :
    evalSω Φ σ μ C (.effect e) =
      (do let (_, μ') ← evalEω Φ σ μ C e
          .ok (.normal σ, μ')) :=
  lim_of_succ rfl (Tends.bind (tends_evalE ..) fun _ => Tends.const _)

theorem evalSω_ret (e : Expr) :
    evalSω Φ σ μ C (.ret e) =
      (do let (v, μ') ← evalEω Φ σ μ C e
          .ok (.ret v, μ')) :=
  lim_of_succ rfl (Tends.bind (tends_evalE ..) fun _ => Tends.const _)

theorem evalSω_pass : evalSω Φ σ μ C .pass = .ok (.normal σ, μ) :=
  lim_of_succ rfl (Tends.const _)

theorem evalEω_var (x : String) :
    evalEω Φ σ μ C (.var x) = (match σ.get? x with | some v => .ok (v, μ) | none => .error .unbound) :=
  lim_of_succ rfl (Tends.const _)

theorem evalEω_bool (b : Bool) : evalEω Φ σ μ C (.bool b) = .ok (.bool b, μ) :=
  lim_of_succ rfl (Tends.const _)

theorem evalEω_num (v : NV) : evalEω Φ σ μ C (.num v) = .ok (.num v, μ) :=
  lim_of_succ rfl (Tends.const _)

theorem evalEω_ctxLit (c : Ctx) : evalEω Φ σ μ C (.ctxLit c) = .ok (.ctx c, μ) :=
  lim_of_succ rfl (Tends.const _)

theorem evalEω_tuple (es : List Expr) :
    evalEω Φ σ μ C (.tuple es) = (do let (vs, μ') ← evalEsω Φ σ μ C es; .ok (.tuple vs, μ')) :=
  lim_of_succ rfl (Tends.bind (tends_evalEs ..) fun _ => Tends.const _)

theorem evalEω_cmp_cons (ops : List CmpOp) (a : Expr) (rest : List Expr) :
    evalEω Φ σ μ C (.cmp ops (a :: rest)) =
      (do let (av, μ1) ← evalEω Φ σ μ C a
          evalChainω Φ σ μ1 C av ops rest) :=
  lim_of_succ rfl (Tends.bind (tends_evalE ..) fun _ => tends_evalChain ..)

theorem evalChainω_nil (a : Val) : evalChainω Φ σ μ C a [] [] = .ok (.bool true, μ) :=
  lim_of_succ rfl (Tends.const _)

theorem evalChainω_cons (a : Val) (op : CmpOp) (ops : List CmpOp) (b : Expr) (rest : List Expr) :
    evalChainω Φ σ μ C a (op :: ops) (b :: rest) =
      (do let (bv, μ1) ← evalEω Φ σ μ C b
          let ok ← (match op with
            | .eq => valEqω μ1 a bv
            | .ne => (valEqω μ1 a bv).map (!·)
            | _ => do let x ← asNum a; let y ← asNum bv; .ok (cmpHolds op (Lang.nvCompare x y)))
          if ok then evalChainω Φ σ μ1 C bv ops rest else .ok (.bool false, μ1)) :=
  lim_of_succ rfl (Tends.bind (tends_evalE ..) fun _ => Tends.bind
    (by cases op with
      | eq => exact tends_valEq ..
      | ne => exact Tends.emap _ (tends_valEq ..)
      | _ => exact Tends.const _)
    fun ok => by cases ok; exact Tends.const _; exact tends_evalChain ..)

theorem evalEω_not (a : Expr) :
    evalEω Φ σ μ C (.not a) = (do let (v, μ') ← evalEω Φ σ μ C a; .ok (.bool (!(← asBool v)), μ')) :=
  lim_of_succ rfl (Tends.bind (tends_evalE ..) fun _ => Tends.const _)

theorem evalEsω_nil : evalEsω Φ σ μ C [] = .ok ([], μ) :=
  lim_of_succ rfl (Tends.const _)

theorem evalEsω_cons (e : Expr) (es : List Expr) :
    evalEsω Φ σ μ C (e :: es) =
      (do let (v, μ1) ← evalEω Φ σ μ C e
          let (vs, μ2) ← evalEsω Φ σ μ1 C es
          .ok (v :: vs, μ2)) :=
  lim_of_succ rfl (Tends.bind (tends_evalE ..) fun _ => Tends.bind (tends_evalEs ..) fun _ => Tends.const _)

theorem evalEω_call (f : String) (args : List Expr) :
    evalEω Φ σ μ C (.call f args) =
      (do let (vs, μ') ← evalEsω Φ σ μ C args
          match Φ.find? f with
          | none => (ctxCtor f vs).map (fun c => (Val.ctx c, μ'))
          | some fd =>
            if fd.params.length != vs.length then .error .typeError
            else do
              let (o, μ'') ← evalBω Φ ((fd.params.zip vs).foldl (fun s (x, v) => s.set x v) []) μ'
                                (match fd.ctx with | some c => c | none => C) fd.body
              match o with
              | .ret v => .ok (v, μ'')
              | .normal _ => .error .assertion) :=
  lim_of_succ rfl (Tends.bind (tends_evalEs ..) fun ⟨vs, _⟩ => by
    cases Φ.find? f with
    | none => exact Tends.const _
    | some fd =>
      dsimp only
      cases fd.params.length != vs.length
      · exact Tends.bind (tends_evalB ..) fun _ => Tends.const _
      · exact Tends.const _)

theorem evalEω_index (a i : Expr) :
    evalEω Φ σ μ C (.index a i) =
      (do let (av, μ1) ← evalEω Φ σ μ C a
          let (iv, μ2) ← evalEω Φ σ μ1 C i
          let l ← asSeq μ2 av
          let k ← asIndex iv
          match l[k]? with | some v => .ok (v, μ2) | none => .error .indexError) :=
  lim_of_succ rfl (Tends.bind (tends_evalE ..) fun _ => Tends.bind (tends_evalE ..) fun _ => Tends.const _)

theorem evalEω_len (a : Expr) :
    evalEω Φ σ μ C (.len a) =
      (do let (v, μ') ← evalEω Φ σ μ C a
          let l ← asList μ' v
          .ok (.num (.q (l.length : Int) 1), μ')) :=
  lim_of_succ rfl (Tends.bind (tends_evalE ..) fun _ => Tends.const _)

theorem evalEω_op (o : Op) (args : List Expr) :
    evalEω Φ σ μ C (.op o args) =
      (do let (vs, μ') ← evalEsω Φ σ μ C args
          let ns ← vs.mapM asNum
          let r ← opEval C o (ns.map cvtReal)
          .ok (.num r, μ')) :=
  lim_of_succ rfl (Tends.bind (tends_evalEs ..) fun _ => Tends.const _)

theorem evalEω_range (args : List Expr) :
    evalEω Φ σ μ C (.range args) =
      (do let (vs, μ') ← evalEsω Φ σ μ C args
          let ints ← vs.mapM (fun v => do
            match nvInt? (← asNum v) with | some i => .ok i | none => .error .valueError)
          let (a, b, st) ← (match ints with
            | [b] => .ok ((0 : Int), b, (1 : Int))
            | [a, b] => .ok (a, b, (1 : Int))
            | [a, b, c] => .ok (a, b, c)
            | _ => .error .typeError)
          if st = 0 then .error .valueError
          else
            let n : Nat := if st > 0 then ((b - a + st - 1) / st).toNat else ((a - b + (-st) - 1) / (-st)).toNat
            let l := (List.range n).map (fun (i : Nat) => intVal (a + st * (i : Int)))
            let (μ'', r) := alloc μ' l
            .ok (r, μ'')) :=
  lim_of_succ rfl (Tends.bind (tends_evalEs ..) fun _ => Tends.const _)

theorem evalEω_enumerate (a : Expr) :
    evalEω Φ σ μ C (.enumerate a) =
      (do let (v, μ') ← evalEω Φ σ μ C a
          let l ← asList μ' v
          let rows := (List.range l.length).filterMap (fun (i : Nat) => (l[i]?).map (fun x => Val.tuple [intVal (i : Int), x]))
          let (μ'', r) := alloc μ' rows
          .ok (r, μ'')) :=
  lim_of_succ rfl (Tends.bind (tends_evalE ..) fun _ => Tends.const _)

theorem evalEω_zip (es : List Expr) :
    evalEω Φ σ μ C (.zip es) =
      (do let (vs, μ') ← evalEsω Φ σ μ C es
          let ls ← vs.mapM (asList μ')
          match ls with
          | [] => let (μ'', r) := alloc μ' []; .ok (r, μ'')
          | l0 :: rest =>
            if rest.any (fun l => l.length != l0.length) then .error .valueError
            else
              let rows := (List.range l0.length).map (fun i => Val.tuple (ls.filterMap (fun l => l[i]?)))
              let (μ'', r) := alloc μ' rows
              .ok (r, μ'')) :=
  lim_of_succ rfl (Tends.bind (tends_evalEs ..) fun _ => Tends.const _)

theorem evalEsω_cons_pure {e : Expr} {v : Val} (h : evalEω Φ σ μ C e = .ok (v, μ)) (es : List Expr) :
    evalEsω Φ σ μ C (e :: es) = evalEsω Φ σ μ C es >>= fun r => .ok (v :: r.1, r.2) := by
  rw [evalEsω_cons, h]; rfl

theorem evalEω_binop (o : Op) {e1 e2 : Expr} {x y : NV}
    (h1 : evalEω Φ σ μ C e1 = .ok (.num x, μ)) (h2 : evalEω Φ σ μ C e2 = .ok (.num y, μ)) :
    evalEω Φ σ μ C (.op o [e1, e2]) = (opEval C o [cvtReal x, cvtReal y] >>= fun w => .ok (.num w, μ)) := by
  rw [evalEω_op, evalEsω_cons_pure Φ σ μ C h1, evalEsω_cons_pure Φ σ μ C h2, evalEsω_nil]; rfl

end

theorem bindPatω_var (x : String) (v : Val) (σ : Env) : bindPatω (.var x) v σ = .ok (σ.set x v) :=
  lim_of_succ rfl (Tends.const _)

theorem bindPatω_wild (v : Val) (σ : Env) : bindPatω .wild v σ = .ok σ :=
  lim_of_succ rfl (Tends.const _)

theorem evalBω_of_run {Φ : Funs} {f : Nat} {σ μ C ss} {r : M (Outcome × Heap)}
    (h : evalB Φ f σ μ C ss = r) (hr : r ≠ .error .outOfFuel) : evalBω Φ σ μ C ss = r :=
  (tends_evalB Φ σ μ C ss).definite h hr

theorem run_of_evalBω {Φ : Funs} {σ μ C ss} {r : M (Outcome × Heap)}
    (h : evalBω Φ σ μ C ss = r) (hr : r ≠ .error .outOfFuel) : ∃ f, ∀ f', f ≤ f' → evalB Φ f' σ μ C ss = r := by
  subst h; exact (tends_evalB Φ σ μ C ss).reach hr

theorem evalSω_of_run {Φ : Funs} {f : Nat} {σ μ C s} {r : M (Outcome × Heap)}
    (h : evalS Φ f σ μ C s = r) (hr : r ≠ .error .outOfFuel) : evalSω Φ σ μ C s = r :=
  (tends_evalS Φ σ μ C s).definite h hr

theorem run_of_evalSω {Φ : Funs} {σ μ C s} {r : M (Outcome × Heap)}
    (h : evalSω Φ σ μ C s = r) (hr : r ≠ .error .outOfFuel) : ∃ f, ∀ f', f ≤ f' → evalS Φ f' σ μ C s = r := by
  subst h; exact (tends_evalS Φ σ μ C s).reach hr

theorem evalEω_of_run {Φ : Funs} {f : Nat} {σ μ C e} {r : M (Val × Heap)}
    (h : evalE Φ f σ μ C e = r) (hr : r ≠ .error .outOfFuel) : evalEω Φ σ μ C e = r :=
  (tends_evalE Φ σ μ C e).definite h hr

theorem run_of_evalEω {Φ : Funs} {σ μ C e} {r : M (Val × Heap)}
    (h : evalEω Φ σ μ C e = r) (hr : r ≠ .error .outOfFuel) : ∃ f, ∀ f', f ≤ f' → evalE Φ f' σ μ C e = r := by
  subst h; exact (tends_evalE Φ σ μ C e).reach hr

def Returns (Φ : Funs) (σ : Env) (μ : Heap) (C : Ctx) (ss : List Stmt) (v : Val) (μ' : Heap) : Prop :=
  ∃ f, evalB Φ f σ μ C ss = .ok (.ret v, μ')

def Normal (Φ : Funs) (σ : Env) (μ : Heap) (C : Ctx) (ss : List Stmt) (σ' : Env) (μ' : Heap) : Prop :=
  ∃ f, evalB Φ f σ μ C ss = .ok (.normal σ', μ')

def Fails (Φ : Funs) (σ : Env) (μ : Heap) (C : Ctx) (ss : List Stmt) (e : Err) : Prop :=
  e ≠ .outOfFuel ∧ ∃ f, evalB Φ f σ μ C ss = .error e

def Diverges (Φ : Funs) (σ : Env) (μ : Heap) (C : Ctx) (ss : List Stmt) : Prop :=
  ∀ f, evalB Φ f σ μ C ss = .error .outOfFuel

theorem run_iff {Φ σ μ C ss} {r : M (Outcome × Heap)} (hr : r ≠ .error .outOfFuel) :
    (∃ f, evalB Φ f σ μ C ss = r) ↔ evalBω Φ σ μ C ss = r :=
  ⟨fun ⟨_, h⟩ => evalBω_of_run h hr, fun h => let ⟨f, hf⟩ := run_of_evalBω h hr; ⟨f, hf f (Nat.le_refl _)⟩⟩

theorem returns_iff {Φ σ μ C ss v μ'} : Returns Φ σ μ C ss v μ' ↔ evalBω Φ σ μ C ss = .ok (.ret v, μ') :=
  run_iff nofun

theorem normal_iff {Φ σ μ C ss σ' μ'} : Normal Φ σ μ C ss σ' μ' ↔ evalBω Φ σ μ C ss = .ok (.normal σ', μ') :=
  run_iff nofun

theorem fails_iff {Φ σ μ C ss e} : Fails Φ σ μ C ss e ↔ e ≠ .outOfFuel ∧ evalBω Φ σ μ C ss = .error e :=
  and_congr_right fun he => run_iff fun h => he (by cases h; rfl)

theorem diverges_iff {Φ σ μ C ss} : Diverges Φ σ μ C ss ↔ evalBω Φ σ μ C ss = .error .outOfFuel := by
  constructor
  · intro h
    apply Tends.lim_eq
    exact ⟨fun n => .inl (h n), fun hne => absurd rfl hne⟩
  · intro h f
    rcases (tends_evalB Φ σ μ C ss).le f with h1 | h1
    · exact h1
    · exact h1.trans h

theorem run_det {Φ σ μ C ss} {r r' : M (Outcome × Heap)} (h : ∃ f, evalB Φ f σ μ C ss = r) (h' : ∃ f, evalB Φ f σ μ C ss = r')
    (hr : r ≠ .error .outOfFuel) (hr' : r' ≠ .error .outOfFuel) : r = r' :=
  ((run_iff hr).1 h).symm.trans ((run_iff hr').1 h')

theorem Returns.det {Φ σ μ C ss v μ' w μ''} (h1 : Returns Φ σ μ C ss v μ') (h2 : Returns Φ σ μ C ss w μ'') :
    v = w ∧ μ' = μ'' := by
  cases run_det h1 h2 nofun nofun; exact ⟨rfl, rfl⟩

theorem Normal.det {Φ σ μ C ss σ' μ' σ'' μ''} (h1 : Normal Φ σ μ C ss σ' μ') (h2 : Normal Φ σ μ C ss σ'' μ'') :
    σ' = σ'' ∧ μ' = μ'' := by
  cases run_det h1 h2 nofun nofun; exact ⟨rfl, rfl⟩

theorem Returns.not_normal {Φ σ μ C ss v μ' σ'' μ''} (h1 : Returns Φ σ μ C ss v μ') (h2 : Normal Φ σ μ C ss σ'' μ'') : False := by
  cases run_det h1 h2 nofun nofun

theorem Returns.not_fails {Φ σ μ C ss v μ' e} (h1 : Returns Φ σ μ C ss v μ') (h2 : Fails Φ σ μ C ss e) : False := by
  cases run_det h1 h2.2 nofun fun h => h2.1 (by cases h; rfl)

theorem Returns.stable {Φ σ μ C ss v μ' f f'} (h : evalB Φ f σ μ C ss = .ok (.ret v, μ')) (hf : f ≤ f') :
    evalB Φ f' σ μ C ss = .ok (.ret v, μ') :=
  evalB_fuel_mono hf h (by intro h0; cases h0)

def BEquiv (Φ : Funs) (ss ss' : List Stmt) : Prop :=
  ∀ σ μ C, evalBω Φ σ μ C ss = evalBω Φ σ μ C ss'

theorem BEquiv.returns {Φ ss ss'} (h : BEquiv Φ ss ss') {σ μ C v μ'} :
    Returns Φ σ μ C ss v μ' ↔ Returns Φ σ μ C ss' v μ' := by
  rw [returns_iff, returns_iff, h σ μ C]

theorem BEquiv.normal {Φ ss ss'} (h : BEquiv Φ ss ss') {σ μ C σ' μ'} :
    Normal Φ σ μ C ss σ' μ' ↔ Normal Φ σ μ C ss' σ' μ' := by
  rw [normal_iff, normal_iff, h σ μ C]

theorem BEquiv.fails {Φ ss ss'} (h : BEquiv Φ ss ss') {σ μ C e} :
    Fails Φ σ μ C ss e ↔ Fails Φ σ μ C ss' e := by
  rw [fails_iff, fails_iff, h σ μ C]

theorem BEquiv.diverges {Φ ss ss'} (h : BEquiv Φ ss ss') {σ μ C} :
    Diverges Φ σ μ C ss ↔ Diverges Φ σ μ C ss' := by
  rw [diverges_iff, diverges_iff, h σ μ C]

theorem ok_bind {α β : Type} (a : α) (f : α → M β) : ((Except.ok a : M α) >>= f) = f a := rfl
theorem error_bind {α β : Type} (e : Err) (f : α → M β) : ((Except.error e : M α) >>= f) = .error e := rfl

noncomputable def thenB (Φ : Funs) (C : Ctx) (ts : List Stmt) (r : Outcome × Heap) : M (Outcome × Heap) :=
  match r with
  | (.ret v, μ') => .ok (.ret v, μ')
  | (.normal σ', μ') => evalBω Φ σ' μ' C ts

theorem evalBω_cons' (Φ : Funs) (σ : Env) (μ : Heap) (C : Ctx) (s : Stmt) (ss : List Stmt) :
    evalBω Φ σ μ C (s :: ss) = evalSω Φ σ μ C s >>= thenB Φ C ss := by
  rw [evalBω_cons]; congr 1; funext ⟨o, μ'⟩; cases o <;> rfl

theorem evalBω_assign_var (Φ : Funs) (σ : Env) (μ : Heap) (C : Ctx) (x : String) (e : Expr) (rest : List Stmt) :
    evalBω Φ σ μ C (.assign (.var x) e :: rest) =
      evalEω Φ σ μ C e >>= fun r => evalBω Φ (σ.set x r.1) r.2 C rest := by
  rw [evalBω_cons', evalSω_assign]
  cases evalEω Φ σ μ C e with
  | error _ => rfl
  | ok r => show (bindPatω (.var x) r.1 σ >>= _ >>= _) = _; rw [bindPatω_var]; rfl

theorem thenB_nil (Φ : Funs) (C : Ctx) (r : Outcome × Heap) : thenB Φ C [] r = .ok r := by
  obtain ⟨o, μ'⟩ := r
  cases o
  · simp only [thenB, evalBω_nil]
  · rfl

theorem thenB_ret (Φ : Funs) (C : Ctx) (ts : List Stmt) (v : Val) (m : Heap) : thenB Φ C ts (.ret v, m) = .ok (.ret v, m) := rfl

theorem evalBω_single (Φ : Funs) (σ : Env) (μ : Heap) (C : Ctx) (s : Stmt) :
    evalBω Φ σ μ C [s] = evalSω Φ σ μ C s := by
  rw [evalBω_cons']
  cases evalSω Φ σ μ C s with
  | error e => rfl
  | ok r => exact thenB_nil Φ C r

/-- the form in which a callee with declared context `D` is inlined; the outer context is back in force afterwards
(`thenB … C` in `with_ctx_wrap_block`) -/
theorem with_ctx_wrap (Φ : Funs) (σ : Env) (μ : Heap) (C D : Ctx) (body : List Stmt) :
    evalSω Φ σ μ C (.with (.ctxLit D) none body) = evalBω Φ σ μ D body := by
  rw [evalSω_with, evalEω_ctxLit]; rfl

theorem with_ctx_wrap_block (Φ : Funs) (σ : Env) (μ : Heap) (C D : Ctx) (body rest : List Stmt) :
    evalBω Φ σ μ C (.with (.ctxLit D) none body :: rest) = evalBω Φ σ μ D body >>= thenB Φ C rest := by
  rw [evalBω_cons', with_ctx_wrap]

theorem evalBω_append (Φ : Funs) (C : Ctx) (ss ts : List Stmt) : ∀ (σ : Env) (μ : Heap),
    evalBω Φ σ μ C (ss ++ ts) = evalBω Φ σ μ C ss >>= thenB Φ C ts := by
  induction ss with
  | nil => intro σ μ; rw [evalBω_nil]; rfl
  | cons s ss ih =>
    intro σ μ
    rw [List.cons_append, evalBω_cons', evalBω_cons', bind_assoc]
    congr 1; funext ⟨o, μ'⟩
    cases o with
    | ret v => rfl
    | normal σ' => exact ih σ' μ'

def SEquiv (Φ : Funs) (s s' : Stmt) : Prop := ∀ σ μ C, evalSω Φ σ μ C s = evalSω Φ σ μ C s'

theorem BEquiv.refl (Φ : Funs) (ss : List Stmt) : BEquiv Φ ss ss := fun _ _ _ => rfl
theorem BEquiv.symm {Φ : Funs} {a b : List Stmt} (h : BEquiv Φ a b) : BEquiv Φ b a := fun σ μ C => (h σ μ C).symm
theorem BEquiv.trans {Φ : Funs} {a b c : List Stmt} (h : BEquiv Φ a b) (h' : BEquiv Φ b c) : BEquiv Φ a c :=
  fun σ μ C => (h σ μ C).trans (h' σ μ C)
theorem SEquiv.refl (Φ : Funs) (s : Stmt) : SEquiv Φ s s := fun _ _ _ => rfl
theorem SEquiv.symm {Φ : Funs} {a b : Stmt} (h : SEquiv Φ a b) : SEquiv Φ b a := fun σ μ C => (h σ μ C).symm
theorem SEquiv.trans {Φ : Funs} {a b c : Stmt} (h : SEquiv Φ a b) (h' : SEquiv Φ b c) : SEquiv Φ a c :=
  fun σ μ C => (h σ μ C).trans (h' σ μ C)

theorem thenB_congr {Φ : Funs} {C : Ctx} {ts ts' : List Stmt} (h : BEquiv Φ ts ts') : thenB Φ C ts = thenB Φ C ts' := by
  funext r; obtain ⟨o, μ'⟩ := r
  cases o with
  | ret v => rfl
  | normal σ' => exact h σ' μ' C

theorem BEquiv.cons {Φ : Funs} {s s' : Stmt} {ss ss' : List Stmt} (h : SEquiv Φ s s') (h' : BEquiv Φ ss ss') :
    BEquiv Φ (s :: ss) (s' :: ss') := by
  intro σ μ C; rw [evalBω_cons', evalBω_cons', h σ μ C, thenB_congr h']

theorem BEquiv.append {Φ : Funs} {a a' b b' : List Stmt} (h : BEquiv Φ a a') (h' : BEquiv Φ b b') :
    BEquiv Φ (a ++ b) (a' ++ b') := by
  intro σ μ C; rw [evalBω_append, evalBω_append, h σ μ C, thenB_congr h']

theorem SEquiv.ifte {Φ : Funs} (c : Expr) {t t' f f' : List Stmt} (ht : BEquiv Φ t t') (hf : BEquiv Φ f f') :
    SEquiv Φ (.ifte c t f) (.ifte c t' f') := by
  intro σ μ C; rw [evalSω_ifte, evalSω_ifte]
  congr 1; funext ⟨v, μ'⟩; dsimp only; congr 1; funext bb
  cases bb
  · exact hf σ μ' C
  · exact ht σ μ' C

theorem SEquiv.if1 {Φ : Funs} (c : Expr) {t t' : List Stmt} (ht : BEquiv Φ t t') :
    SEquiv Φ (.if1 c t) (.if1 c t') := by
  intro σ μ C; rw [evalSω_if1, evalSω_if1]; exact SEquiv.ifte c ht (BEquiv.refl Φ []) σ μ C

theorem SEquiv.with {Φ : Funs} (ce : Expr) (nm : Option String) {b b' : List Stmt} (hb : BEquiv Φ b b') :
    SEquiv Φ (.with ce nm b) (.with ce nm b') := by
  intro σ μ C; rw [evalSω_with, evalSω_with]
  congr 1; funext ⟨cv, μ'⟩
  cases cv <;> first | rfl | exact hb _ _ _

/-- `k` applications of the single unroll step of `_WhileUnroll._visit_while`:
`U₀ = while c: b`, `Uₖ₊₁ = if c: (b; Uₖ)` -/
def unrollWhile (c : Expr) (b : List Stmt) : Nat → Stmt
  | 0 => .while c b
  | k + 1 => .if1 c (b ++ [unrollWhile c b k])

theorem while_unfold (Φ : Funs) (c : Expr) (b : List Stmt) : SEquiv Φ (.while c b) (.if1 c (b ++ [.while c b])) := by
  intro σ μ C
  rw [evalSω_while, evalSω_if1, evalSω_ifte]
  congr 1; funext ⟨v, μ'⟩
  dsimp only
  congr 1; funext bb
  cases bb with
  | false => exact (evalBω_nil Φ σ μ' C).symm
  | true =>
    simp only [if_true]
    rw [evalBω_append]
    congr 1; funext ⟨o, μ''⟩
    cases o with
    | ret v => rfl
    | normal σ' => exact (evalBω_single Φ σ' μ'' C _).symm

theorem unrollWhile_sequiv (Φ : Funs) (c : Expr) (b : List Stmt) : ∀ k, SEquiv Φ (unrollWhile c b k) (.while c b)
  | 0 => SEquiv.refl Φ _
  | k + 1 =>
    (SEquiv.if1 c (BEquiv.append (BEquiv.refl Φ b) (BEquiv.cons (unrollWhile_sequiv Φ c b k) (BEquiv.refl Φ [])))).trans
      (while_unfold Φ c b).symm

/-- C08, `while` unrolling: every unroll count `k`, any code before and after the loop -/
theorem while_unroll_sound (Φ : Funs) (c : Expr) (b pre rest : List Stmt) (k : Nat) :
    BEquiv Φ (pre ++ unrollWhile c b k :: rest) (pre ++ .while c b :: rest) :=
  BEquiv.append (BEquiv.refl Φ pre) (BEquiv.cons (unrollWhile_sequiv Φ c b k) (BEquiv.refl Φ rest))

theorem while_unroll_returns (Φ : Funs) (c : Expr) (b pre rest : List Stmt) (k : Nat) (σ : Env) (μ : Heap) (C : Ctx)
    (v : Val) (μ' : Heap) :
    Returns Φ σ μ C (pre ++ unrollWhile c b k :: rest) v μ' ↔ Returns Φ σ μ C (pre ++ .while c b :: rest) v μ' :=
  (while_unroll_sound Φ c b pre rest k).returns

theorem while_unroll_normal (Φ : Funs) (c : Expr) (b pre rest : List Stmt) (k : Nat) (σ : Env) (μ : Heap) (C : Ctx)
    (σ' : Env) (μ' : Heap) :
    Normal Φ σ μ C (pre ++ unrollWhile c b k :: rest) σ' μ' ↔ Normal Φ σ μ C (pre ++ .while c b :: rest) σ' μ' :=
  (while_unroll_sound Φ c b pre rest k).normal

/-- `evalSω_while` is a fixed-point equation and does not determine `evalSω` on a loop, so the congruence under
`while` (and `for`) goes back to the fuel: every finite run of one loop is below the limit of the other -/
theorem while_le {Φ : Funs} {C : Ctx} (c : Expr) {b b' : List Stmt} (hb : ∀ σ μ, evalBω Φ σ μ C b = evalBω Φ σ μ C b') :
    ∀ n σ μ, Le (evalS Φ n σ μ C (.while c b)) (evalSω Φ σ μ C (.while c b')) := by
  intro n
  induction n with
  | zero => intro σ μ; exact Le.oof _
  | succ n ih =>
    intro σ μ
    rw [evalSω_while]
    dsimp only [evalS]
    apply Le.bind ((tends_evalE Φ σ μ C c).le n)
    intro ⟨v, μ'⟩
    apply Le.bind (Le.refl _)
    intro bb
    cases bb with
    | false => exact Le.refl _
    | true =>
      simp only [if_true]
      apply Le.bind
      · rw [← hb]; exact (tends_evalB Φ σ μ' C b).le n
      · intro ⟨o, μ''⟩
        cases o with
        | ret v => exact Le.refl _
        | normal σ' => exact ih σ' μ''

theorem SEquiv.while {Φ : Funs} (c : Expr) {b b' : List Stmt} (hb : BEquiv Φ b b') :
    SEquiv Φ (.while c b) (.while c b') := by
  intro σ μ C
  exact lim_eq_of_le (tends_evalS Φ σ μ C _) (tends_evalS Φ σ μ C _)
    (fun n => while_le c (fun σ μ => hb σ μ C) n σ μ)
    (fun n => while_le c (fun σ μ => (hb σ μ C).symm) n σ μ)

theorem forLoop_le {Φ : Funs} {C : Ctx} (r : Nat) (p : Pat) {b b' : List Stmt} (hb : ∀ σ μ, evalBω Φ σ μ C b = evalBω Φ σ μ C b') :
    ∀ n σ μ i, Le (forLoop Φ n σ μ C r i p b) (forLoopω Φ σ μ C r i p b') := by
  intro n
  induction n with
  | zero => intro σ μ i; exact Le.oof _
  | succ n ih =>
    intro σ μ i
    rw [forLoopω_eq]
    dsimp only [forLoop]
    apply Le.bind (Le.refl _)
    intro l
    cases l[i]? with
    | none => exact Le.refl _
    | some x =>
      apply Le.bind ((tends_bindPat p x σ).le n)
      intro σ'
      apply Le.bind
      · rw [← hb]; exact (tends_evalB Φ σ' μ C b).le n
      · intro ⟨o, μ''⟩
        cases o with
        | ret v => exact Le.refl _
        | normal σ'' => exact ih σ'' μ'' (i + 1)

theorem SEquiv.for {Φ : Funs} (p : Pat) (it : Expr) {b b' : List Stmt} (hb : BEquiv Φ b b') :
    SEquiv Φ (.for p it b) (.for p it b') := by
  intro σ μ C
  rw [evalSω_for, evalSω_for]
  congr 1; funext ⟨iv, μ'⟩
  cases iv <;> try rfl
  rename_i r
  exact lim_eq_of_le (tends_forLoop Φ σ μ' C r 0 p _) (tends_forLoop Φ σ μ' C r 0 p _)
    (fun n => forLoop_le r p (fun σ μ => hb σ μ C) n σ μ' 0)
    (fun n => forLoop_le r p (fun σ μ => (hb σ μ C).symm) n σ μ' 0)

end Fpy.Xform
