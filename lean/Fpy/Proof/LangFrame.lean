/-
Two invariants of statement execution, by one induction on the fuel — FRAME: a block that ends normally changed only
variables it binds (`bvB`); NO-RETURN: a block without a `return` statement never produces a `return` outcome — and
what rests on them: inlining one call `t = f(args)` whose callee body is `ss; return e` with no other `return` (C09),
and the passage from blocks to whole functions (`callEntry`: equivalent bodies, pinning the context).
-/
import Fpy.Proof.LangSim
namespace Fpy.Xform
open Fpy Fpy.Lang

structure Post {α : Type} (Q : α → Prop) (a : M α) : Prop where
  out : ∀ r, a = .ok r → Q r

theorem Post.ok {α : Type} {Q : α → Prop} {r : α} (h : Q r) : Post Q (.ok r) :=
  ⟨by intro r' h'; cases h'; exact h⟩

theorem Post.error {α : Type} {Q : α → Prop} (e : Err) : Post Q (.error e : M α) :=
  ⟨by intro r' h'; cases h'⟩

theorem Post.bind {α β : Type} {Q : α → Prop} {P : β → Prop} {a : M α} {f : α → M β}
    (h : Post Q a) (hf : ∀ x, Q x → Post P (f x)) : Post P (a >>= f) := by
  cases a with
  | error e => exact Post.error e
  | ok x => exact hf x (h.out x rfl)

theorem Post.bind' {α β : Type} {P : β → Prop} {a : M α} {f : α → M β}
    (hf : ∀ x, Post P (f x)) : Post P (a >>= f) :=
  Post.bind (Q := fun _ => True) ⟨fun _ _ => trivial⟩ fun x _ => hf x

theorem Post.mono {α : Type} {Q P : α → Prop} {a : M α} (h : Post Q a) (hqp : ∀ r, Q r → P r) : Post P a :=
  ⟨fun r hr => hqp r (h.out r hr)⟩

theorem Post.tends {α : Type} {Q : α → Prop} {a : Nat → M α} {l : M α} (ha : Tends a l) (h : ∀ n, Post Q (a n)) :
    Post Q l := by
  refine ⟨fun r hr => ?_⟩
  obtain ⟨n, hn⟩ := ha.reach (by rw [hr]; intro h0; cases h0)
  exact (h n).out r (by rw [hn n (Nat.le_refl _), hr])

theorem bindPat_frame : ∀ (n : Nat) (p : Pat) (v : Val) (σ : Env),
    Post (fun σ' => ∀ z, z ∉ bvP p → σ'.get? z = σ.get? z) (bindPat n p v σ) := by
  intro n
  induction n with
  | zero => intro p v σ; simp only [bindPat]; exact Post.error _
  | succ n ih =>
    have hgo : ∀ (ps : List Pat) (vs : List Val) (σ : Env),
        Post (fun σ' => ∀ z, z ∉ bvPs ps → σ'.get? z = σ.get? z) (bindPat.go n ps vs σ) := by
      intro ps
      induction ps with
      | nil => intro vs σ; simp only [bindPat.go]; exact Post.ok (fun _ _ => rfl)
      | cons p ps ihp =>
        intro vs σ
        cases vs with
        | nil => simp only [bindPat.go]; exact Post.ok (fun _ _ => rfl)
        | cons v vs =>
          simp only [bindPat.go]
          apply Post.bind (ih p v σ)
          intro σ1 h1
          apply Post.mono (ihp vs σ1)
          intro σ' h2 z (hz : z ∉ bvP p ++ bvPs ps)
          rw [h2 z (not_mem_of_not_mem_append_right hz), h1 z (not_mem_of_not_mem_append_left hz)]
    intro p v σ
    cases p with
    | var x =>
      simp only [bindPat]
      apply Post.ok
      intro z hz
      have hz' : z ∉ [x] := hz
      exact Env.get?_set_ne σ v fun (h : x = z) => hz' (h ▸ List.mem_singleton.2 rfl)
    | wild => simp only [bindPat]; exact Post.ok (fun _ _ => rfl)
    | tup ps =>
      cases v <;> simp only [bindPat] <;> try (exact Post.error _)
      split
      · exact Post.error _
      · exact hgo ps _ σ

def NoRet (r : Outcome × Heap) : Prop := ∀ v, r.1 ≠ .ret v

theorem NoRet.normal (σ : Env) (μ : Heap) : NoRet (.normal σ, μ) := by intro v h; cases h

/-- of the result `r` of a statement that binds at most `V`, run from `σ`: a normal end differs from `σ` on `V` only,
and `r` is no `return` if the statement contains none (`nr`) -/
def Exec (V : List String) (nr : Bool) (σ : Env) (r : Outcome × Heap) : Prop :=
  (∀ σ', r.1 = .normal σ' → ∀ z, z ∉ V → σ'.get? z = σ.get? z) ∧ (nr = true → NoRet r)

theorem Exec.same (V : List String) (nr : Bool) (σ : Env) (μ : Heap) : Exec V nr σ (.normal σ, μ) :=
  ⟨fun σ' h z _ => by cases h; rfl, fun _ => NoRet.normal σ μ⟩

theorem Exec.ret (V : List String) (σ : Env) (v : Val) (μ : Heap) : Exec V false σ (.ret v, μ) :=
  ⟨nofun, nofun⟩

theorem Exec.trans {V W : List String} {nr nr' : Bool} {σ σ1 : Env} {r : Outcome × Heap} (h : Exec V nr σ1 r)
    (hVW : ∀ z, z ∉ W → z ∉ V) (h1 : ∀ z, z ∉ W → σ1.get? z = σ.get? z) (hn : nr' = true → nr = true) :
    Exec W nr' σ r :=
  ⟨fun σ' hr z hz => by rw [h.1 σ' hr z (hVW z hz), h1 z hz], fun h' => h.2 (hn h')⟩

structure ExecAt (Φ : Funs) (n : Nat) : Prop where
  evalS : ∀ σ μ C s, Post (Exec (bvS s) (noRetS s) σ) (evalS Φ n σ μ C s)
  forLoop : ∀ σ μ C r i p b, Post (Exec (bvP p ++ bvB b) (noRetB b) σ) (forLoop Φ n σ μ C r i p b)
  evalB : ∀ σ μ C ss, Post (Exec (bvB ss) (noRetB ss) σ) (evalB Φ n σ μ C ss)

theorem exec_evalB_step {Φ : Funs} {n : Nat} (ih : ExecAt Φ n) :
    ∀ σ μ C ss, Post (Exec (bvB ss) (noRetB ss) σ) (evalB Φ (n+1) σ μ C ss) := by
  intro σ μ C ss
  cases ss with
  | nil => exact Post.ok (Exec.same _ _ _ _)
  | cons s ss =>
    have hn : noRetB (s :: ss) = true → noRetS s = true ∧ noRetB ss = true := (Bool.and_eq_true _ _).mp
    dsimp only [evalB]
    apply Post.bind (ih.evalS σ μ C s)
    intro ⟨o, μ'⟩ ho
    cases o with
    | ret v => exact Post.ok (ho.trans (fun z hz => not_mem_of_not_mem_append_left hz) (fun _ _ => rfl) (hn · |>.1))
    | normal σ1 =>
      exact Post.mono (ih.evalB σ1 μ' C ss) fun r hr => hr.trans (fun z hz => not_mem_of_not_mem_append_right hz)
        (fun z hz => ho.1 σ1 rfl z (not_mem_of_not_mem_append_left hz)) (hn · |>.2)

theorem exec_forLoop_step {Φ : Funs} {n : Nat} (ih : ExecAt Φ n) :
    ∀ σ μ C r i p b, Post (Exec (bvP p ++ bvB b) (noRetB b) σ) (forLoop Φ (n+1) σ μ C r i p b) := by
  intro σ μ C r i p b
  dsimp only [forLoop]
  apply Post.bind'; intro l
  cases l[i]? with
  | none => exact Post.ok (Exec.same _ _ _ _)
  | some x =>
    apply Post.bind (bindPat_frame n p x σ)
    intro σ1 h1
    apply Post.bind (ih.evalB σ1 μ C b)
    intro ⟨o, μ'⟩ ho
    cases o with
    | ret v =>
      exact Post.ok (ho.trans (fun z hz => not_mem_of_not_mem_append_right hz) (fun z hz => h1 z (not_mem_of_not_mem_append_left hz)) id)
    | normal σ2 =>
      refine Post.mono (ih.forLoop σ2 μ' C r (i + 1) p b) fun r' hr => hr.trans (fun z hz => hz) (fun z hz => ?_) id
      rw [ho.1 σ2 rfl z (not_mem_of_not_mem_append_right hz), h1 z (not_mem_of_not_mem_append_left hz)]

theorem exec_evalS_step {Φ : Funs} {n : Nat} (ih : ExecAt Φ n) :
    ∀ σ μ C s, Post (Exec (bvS s) (noRetS s) σ) (evalS Φ (n+1) σ μ C s) := by
  intro σ μ C s
  cases s with
  | assign p e =>
    dsimp only [evalS]
    apply Post.bind'; intro ⟨v, μ'⟩
    apply Post.bind (bindPat_frame n p v σ)
    intro σ1 h1
    refine Post.ok ⟨fun σ' hσ' z hz => ?_, fun _ => NoRet.normal _ _⟩
    cases hσ'
    exact h1 z (not_mem_of_not_mem_append_left (hz : z ∉ bvP p ++ bvE e))
  | iassign x is e =>
    dsimp only [evalS]
    apply Post.bind'; intro ⟨v, μ0⟩
    apply Post.bind'; intro ⟨ivs, μ1⟩
    apply Post.bind'; intro ks
    cases σ.get? x with
    | none => exact Post.error _
    | some base =>
      apply Post.bind'; intro ⟨r, k⟩
      apply Post.bind'; intro l
      split
      · exact Post.ok (Exec.same _ _ _ _)
      · exact Post.error _
  | ifte c t f =>
    have hn : noRetS (.ifte c t f) = true → noRetB t = true ∧ noRetB f = true := (Bool.and_eq_true _ _).mp
    dsimp only [evalS]
    apply Post.bind'; intro ⟨v, μ'⟩
    apply Post.bind'; intro bb
    split
    · exact Post.mono (ih.evalB σ μ' C t) fun r hr => hr.trans
        (fun z (hz : z ∉ bvE c ++ bvB t ++ bvB f) => not_mem_of_not_mem_append_right (not_mem_of_not_mem_append_left hz))
        (fun _ _ => rfl) (hn · |>.1)
    · exact Post.mono (ih.evalB σ μ' C f) fun r hr => hr.trans
        (fun z (hz : z ∉ bvE c ++ bvB t ++ bvB f) => not_mem_of_not_mem_append_right hz) (fun _ _ => rfl) (hn · |>.2)
  | if1 c t =>
    dsimp only [evalS]
    apply Post.bind'; intro ⟨v, μ'⟩
    apply Post.bind'; intro bb
    split
    · exact Post.mono (ih.evalB σ μ' C t) fun r hr => hr.trans
        (fun z (hz : z ∉ bvE c ++ bvB t) => not_mem_of_not_mem_append_right hz) (fun _ _ => rfl) id
    · exact Post.ok (Exec.same _ _ _ _)
  | «while» c b =>
    dsimp only [evalS]
    apply Post.bind'; intro ⟨v, μ'⟩
    apply Post.bind'; intro bb
    have hV : ∀ z, z ∉ bvS (.while c b) → z ∉ bvB b := fun z (hz : z ∉ bvE c ++ bvB b) => not_mem_of_not_mem_append_right hz
    split
    · apply Post.bind (ih.evalB σ μ' C b)
      intro ⟨o, μ''⟩ ho
      cases o with
      | ret v => exact Post.ok (ho.trans hV (fun _ _ => rfl) id)
      | normal σ1 =>
        exact Post.mono (ih.evalS σ1 μ'' C (.while c b)) fun r hr =>
          hr.trans (fun z hz => hz) (fun z hz => ho.1 σ1 rfl z (hV z hz)) id
    · exact Post.ok (Exec.same _ _ _ _)
  | «for» p it b =>
    dsimp only [evalS]
    apply Post.bind'; intro ⟨iv, μ'⟩
    cases iv <;> first
      | exact Post.error _
      | skip
    exact Post.mono (ih.forLoop σ μ' C _ 0 p b) fun r hr => hr.trans
      (fun z (hz : z ∉ bvP p ++ bvE it ++ bvB b) h' => (List.mem_append.1 h').elim
        (not_mem_of_not_mem_append_left (not_mem_of_not_mem_append_left hz)) (not_mem_of_not_mem_append_right hz))
      (fun _ _ => rfl) id
  | «with» ce nm b =>
    have hV : bvS (.with ce nm b) = (match nm with | some x => [x] | none => []) ++ bvE ce ++ bvB b := rfl
    dsimp only [evalS]
    apply Post.bind'; intro ⟨cv, μ'⟩
    cases cv <;> first
      | exact Post.error _
      | skip
    rename_i C'
    refine Post.mono (ih.evalB _ μ' C' b) fun r hr => hr.trans (fun z hz => ?_) (fun z hz => ?_) id
    all_goals rw [hV] at hz
    · exact not_mem_of_not_mem_append_right hz
    · cases nm with
      | none => rfl
      | some x =>
        have hzx : z ∉ [x] := not_mem_of_not_mem_append_left (not_mem_of_not_mem_append_left hz)
        exact Env.get?_set_ne σ _ fun (h : x = z) => hzx (h ▸ List.mem_singleton.2 rfl)
  | assert e =>
    exact Post.bind' fun _ => Post.bind' fun bb => by cases bb; exact Post.error _; exact Post.ok (Exec.same _ _ _ _)
  | effect e => exact Post.bind' fun _ => Post.ok (Exec.same _ _ _ _)
  | ret e => exact Post.bind' fun _ => Post.ok (Exec.ret _ _ _ _)
  | pass => exact Post.ok (Exec.same _ _ _ _)

theorem execAt (Φ : Funs) : ∀ n, ExecAt Φ n := by
  intro n
  induction n with
  | zero => constructor <;> intros <;> exact Post.error _
  | succ n ih => exact ⟨exec_evalS_step ih, exec_forLoop_step ih, exec_evalB_step ih⟩

theorem evalBω_exec (Φ : Funs) (σ : Env) (μ : Heap) (C : Ctx) (ss : List Stmt) :
    Post (Exec (bvB ss) (noRetB ss) σ) (evalBω Φ σ μ C ss) :=
  Post.tends (tends_evalB Φ σ μ C ss) (fun n => (execAt Φ n).evalB σ μ C ss)

theorem evalBω_frame (Φ : Funs) (σ : Env) (μ : Heap) (C : Ctx) (ss : List Stmt) {σ' : Env} {μ' : Heap}
    (h : evalBω Φ σ μ C ss = .ok (.normal σ', μ')) : ∀ z, z ∉ bvB ss → σ'.get? z = σ.get? z :=
  ((evalBω_exec Φ σ μ C ss).out _ h).1 σ' rfl

theorem evalBω_noRet (Φ : Funs) (σ : Env) (μ : Heap) (C : Ctx) (ss : List Stmt) (h : noRetB ss = true)
    {v : Val} {μ' : Heap} : evalBω Φ σ μ C ss ≠ .ok (.ret v, μ') :=
  fun h' => ((evalBω_exec Φ σ μ C ss).out _ h').2 h v rfl

theorem setAll_get?_notin (ps : List String) (vs : List Val) (σ : Env) (z : String) (hz : z ∉ ps) :
    (setAll σ (ps.zip vs)).get? z = σ.get? z := by
  rcases get?_setAll (ps.zip vs) σ z with ⟨_, e⟩ | ⟨v, hv, _⟩
  · exact e
  · exact absurd (List.of_mem_zip hv).1 hz

theorem inv_setAll {R : VRel} : ∀ (ps' ps : List String) (vs : List Val) (σ1 σ2 : Env), Inv R σ1 σ2 →
    ((ps'.zip ps).all fun p => R.bindOK p.1 p.2) = true → ps'.length = ps.length →
    Inv R (setAll σ1 (ps'.zip vs)) (setAll σ2 (ps.zip vs)) := by
  intro ps'
  induction ps' with
  | nil =>
    intro ps vs σ1 σ2 h _ hl
    cases ps with
    | nil => exact h
    | cons p ps => cases hl
  | cons p' ps' ih =>
    intro ps vs σ1 σ2 h hb hl
    cases ps with
    | nil => cases hl
    | cons p ps =>
      cases vs with
      | nil => exact h
      | cons v vs =>
        rw [List.zip_cons_cons, List.all_cons, Bool.and_eq_true] at hb
        rw [List.zip_cons_cons, List.zip_cons_cons, setAll_cons, setAll_cons]
        exact ih ps vs _ _ (h.set hb.1 v) hb.2 (Nat.succ.inj hl)

theorem evalEsω_length (Φ : Funs) (C : Ctx) : ∀ (es : List Expr) (σ : Env) (μ : Heap),
    Post (fun r => r.1.length = es.length) (evalEsω Φ σ μ C es) := by
  intro es
  induction es with
  | nil => intro σ μ; rw [evalEsω_nil]; exact Post.ok rfl
  | cons e es ih =>
    intro σ μ
    rw [evalEsω_cons]
    apply Post.bind'; intro ⟨v, μ1⟩
    apply Post.bind (ih σ μ1); intro ⟨vs, μ2⟩ h
    exact Post.ok (congrArg (· + 1) h)

/-- binding the arguments one statement at a time is evaluating the list, then binding: each argument reads the
caller's variables `xs` only, which the fresh names `ps'` leave alone -/
theorem bindArgs_eval (Φ : Funs) (C : Ctx) (xs : List String) (σ : Env) (K : List Stmt) :
    ∀ (ps' : List String) (args : List Expr) (σb : Env) (μ : Heap),
    ps'.length = args.length → simEs (idRel xs) args args = true → (∀ p ∈ ps', p ∉ xs) →
    (∀ z ∈ xs, σb.get? z = σ.get? z) →
    evalBω Φ σb μ C (bindArgs ps' args ++ K) =
      evalEsω Φ σ μ C args >>= fun r => evalBω Φ (setAll σb (ps'.zip r.1)) r.2 C K := by
  intro ps'
  induction ps' with
  | nil =>
    intro args σb μ hl _ _ _
    cases args with
    | nil => rw [evalEsω_nil]; rfl
    | cons a as => cases hl
  | cons p ps ih =>
    intro args σb μ hl hs hp hσ
    cases args with
    | nil => cases hl
    | cons a as =>
      replace hs : (simE (idRel xs) a a && simEs (idRel xs) as as) = true := hs
      rw [Bool.and_eq_true] at hs
      have ha : evalEω Φ σb μ C a = evalEω Φ σ μ C a := sim_evalEω (inv_idRel.2 hσ) hs.1 μ C
      show evalBω Φ σb μ C (.assign (.var p) a :: (bindArgs ps as ++ K)) = _
      rw [evalBω_assign_var, ha, evalEsω_cons]
      cases h1 : evalEω Φ σ μ C a with
      | error err => rfl
      | ok r =>
        obtain ⟨v, μ1⟩ := r
        have hσ' : ∀ z ∈ xs, (σb.set p v).get? z = σ.get? z := by
          intro z hz
          rw [Env.get?_set_ne _ _ fun (h : p = z) => hp p List.mem_cons_self (h ▸ hz)]
          exact hσ z hz
        rw [ok_bind, ih as (σb.set p v) μ1 (Nat.succ.inj hl) hs.2 (fun q hq => hp q (List.mem_cons_of_mem _ hq)) hσ']
        show _ = (evalEsω Φ σ μ1 C as >>= _ >>= _)
        cases evalEsω Φ σ μ1 C as <;> rfl

/-- the code `fpy2/transform/func_inline.py` puts in place of the call in `t = f(args)`, with one identification: the
real pass turns the callee's `return e` into `t₀ = e'` for a gensym `t₀` (`_replace_ret`; inside the `with D:` if there
is one) and leaves the caller's statement as `t = t₀`; here `t₀` is the target `t` itself -/
def inlineCall (ps' : List String) (args : List Expr) (ctx : Option Ctx) (ss' : List Stmt) (t : String) (e' : Expr)
    (rest : List Stmt) : List Stmt :=
  bindArgs ps' args ++
    ((match ctx with
      | some D => [.with (.ctxLit D) none (ss' ++ [.assign (.var t) e'])]
      | none => ss' ++ [.assign (.var t) e']) ++ rest)

/-- renamed body then `t = e'` in the caller's (extended) environment versus the callee's body then `return e` in
the callee's environment, both under the context `C'` -/
theorem inline_core {Φ : Funs} {ss : List Stmt} {e : Expr} (hnr : noRetB ss = true)
    {R : VRel} {ps' : List String} {ss' : List Stmt} {e' : Expr}
    (hsim : simB R ss' ss = true) (hsime : simE R e' e = true)
    {ys : List String} {rest : List Stmt} {t : String}
    (hrest : simB (idRel ys) rest rest = true)
    (hfresh_ys : ∀ z ∈ ys, z ≠ t → z ∉ ps' ∧ z ∉ bvB ss')
    {σ σk σ0 : Env} {vs : List Val} (hσk : setAll σ (ps'.zip vs) = σk) (hσ0 : Inv R σk σ0)
    (μ1 : Heap) (C C' : Ctx) (body : List Stmt) (hbody : body = ss ++ [.ret e])
    -- `X` is the call as `evalEω_call` unfolds it; it is fixed up to `rfl` so that the caller need not write that term
    (X : M (Val × Heap))
    (hX : X = (do
      let r0 ← evalBω Φ σ0 μ1 C' body
      match r0.1 with
      | .ret v => (Except.ok (v, r0.2) : M (Val × Heap))
      | .normal _ => .error .assertion)) :
    RelM (OutRel (idRel ys)) ((evalBω Φ σk μ1 C' ss' >>= thenB Φ C' [.assign (.var t) e']) >>= thenB Φ C rest)
      (X >>= fun r => evalBω Φ (σ.set t r.1) r.2 C rest) := by
  subst hX hbody
  rw [evalBω_append]
  rcases (sim_evalBω (Φ := Φ) hσ0 hsim μ1 C').cases with ⟨err, h1, h2⟩ | ⟨r1, r2, h1, h2, ho⟩
  · rw [h1, h2]; exact rfl
  · rcases ho.cases with ⟨σe', σe, m1, rfl, rfl, hie⟩ | ⟨v, m1, rfl, rfl⟩
    · rw [h1, h2, ok_bind, ok_bind]
      show RelM _ (evalBω Φ σe' m1 C' [.assign (.var t) e'] >>= thenB Φ C rest)
        ((evalBω Φ σe m1 C' [.ret e] >>= _) >>= _)
      rw [evalBω_single, evalBω_single, evalSω_assign, evalSω_ret, sim_evalEω hie hsime m1 C']
      cases evalEω Φ σe m1 C' e with
      | error err => exact rfl
      | ok rv =>
        obtain ⟨v, μ3⟩ := rv
        show RelM _ ((bindPatω (.var t) v σe' >>= _) >>= thenB Φ C rest) (evalBω Φ (σ.set t v) μ3 C rest)
        rw [bindPatω_var]
        refine sim_evalBω (inv_idRel.2 fun z hz => ?_) hrest μ3 C
        rw [Env.get?_set, Env.get?_set]
        split
        · rfl
        · rename_i hzt
          obtain ⟨hz1, hz2⟩ := hfresh_ys z hz hzt
          rw [evalBω_frame Φ σk μ1 C' ss' h1 z hz2, ← hσk, setAll_get?_notin ps' vs σ z hz1]
    · exact absurd h2 (evalBω_noRet Φ σ0 μ1 C' ss hnr)

/-- Callee `fd` = `def f(ps): ss; return e` with no `return` in `ss`; `ss'`, `e'`, `ps'` its renamed copy, accepted by
the checker under a correspondence `R` (fresh name, callee name) whose fresh names are unbound at the call site (`hσ`),
not read by the arguments (`xs` ⊇ reads of `args`, disjoint from `ps'`) and not read by the rest of the caller
(`ys` ⊇ reads of `rest`, disjoint from the fresh names except possibly `t`).  `hσ` is what relates the caller's
environment to the callee's initial one, where every local is unbound; it fails from the second iteration of an
enclosing loop on, where the fresh names hold the values of the previous iteration. -/
theorem call_inline_rel {Φ : Funs} {f : String} {fd : FuncDef} {ss : List Stmt} {e : Expr}
    (hf : Φ.find? f = some fd) (hbody : fd.body = ss ++ [.ret e]) (hnr : noRetB ss = true)
    {R : VRel} {ps' : List String} {ss' : List Stmt} {e' : Expr}
    (hps : ps'.length = fd.params.length)
    (hbind : ((ps'.zip fd.params).all fun p => R.bindOK p.1 p.2) = true)
    (hsim : simB R ss' ss = true) (hsime : simE R e' e = true)
    {xs ys : List String} {args : List Expr} {rest : List Stmt} {t : String}
    (hargslen : args.length = fd.params.length)
    (hargs : simEs (idRel xs) args args = true) (hfresh_xs : ∀ p ∈ ps', p ∉ xs)
    (hrest : simB (idRel ys) rest rest = true)
    (hfresh_ys : ∀ z ∈ ys, z ≠ t → z ∉ ps' ∧ z ∉ bvB ss')
    {σ : Env} (hσ : ∀ a b, R.has a b = true → σ.get? a = none)
    (μ : Heap) (C : Ctx) :
    RelM (OutRel (idRel ys)) (evalBω Φ σ μ C (inlineCall ps' args fd.ctx ss' t e' rest))
      (evalBω Φ σ μ C (.assign (.var t) (.call f args) :: rest)) := by
  unfold inlineCall
  rw [bindArgs_eval Φ C xs σ _ ps' args σ μ (hps.trans hargslen.symm) hargs hfresh_xs (fun _ _ => rfl)]
  rw [evalBω_assign_var, evalEω_call]
  cases hev : evalEsω Φ σ μ C args with
  | error err => exact rfl
  | ok r =>
    obtain ⟨vs, μ1⟩ := r
    have hvl : vs.length = fd.params.length := ((evalEsω_length Φ C args σ μ).out _ hev).trans hargslen
    have hne : (fd.params.length != vs.length) = false := by rw [hvl]; simp
    rw [ok_bind, ok_bind]
    simp only [hf, hne, Bool.false_eq_true, if_false]
    generalize hσk : setAll σ (ps'.zip vs) = σk
    generalize hσ0e : List.foldl _ ([] : Env) (fd.params.zip vs) = σ0  -- `paramEnv fd.params vs` (below), as `evalEω_call` spells it
    have hσ0 : Inv R σk σ0 := by
      rw [← hσk, ← hσ0e]
      exact inv_setAll ps' fd.params vs σ [] (fun a b hab => by rw [hσ a b hab]; rfl) hbind hps
    cases hctx : fd.ctx with
    | none =>
      show RelM _ (evalBω Φ σk μ1 C ((ss' ++ [.assign (.var t) e']) ++ rest)) _
      rw [evalBω_append, evalBω_append]
      exact inline_core hnr hsim hsime hrest hfresh_ys hσk hσ0 μ1 C C fd.body hbody _ rfl
    | some D =>
      show RelM _ (evalBω Φ σk μ1 C (Stmt.with (.ctxLit D) none (ss' ++ [.assign (.var t) e']) :: rest)) _
      rw [with_ctx_wrap_block, evalBω_append]
      exact inline_core hnr hsim hsime hrest hfresh_ys hσk hσ0 μ1 C D fd.body hbody _ rfl

theorem call_inline_sound {Φ : Funs} {f : String} {fd : FuncDef} {ss : List Stmt} {e : Expr}
    (hf : Φ.find? f = some fd) (hbody : fd.body = ss ++ [.ret e]) (hnr : noRetB ss = true)
    {R : VRel} {ps' : List String} {ss' : List Stmt} {e' : Expr}
    (hps : ps'.length = fd.params.length)
    (hbind : ((ps'.zip fd.params).all fun p => R.bindOK p.1 p.2) = true)
    (hsim : simB R ss' ss = true) (hsime : simE R e' e = true)
    {xs ys : List String} {args : List Expr} {rest : List Stmt} {t : String}
    (hargslen : args.length = fd.params.length)
    (hargs : simEs (idRel xs) args args = true) (hfresh_xs : ∀ p ∈ ps', p ∉ xs)
    (hrest : simB (idRel ys) rest rest = true)
    (hfresh_ys : ∀ z ∈ ys, z ≠ t → z ∉ ps' ∧ z ∉ bvB ss')
    {σ : Env} (hσ : ∀ a b, R.has a b = true → σ.get? a = none)
    (μ : Heap) (C : Ctx) (w : Val) (μ' : Heap) :
    Returns Φ σ μ C (inlineCall ps' args fd.ctx ss' t e' rest) w μ' ↔
      Returns Φ σ μ C (.assign (.var t) (.call f args) :: rest) w μ' :=
  OutRel.returns
    (call_inline_rel hf hbody hnr hps hbind hsim hsime hargslen hargs hfresh_xs hrest hfresh_ys hσ μ C) w μ'

/-- `with_ctx_wrap` read from inside.  That a callee WITHOUT a declared context is spliced with no wrapper of its
own, and so runs under the context in force at the call site, is the `fd.ctx = none` case of `call_inline_rel`. -/
theorem callee_ctx_is_call_site (Φ : Funs) (σ : Env) (μ : Heap) (C D : Ctx) (body : List Stmt) :
    evalSω Φ σ μ C (.with (.ctxLit D) none body) = evalBω Φ σ μ D body := with_ctx_wrap Φ σ μ C D body

/-- the callee's initial environment, as `evalE` (case `call`) and `callEntry` build it -/
def paramEnv (ps : List String) (args : List Val) : Env := (ps.zip args).foldl (fun s (x, v) => s.set x v) []

/-- the context a function called from Python runs under: its own if it declares one, else the `ctx=` argument,
else binary64 (as `callEntry`) -/
def entryCtx (own ctx : Option Ctx) : Ctx :=
  match own with | some c => c | none => (match ctx with | some c => c | none => fp64)

theorem callEntry_eq {Φ : Funs} {f : String} {fd : FuncDef} (hf : Φ.find? f = some fd) (n : Nat) (args : List Val) (μ : Heap)
    (ctx : Option Ctx) :
    callEntry Φ n f args μ ctx = if fd.params.length != args.length then .error .typeError else
      (match evalB Φ n (paramEnv fd.params args) μ (entryCtx fd.ctx ctx) fd.body with
       | .error e => .error e
       | .ok (.ret v, μ') => .ok (v, μ')
       | .ok (.normal _, _) => .error .assertion) := by
  unfold callEntry; rw [hf]; rfl

theorem callEntry_returns_iff {Φ : Funs} {f : String} {fd : FuncDef} (hf : Φ.find? f = some fd)
    (args : List Val) (μ : Heap) (ctx : Option Ctx) (v : Val) (μ' : Heap) :
    (∃ n, callEntry Φ n f args μ ctx = .ok (v, μ')) ↔
      fd.params.length = args.length ∧ Returns Φ (paramEnv fd.params args) μ (entryCtx fd.ctx ctx) fd.body v μ' := by
  by_cases hl : fd.params.length = args.length
  · rw [and_iff_right hl]
    refine exists_congr fun n => ?_
    rw [callEntry_eq hf, if_neg (by rw [hl, bne_self_eq_false]; exact Bool.false_ne_true)]
    generalize evalB Φ n _ μ _ fd.body = r
    rcases r with e | ⟨σ' | w, m⟩
    · exact ⟨nofun, nofun⟩
    · exact ⟨nofun, nofun⟩
    · exact ⟨fun h => by cases h; rfl, fun h => by cases h; rfl⟩
  · refine iff_of_false ?_ fun h => hl h.1
    rintro ⟨n, hn⟩
    rw [callEntry_eq hf, if_pos (bne_iff_ne.2 hl)] at hn
    cases hn

theorem entry_equiv {Φ : Funs} {f f' : String} {fd fd' : FuncDef} (hf : Φ.find? f = some fd) (hf' : Φ.find? f' = some fd')
    (hp : fd.params = fd'.params) (hc : fd.ctx = fd'.ctx) (hb : BEquiv Φ fd.body fd'.body)
    (args : List Val) (μ : Heap) (ctx : Option Ctx) (v : Val) (μ' : Heap) :
    (∃ n, callEntry Φ n f args μ ctx = .ok (v, μ')) ↔ (∃ n, callEntry Φ n f' args μ ctx = .ok (v, μ')) := by
  rw [callEntry_returns_iff hf, callEntry_returns_iff hf', hp, hc, hb.returns]

theorem entry_sim {Φ : Funs} {f f' : String} {fd fd' : FuncDef} (hf : Φ.find? f = some fd) (hf' : Φ.find? f' = some fd')
    (hp : fd'.params = fd.params) (hc : fd'.ctx = fd.ctx) {R : VRel} (hb : simB R fd'.body fd.body = true)
    (args : List Val) (hinv : Inv R (paramEnv fd.params args) (paramEnv fd.params args))
    (μ : Heap) (ctx : Option Ctx) (v : Val) (μ' : Heap) :
    (∃ n, callEntry Φ n f' args μ ctx = .ok (v, μ')) ↔ (∃ n, callEntry Φ n f args μ ctx = .ok (v, μ')) := by
  rw [callEntry_returns_iff hf, callEntry_returns_iff hf', hp, hc, sim_returns hinv hb]

/-- monomorphisation (pinning the context), at every fuel -/
theorem mono_sound (Φ : Funs) (fuel : Nat) (f f' : String) (fd : FuncDef) (args : List Val) (μ : Heap) (C : Ctx)
    (hf : Φ.find? f = some fd) (hctx : fd.ctx = none)
    (hf' : Φ.find? f' = some { fd with name := f', ctx := some C }) :
    callEntry Φ fuel f args μ (some C) = callEntry Φ fuel f' args μ none := by
  unfold callEntry
  simp only [hf, hf', hctx]

theorem mono_ignores_ctx (Φ : Funs) (fuel : Nat) (f' : String) (fd : FuncDef) (args : List Val) (μ : Heap) (C : Ctx)
    (hf' : Φ.find? f' = some fd) (hctx : fd.ctx = some C) (c1 c2 : Option Ctx) :
    callEntry Φ fuel f' args μ c1 = callEntry Φ fuel f' args μ c2 := by
  unfold callEntry
  simp only [hf', hctx]

end Fpy.Xform
