/-
C16: `EFloatFormat` decode / representable_in / maxval, via the ordinal map of the underlying
`MPSFloatFormat` (the magnitude field of a pattern IS the ordinal; everything that mentions only the MPS format,
`mpsNumber` and the steps of the search for the largest value included, is in Proof/EncOrd).  Arithmetic on the
fields is done on plain numbers `A = 2^m`, `B = 2^es`, `H = A·B = 2^(nbits-1)`; `ef_pow` and `ef_kind_pow` put the
values in.
-/
import Fpy.Proof.EncOrd
namespace Fpy
open Fpy.Enc Fpy.Spec

theorem ef_pmax (f : EF) : f.pmax = f.nbits - f.es := rfl

theorem ef_emin (f : EF) : f.emin = 1 - efBias f.es + f.eoff := by
  unfold EF.emin efloatMpb efBias bitmask
  simp only
  by_cases h : f.es = 0 <;> simp [h]

theorem ef_valid_basic (f : EF) (hv : f.valid = true) : 1 ≤ f.nbits ∧ f.es < f.nbits := by
  unfold EF.valid efloatValid at hv
  by_cases h1 : f.nbits < 1
  · simp [h1] at hv
  · by_cases h2 : f.es ≥ f.nbits
    · simp [h1, h2] at hv
    · omega

theorem ef_expmin (f : EF) (hv : f.valid = true) :
    f.expmin = 1 - efBias f.es + f.eoff - ((f.nbits - f.es - 1 : Nat) : Int) := by
  have ⟨h1, h2⟩ := ef_valid_basic f hv
  unfold EF.expmin; rw [ef_emin, ef_pmax]; omega

theorem ef_pow (f : EF) (hv : f.valid = true) :
    0 < 2 ^ f.m ∧ 0 < 2 ^ f.es ∧ 2 ^ (f.nbits - 1) = 2 ^ f.m * 2 ^ f.es ∧ 2 ^ f.nbits = 2 * 2 ^ (f.nbits - 1) := by
  have ⟨hn, hes⟩ := ef_valid_basic f hv
  refine ⟨Nat.two_pow_pos _, Nat.two_pow_pos _, ?_, two_pow_pred f.nbits hn⟩
  rw [← Nat.pow_add]; congr 1; unfold EF.m; rw [ef_pmax]; omega

theorem ef_pow_sub (f : EF) (hv : f.valid = true) :
    2 ^ f.m * (2 ^ f.es - 1) = 2 ^ (f.nbits - 1) - 2 ^ f.m ∧ 2 ^ f.m ≤ 2 ^ (f.nbits - 1) := by
  have ⟨_, hB, hH, _⟩ := ef_pow f hv
  rw [hH, Nat.mul_sub, Nat.mul_one]
  exact ⟨rfl, Nat.le_mul_of_pos_right _ hB⟩

/-- the fields of a pattern `b < 2·A·B`: sign `b / (A·B)`, exponent code `b / A % B`, mantissa `b % A`, and the magnitude
code `b % (A·B)`, which is exponent code and mantissa read as one number -/
theorem ef_fields (b A B : Nat) (hA : 0 < A) (hB : 0 < B) (hb : b < 2 * (A * B)) :
    b / (A * B) ≤ 1 ∧ b / A % B < B ∧ b % A < A ∧ b % (A * B) = A * (b / A % B) + b % A ∧
    b % (A * B) < A * B ∧ (b % (A * B) = 0 ↔ b / A % B = 0 ∧ b % A = 0) := by
  have hAB : 0 < A * B := Nat.mul_pos hA hB
  have hG : b % (A * B) = A * (b / A % B) + b % A := by rw [Nat.mod_mul]; omega
  refine ⟨?_, Nat.mod_lt _ hB, Nat.mod_lt _ hA, hG, Nat.mod_lt _ hAB, ?_⟩
  · have : b / (A * B) < 2 := (Nat.div_lt_iff_lt_mul hAB).2 hb
    omega
  · rw [hG, Nat.add_eq_zero_iff, Nat.mul_eq_zero]
    exact and_congr_left' ⟨fun h => h.resolve_left (by omega), .inr⟩

theorem ef_valid_kind (f : EF) (hv : f.valid = true) :
    (f.kind = .ieee → 1 ≤ f.es ∧ (f.inf = true → f.nbits - f.es ≥ 2)) ∧
    (f.kind = .maxVal → 2 ≤ f.nbits ∧ (f.inf = true → 3 ≤ f.nbits)) ∧
    ((f.kind = .negZero ∨ f.kind = .none) → f.inf = true → 2 ≤ f.nbits) := by
  have ⟨h1, h2⟩ := ef_valid_basic f hv
  unfold EF.valid efloatValid at hv
  have g1 : ¬ f.nbits < 1 := by omega
  have g2 : ¬ f.es ≥ f.nbits := by omega
  simp only [g1, g2, if_false] at hv
  refine ⟨?_, ?_, ?_⟩
  · intro hk; rw [hk] at hv; simp at hv
    refine ⟨by omega, fun hi => ?_⟩
    rcases hv.2 with h | h
    · simp [hi] at h
    · omega
  · intro hk; rw [hk] at hv; simp only at hv
    by_cases h0 : f.es = 0
    · simp [h0] at hv
      refine ⟨by omega, fun hi => ?_⟩
      rcases hv.2 with h | h
      · simp [hi] at h
      · omega
    · simp [h0] at hv
      refine ⟨by omega, fun hi => ?_⟩
      rcases hv with (h | h) | h
      · omega
      · simp [hi] at h
      · omega
  · intro hk hi; rcases hk with hk | hk <;> rw [hk, hi] at hv <;> simp at hv <;> omega

theorem ef_kind_pow (f : EF) (hv : f.valid = true) :
    (f.kind = .ieee → 2 ≤ 2 ^ f.es ∧ (f.inf = true → 2 ≤ 2 ^ f.m)) ∧
    (f.kind = .maxVal → 2 ≤ 2 ^ (f.nbits - 1) ∧ (f.inf = true → 4 ≤ 2 ^ (f.nbits - 1))) ∧
    ((f.kind = .negZero ∨ f.kind = .none) → f.inf = true → 2 ≤ 2 ^ (f.nbits - 1)) := by
  have ⟨hki, hkm, hkz⟩ := ef_valid_kind f hv
  refine ⟨fun hk => ⟨Nat.pow_le_pow_right (i := 1) Nat.two_pos (hki hk).1,
      fun hi => Nat.pow_le_pow_right (i := 1) Nat.two_pos ?_⟩,
    fun hk => ⟨Nat.pow_le_pow_right (i := 1) Nat.two_pos ?_, fun hi => Nat.pow_le_pow_right (i := 2) Nat.two_pos ?_⟩,
    fun hk hi => Nat.pow_le_pow_right (i := 1) Nat.two_pos ?_⟩
  · have := (hki hk).2 hi; unfold EF.m; rw [ef_pmax]; omega
  · have := (hkm hk).1; omega
  · have := (hkm hk).2 hi; omega
  · have := hkz hk hi; omega

/-- the sign bit `S` of a pattern, as `decode` tests it (`!= 0`), as the layout does (`= 1`), and as `encode` writes it -/
theorem sign_bit {S : Nat} (h : S < 2) :
    (S != 0) = decide (S = 1) ∧ (if decide (S = 1) = true then 1 else 0) = S := by
  have : S = 0 ∨ S = 1 := by omega
  rcases this with h | h <;> subst h <;> exact ⟨rfl, rfl⟩

theorem ef_decode_layout (f : EF) (hv : f.valid = true) (b : Nat) (hb : b < 2 ^ f.nbits) :
    f.decode b = .ok (efLayout f.es f.nbits f.inf f.kind f.eoff b) := by
  have ⟨hA, hB, hH, hN⟩ := ef_pow f hv
  have ⟨hki, hkm, hkz⟩ := ef_kind_pow f hv
  have hm : f.nbits - f.es - 1 = f.m := rfl
  have hexp := ef_expmin f hv
  have h0 : ¬ (b ≥ 2 ^ f.nbits) := by omega
  rw [hN, hH] at hb
  have ⟨fS, fE, fM, fmag, fGlt, fG0⟩ := ef_fields b (2 ^ f.m) (2 ^ f.es) hA hB hb
  unfold EF.decode efLayout
  simp only [h0, if_false, hm, two_pow_or _ _ fM, two_pow_mul_or _ _ _ fM, bitmask, hH, ← fmag, hexp]
  have hs := (sign_bit (Nat.lt_succ_of_le fS)).1
  rw [hs, hH] at *
  -- only the facts about the fields are used below; the rest would go through every `generalize … at *`
  clear hH hN hb h0 hs hexp hm hv fmag
  generalize b / (2 ^ f.m * 2 ^ f.es) = S at *
  generalize b / 2 ^ f.m % 2 ^ f.es = E at *
  generalize b % 2 ^ f.m = M at *
  generalize b % (2 ^ f.m * 2 ^ f.es) = G at *
  generalize 2 ^ f.m * 2 ^ f.es = H at *
  generalize 2 ^ f.m = A at *
  generalize 2 ^ f.es = B at *
  -- the exponent of the normal arm, as the layout writes it
  rw [show 1 - efBias f.es + f.eoff - (f.m : Int) + ((E : Int) - 1) = E - efBias f.es + f.eoff - f.m by omega]
  cases hk : f.kind <;> simp only
  · -- IEEE: the exponent code 0 is not the all-ones code
    have := (hki hk).1
    by_cases hE0 : E = 0
    · subst hE0
      have : ¬ (0 = B - 1) := by omega
      simp [this]
    · by_cases hE1 : E = B - 1
      · subst hE1
        by_cases hc : f.inf = true ∧ M = 0 <;> simp [hE0, hc]
      · simp only [hE0, hE1, if_false]
  · have := (hkm hk).1
    by_cases hnan : G = H - 1
    · simp [hnan]
    · simp only [hnan, if_false]
      have e1 : (G == H - 1 - 1) = decide (G + 1 = H - 1) := by
        rw [Bool.eq_iff_iff]; simp; omega
      rw [e1]
      by_cases hc : (f.inf && decide (G + 1 = H - 1)) = true
      · simp only [hc, if_true]
      · simp only [hc, Bool.false_eq_true, if_false]
        by_cases hE0 : E = 0
        · simp [hE0]
        · simp only [hE0, if_false]
  · -- NEG_ZERO: `1|0…0` is the NaN
    have e1 : (G == H - 1) = decide (G = H - 1) := by rw [Bool.eq_iff_iff]; simp
    rw [e1]
    by_cases hc : (f.inf && decide (G = H - 1)) = true
    · simp only [hc, if_true]
    · simp only [hc, Bool.false_eq_true, if_false]
      by_cases hE0 : E = 0
      · by_cases hM0 : M = 0
        · have hG : G = 0 := fG0.2 ⟨hE0, hM0⟩
          have : S = 0 ∨ S = 1 := by omega
          rcases this with h | h <;> subst h <;> simp [hE0, hM0, hG]
        · have hG : ¬ G = 0 := fun h => hM0 (fG0.1 h).2
          simp [hE0, hM0, hG]
      · have hG : ¬ G = 0 := fun h => hE0 (fG0.1 h).1
        simp only [hE0, hG, false_and, if_false]
  · have e1 : (G == H - 1) = decide (G = H - 1) := by rw [Bool.eq_iff_iff]; simp
    rw [e1]
    by_cases hc : (f.inf && decide (G = H - 1)) = true
    · simp only [hc, if_true]
    · simp only [hc, Bool.false_eq_true, if_false]
      by_cases hE0 : E = 0
      · by_cases hM0 : M = 0 <;> simp [hE0, hM0]
      · simp only [hE0, if_false]

theorem ef_mps_expmin (f : EF) : f.mpb.mps.expmin = f.expmin := rfl
theorem ef_mps_p (f : EF) : f.mpb.mps.p = f.pmax := rfl
theorem ef_mps_emin (f : EF) : f.mpb.mps.emin = f.emin := rfl
theorem ef_m (f : EF) : f.m = f.pmax - 1 := rfl

theorem ef_pmax_pos (f : EF) (hv : f.valid = true) : 1 ≤ f.pmax := by
  have ⟨h1, h2⟩ := ef_valid_basic f hv; rw [ef_pmax]; omega

/-- the two fields `encode` ORs together overlap only when `ebits = 0` -/
theorem ef_fields_fin (f : EF) (x : RF) (hc : x.c ≠ 0) :
    ∃ e mb, f.encodeFields (.fin x) = .ok (e, mb) ∧ 2 ^ f.m * e ||| mb = mpsUord f.mpb.mps x := by
  unfold EF.encodeFields mpsUord
  simp only [hc, if_false, ef_mps_emin, ef_mps_expmin, ef_mps_p]
  by_cases h : x.e ≤ f.emin
  · simp only [h, if_true]
    exact ⟨_, _, rfl, by simp⟩
  · simp only [h, if_false]
    refine ⟨_, _, rfl, ?_⟩
    have hlt : shiftDown x.c ((x.p : Int) - f.pmax) % 2 ^ (f.pmax - 1) < 2 ^ f.m := by
      rw [ef_m]; exact Nat.mod_lt _ (Nat.two_pow_pos _)
    rw [two_pow_mul_or _ _ _ hlt, ef_m, Nat.mul_comm]

/- The left sides of `ef_emax_emin` and of `hmax` in `ef_maxv_canon` are `efloatMpb`'s `let`s after
zeta-reduction, verbatim, so that they match syntactically once `ef_maxv_canon` has unfolded `efloatMpb`:
`emax0 = if es == 0 then -1 else ebias` with `ebias = if es == 0 then 0 else bitmask (es - 1)` gives the nested
test.  Likewise the left sides of `rawmax_maxVal` and `rawmax_other` are the arms of its `match kind`, with `p` and
`emin` those of an MPS format `g`, and `emax`, `nmin` variables tied to `g` by hypotheses. -/

/-- the emax/emin arithmetic of `_ext_to_mpb_fmt`: `emax - emin + 2 = 2^es - 1` -/
theorem ef_emax_emin (es : Nat) :
    (if (es == 0) = true then (-1 : Int) else ((if (es == 0) = true then (0 : Int) else (bitmask (es - 1) : Int)))) -
      (1 - (if (es == 0) = true then (0 : Int) else (bitmask (es - 1) : Int))) + 2 = ((2 ^ es - 1 : Nat) : Int) := by
  by_cases h : es = 0
  · subst h; simp
  · have hb : (es == 0) = false := by simp [h]
    simp only [hb, Bool.false_eq_true, if_false, bitmask]
    have := two_pow_pred es (by omega)
    have := Nat.two_pow_pos (es - 1)
    generalize 2 ^ (es - 1) = X at *
    generalize 2 ^ es = Y at *
    omega

/-- the largest finite magnitude code of the layout (what `_ext_to_mpb_fmt` has to find), written out per kind for the
statements of Props/C16; the proofs read it as `codeMax` (`efGmax_eq`) -/
def efGmax (f : EF) : Nat :=
  match f.kind with
  | .ieee => 2 ^ (f.pmax - 1) * (2 ^ f.es - 1) - 1
  | .maxVal => if f.inf then 2 ^ (f.nbits - 1) - 3 else 2 ^ (f.nbits - 1) - 2
  | .negZero => if f.inf then 2 ^ (f.nbits - 1) - 2 else 2 ^ (f.nbits - 1) - 1
  | .none => if f.inf then 2 ^ (f.nbits - 1) - 2 else 2 ^ (f.nbits - 1) - 1

/-- `efGmax` as a function of `A = 2^m` and `H = 2^(nbits-1)`.  IEEE: the whole block of the all-ones exponent is special
with or without infinities, so the last number is the code below it whatever `inf` is -/
def codeMax (kind : NanKind) (inf : Bool) (A H : Nat) : Nat :=
  match kind with
  | .ieee => H - A - 1
  | .maxVal => if inf then H - 3 else H - 2
  | .negZero | .none => if inf then H - 2 else H - 1

theorem codeMax_other {kind : NanKind} (hk : kind = .negZero ∨ kind = .none) (inf : Bool) (A H : Nat) :
    codeMax kind inf A H = if inf then H - 2 else H - 1 := by
  rcases hk with rfl | rfl <;> rfl

theorem efGmax_eq (f : EF) (hv : f.valid = true) :
    efGmax f = codeMax f.kind f.inf (2 ^ f.m) (2 ^ (f.nbits - 1)) := by
  unfold efGmax codeMax
  cases f.kind <;> simp only
  rw [← (ef_pow_sub f hv).1]; rfl

/-- the search of `_ext_to_mpb_fmt` for the largest value, MAX_VAL formats.  `B`: the number of exponent codes (`2^es` at
the use, where `hmax` is `ef_emax_emin`); `h2`, `h4`: `2 ≤ H`, and `4 ≤ H` with infinities, what validity gives for this
kind (`ef_kind_pow`) -/
theorem rawmax_maxVal (g : MPSFmt) (hp : 1 ≤ g.p) (B : Nat) (emax n : Int) (hmax : emax = g.emin + (B : Int) - 3)
    (hn : n = g.nmin) (inf : Bool) (h2 : 2 ≤ 2 ^ (g.p - 1) * B) (h4 : inf = true → 4 ≤ 2 ^ (g.p - 1) * B) :
    (if (g.p == 1) = true then
        if inf = true then binadeMax g.p g.emin (emax - 1) else binadeMax g.p g.emin emax
      else if (g.p == 2 && inf) = true then binadeMax g.p g.emin emax
      else if inf = true then
        (((binadeMax g.p g.emin (emax + 1)).nextTowardsZero g.p n).getD (binadeMax g.p g.emin (emax + 1))).nextTowardsZero g.p n |>.getD
          (((binadeMax g.p g.emin (emax + 1)).nextTowardsZero g.p n).getD (binadeMax g.p g.emin (emax + 1)))
      else ((binadeMax g.p g.emin (emax + 1)).nextTowardsZero g.p n).getD (binadeMax g.p g.emin (emax + 1))) =
    mpsNumber g false (codeMax .maxVal inf (2 ^ (g.p - 1)) (2 ^ (g.p - 1) * B)) := by
  subst hn
  have hB : 1 ≤ B := Nat.pos_of_ne_zero (fun h => by subst h; omega)
  have top := binadeMax_top g hp B 0 (by omega) (emax + 1) (by omega)
  rw [Nat.zero_mul, Nat.sub_zero] at top
  have bm1 := binadeMax_top g hp B 1
  have bm2 := binadeMax_top g hp B 2
  have step := ntz_canon g hp
  generalize hAd : 2 ^ (g.p - 1) = A at *
  by_cases hp1 : g.p = 1
  · -- one-digit significands: `A = 1`, no stepping
    have hA1 : A = 1 := by rw [← hAd, hp1]
    subst hA1
    rw [if_pos (by simp [hp1])]
    cases inf
    · rw [if_neg (by decide), bm1 (by omega) emax (by omega)]
      congr 1
    · have := h4 rfl
      rw [if_pos rfl, bm2 (by omega) (emax - 1) (by omega)]
      congr 1
  · rw [if_neg (by simp [hp1])]
    by_cases hp2 : g.p = 2 ∧ inf = true
    · have hA2 : A = 2 := by rw [← hAd, hp2.1]
      subst hA2
      have := h4 hp2.2
      rw [if_pos (by simp [hp2.1, hp2.2]), bm1 (by omega) emax (by omega)]
      congr 1; simp only [codeMax, hp2.2, if_true]; omega
    · rw [if_neg (by simpa using hp2), top]
      cases inf
      · rw [if_neg (by decide), step _ (by omega)]
        congr 1
      · have := h4 rfl
        rw [if_pos rfl, step _ (by omega), step _ (by omega)]
        congr 1

/-- the same for NEG_ZERO and NONE formats (`h2`: `2 ≤ H` with infinities) -/
theorem rawmax_other (g : MPSFmt) (hp : 1 ≤ g.p) (B : Nat) (emax n : Int) (hmax : emax = g.emin + (B : Int) - 3)
    (hn : n = g.nmin) (kind : NanKind) (hk : kind = .negZero ∨ kind = .none) (inf : Bool) (hB : 1 ≤ B)
    (h2 : inf = true → 2 ≤ 2 ^ (g.p - 1) * B) :
    (if (g.p == 1) = true then
        if inf = true then binadeMax g.p g.emin emax else binadeMax g.p g.emin (emax + 1)
      else if inf = true then
        ((binadeMax g.p g.emin (emax + 1)).nextTowardsZero g.p n).getD (binadeMax g.p g.emin (emax + 1))
      else binadeMax g.p g.emin (emax + 1)) =
    mpsNumber g false (codeMax kind inf (2 ^ (g.p - 1)) (2 ^ (g.p - 1) * B)) := by
  subst hn
  have top := binadeMax_top g hp B 0 (by omega) (emax + 1) (by omega)
  rw [Nat.zero_mul, Nat.sub_zero] at top
  have bm1 := binadeMax_top g hp B 1
  have step := ntz_canon g hp
  rw [codeMax_other hk, top]
  generalize hAd : 2 ^ (g.p - 1) = A at *
  cases inf
  · simp only [Bool.false_eq_true, if_false, ite_self]
  · have := h2 rfl
    simp only [if_true]
    by_cases hp1 : g.p = 1
    · have hA1 : A = 1 := by rw [← hAd, hp1]
      subst hA1
      rw [if_pos (by simp [hp1]), bm1 (by omega) emax (by omega)]
      congr 1
    · rw [if_neg (by simp [hp1]), step _ (by omega)]
      congr 1

theorem ef_maxv_canon (f : EF) (hv : f.valid = true) :
    f.maxv = (if efGmax f = 0 then ⟨false, f.emin, 0⟩ else f.mpb.mps.unordRF (efGmax f : Int)) := by
  have hp := ef_pmax_pos f hv
  have ⟨_, hB, hH, _⟩ := ef_pow f hv
  have ⟨hki, hkm, hkz⟩ := ef_kind_pow f hv
  have hnm : f.emin - ((f.nbits - f.es : Nat) : Int) = f.mpb.mps.nmin := by
    show f.emin - (f.pmax : Int) = f.emin - f.pmax + 1 - 1; omega
  have hmax : (if (f.es == 0) = true then (-1 : Int) else if (f.es == 0) = true then 0 else (bitmask (f.es - 1) : Int)) + f.eoff
      = f.mpb.mps.emin + ((2 ^ f.es : Nat) : Int) - 3 := by
    have := ef_emax_emin f.es
    have hemin : 1 - (if (f.es == 0) = true then (0:Int) else (bitmask (f.es - 1) : Int)) + f.eoff = f.mpb.mps.emin := rfl
    omega
  rw [efGmax_eq f hv, hH, ← mpsNumber_norm f.mpb.mps hp]
  rw [hH] at hkm hkz
  unfold EF.maxv efloatMpb
  simp only []
  generalize (if (f.es == 0) = true then (-1 : Int) else if (f.es == 0) = true then 0 else (bitmask (f.es - 1) : Int)) + f.eoff = emax at hmax ⊢
  refine congrArg (fun x : RF => if x.c = 0 then _ else x) ?_
  cases hk : f.kind <;> simp only
  · have := binadeMax_top f.mpb.mps hp (2 ^ f.es) 1 (hki hk).1 emax (by omega)
    rw [Nat.one_mul] at this
    exact this
  · exact rawmax_maxVal f.mpb.mps hp _ emax _ hmax hnm f.inf (hkm hk).1 (hkm hk).2
  · exact rawmax_other f.mpb.mps hp _ emax _ hmax hnm _ (.inl rfl) f.inf hB (hkz (.inl hk))
  · exact rawmax_other f.mpb.mps hp _ emax _ hmax hnm _ (.inr rfl) f.inf hB (hkz (.inr hk))

theorem codeMax_lt (kind : NanKind) (inf : Bool) (A H : Nat) (hH : 0 < H) : codeMax kind inf A H < H := by
  unfold codeMax
  cases kind <;> simp only <;> (try split) <;> omega

theorem ef_Gmax_lt (f : EF) (hv : f.valid = true) : efGmax f < 2 ^ (f.nbits - 1) := by
  rw [efGmax_eq f hv]; exact codeMax_lt _ _ _ _ (Nat.two_pow_pos _)

theorem codeMax_pos (kind : NanKind) (inf : Bool) (A H : Nat) (hi : kind = .ieee → 2 * A ≤ H) (h4 : 4 ≤ H) :
    1 ≤ codeMax kind inf A H := by
  unfold codeMax
  cases kind <;> simp only <;> (try split) <;> (try have := hi rfl) <;> omega

theorem ef_hasNonzero (f : EF) (hv : f.valid = true) : f.hasNonzero = decide (1 ≤ efGmax f) := by
  have ⟨hn, _⟩ := ef_valid_basic f hv
  have ⟨hA, _, hH, _⟩ := ef_pow f hv
  have ⟨hki, hkm, _⟩ := ef_kind_pow f hv
  have hlt := ef_Gmax_lt f hv
  have h2A : f.kind = .ieee → 2 * 2 ^ f.m ≤ 2 ^ (f.nbits - 1) := fun hk => by
    have := Nat.mul_le_mul_left (2 ^ f.m) (hki hk).1; rw [hH]; omega
  unfold EF.hasNonzero efloatHasNonzero
  by_cases h3 : f.nbits > 2
  · rw [if_pos h3, efGmax_eq f hv]
    exact (decide_eq_true (codeMax_pos _ _ _ _ h2A (Nat.pow_le_pow_right (i := 2) Nat.two_pos (by omega)))).symm
  · rw [if_neg h3]
    by_cases h1 : f.nbits = 1
    · -- one bit: the only magnitude code is 0
      rw [h1] at hlt
      rw [if_pos (by simp [h1])]
      exact (decide_eq_false (by omega)).symm
    · -- two bits: code 1 is a number unless it is taken by ∞ or NaN
      have hH2 : 2 ^ (f.nbits - 1) = 2 := by rw [show f.nbits = 2 by omega]
      rw [if_neg (by simp [h1]), efGmax_eq f hv, hH2]
      rw [hH2] at h2A hkm
      unfold codeMax
      cases hk : f.kind <;> simp only
      · have := h2A hk
        rw [decide_eq_false (by omega)]
        cases f.inf <;> rfl
      · cases hi : f.inf
        · rfl
        · exact absurd ((hkm hk).2 hi) (by decide)
      · cases f.inf <;> rfl
      · cases f.inf <;> rfl

theorem ef_maxv_facts (f : EF) (hv : f.valid = true) :
    f.mpb.mps.reprRF f.maxv = true ∧ f.maxv.s = false ∧ f.mpb.mps.ordRF f.maxv = efGmax f ∧
    (f.maxv.c = 0 ↔ efGmax f = 0) := by
  have hp := ef_pmax_pos f hv
  rw [ef_maxv_canon f hv]
  by_cases h0 : efGmax f = 0
  · simp only [h0, if_true]
    exact ⟨mps_reprRF_zero _ rfl, trivial, mps_ordRF_zero _ rfl, by simp⟩
  · simp only [h0, if_false]
    have ⟨hc, hs, hr, hu⟩ := mps_unord_facts f.mpb.mps hp (efGmax f : Int) (by omega)
    refine ⟨hr, by rw [hs]; simp, mps_to_from_ordinal f.mpb.mps hp _, ?_⟩
    simp [hc]

theorem ef_negmaxv_facts (f : EF) (hv : f.valid = true) :
    f.mpb.mps.reprRF ⟨true, f.maxv.exp, f.maxv.c⟩ = true ∧
    f.mpb.mps.ordRF ⟨true, f.maxv.exp, f.maxv.c⟩ = -(efGmax f : Int) := by
  have ⟨mr, ms, mo, _⟩ := ef_maxv_facts f hv
  have e : (⟨false, f.maxv.exp, f.maxv.c⟩ : RF) = f.maxv := by rw [← ms]
  exact ⟨by rw [reprRF_sign]; exact mr, by rw [mps_ordRF_neg, e, mo]⟩

theorem ef_repr_inf (f : EF) (s : Bool) : f.repr (.inf s) = f.inf := by
  unfold EF.repr MPBFmt.repr EF.mpb FV.isInf FV.isNan FV.isNar
  cases f.inf <;> simp

theorem ef_repr_nan (f : EF) (s : Bool) : f.repr (.nan s) = !(f.kind == .none) := by
  unfold EF.repr MPBFmt.repr EF.mpb FV.isInf FV.isNan FV.isNar
  cases f.kind <;> simp

theorem ef_repr_fin_zero (f : EF) (x : RF) (hc : x.c = 0) : f.repr (.fin x) = !(x.s && f.kind == .negZero) := by
  have h1 : f.mpb.repr (.fin x) = true := by
    unfold MPBFmt.repr; simp [hc, mps_reprRF_zero _ hc]
  unfold EF.repr FV.isInf FV.isNan FV.isZero FV.sign FV.isNar
  simp [h1, hc]

/-- as the code is written, representability also asks that the format has some non-zero value -/
theorem ef_repr_fin_nonzero (f : EF) (hv : f.valid = true) (x : RF) (hc : x.c ≠ 0) :
    f.repr (.fin x) = (f.mpb.mps.reprRF x && decide (mpsUord f.mpb.mps x ≤ efGmax f) && f.hasNonzero) := by
  have hp := ef_pmax_pos f hv
  have ⟨mr, ms, mo, mz⟩ := ef_maxv_facts f hv
  have hc' : (x.c == 0) = false := by simp [hc]
  unfold EF.repr FV.isInf FV.isNan FV.isZero FV.sign FV.isNar
  simp only [Bool.false_and, Bool.false_eq_true, if_false, hc']
  unfold MPBFmt.repr
  by_cases hr : f.mpb.mps.reprRF x = true
  · simp only [hr, Bool.not_true, Bool.false_eq_true, if_false, hc, Bool.true_and]
    have hpos : f.mpb.posMax = f.maxv := rfl
    have hneg : f.mpb.negMax = ⟨true, f.maxv.exp, f.maxv.c⟩ := rfl
    have ⟨hnr, hno⟩ := ef_negmaxv_facts f hv
    have hord := mps_ordRF_eq f.mpb.mps x hc
    have hle : (if x.s then f.mpb.negMax.le x else x.le f.mpb.posMax) = decide (mpsUord f.mpb.mps x ≤ efGmax f) := by
      rw [Bool.eq_iff_iff]
      cases hs : x.s
      · simp only [Bool.false_eq_true, if_false, hpos, decide_eq_true_eq]
        rw [mps_le_iff_ord _ hp _ _ hr mr, mo, hord, hs]; simp
      · simp only [if_true, hneg, decide_eq_true_eq]
        rw [mps_le_iff_ord _ hp _ _ hnr hr, hord, hs]
        rw [hno]; simp
    rw [hle]
    by_cases hd : mpsUord f.mpb.mps x ≤ efGmax f <;> simp [hd]
  · simp [hr]

/-- the finite value with sign `s` and magnitude code `G`: `mpsNumber f.mpb.mps s G` (by `rfl`), written out for the
statements of Props/C16 -/
def efNumber (f : EF) (s : Bool) (G : Nat) : RF :=
  if G = 0 then ⟨s, f.expmin, 0⟩ else f.mpb.mps.unordRF (if s then -(G : Int) else (G : Int))

/- `class_*`: the if-cascade of `efLayout` for each NaN kind is the uniform cascade by magnitude code of
`ef_layout_class` (codes `≤ codeMax` are numbers, `codeMax + 1` is ±∞ when infinities are on, the rest NaN). -/

theorem class_ieee {α} (A B E M : Nat) (inf : Bool) (num infv nan : α) (hA : 0 < A) (hB : 2 ≤ B) (hE : E < B) (hM : M < A) :
    (if E = B - 1 then (if (inf && decide (M = 0)) = true then infv else nan) else num) =
    (if A * E + M ≤ A * B - A - 1 then num
     else if inf = true ∧ A * E + M = A * B - A - 1 + 1 then infv else nan) := by
  obtain ⟨B, rfl⟩ : ∃ B', B = B' + 1 := ⟨B - 1, by omega⟩
  rw [Nat.mul_succ, Nat.add_sub_cancel, Nat.add_sub_cancel]
  by_cases h : E = B
  · subst h
    have := Nat.mul_pos hA (show 0 < E by omega)
    have h1 : ¬ A * E + M ≤ A * E - 1 := by omega
    have h2 : A * E + M = A * E - 1 + 1 ↔ M = 0 := ⟨fun h => by omega, fun h => by omega⟩
    rw [if_pos rfl, if_neg h1]
    simp only [h2, Bool.and_eq_true, decide_eq_true_eq]
  · have := Nat.mul_le_mul_left A (show E + 1 ≤ B by omega)
    rw [Nat.mul_succ] at this
    have h1 : A * E + M ≤ A * B - 1 := by omega
    rw [if_neg h, if_pos h1]

theorem class_maxVal {α} (A H G : Nat) (inf : Bool) (num infv nan : α) (hG : G < H) (h2 : 2 ≤ H) (h4 : inf = true → 4 ≤ H) :
    (if G = H - 1 then nan else if (inf && decide (G + 1 = H - 1)) = true then infv else num) =
    (if G ≤ codeMax .maxVal inf A H then num
     else if inf = true ∧ G = codeMax .maxVal inf A H + 1 then infv else nan) := by
  cases inf
  · simp only [codeMax, Bool.false_and, Bool.false_eq_true, if_false, false_and]
    by_cases h : G = H - 1
    · rw [if_pos h, if_neg (by omega)]
    · rw [if_neg h, if_pos (by omega)]
  · have := h4 rfl
    simp only [codeMax, Bool.true_and, if_true, true_and, decide_eq_true_eq]
    by_cases h : G = H - 1
    · rw [if_pos h, if_neg (by omega), if_neg (by omega)]
    · rw [if_neg h]
      by_cases h' : G + 1 = H - 1
      · rw [if_pos h', if_neg (by omega), if_pos (by omega)]
      · rw [if_neg h', if_pos (by omega)]

theorem class_other {α} (kind : NanKind) (hk : kind = .negZero ∨ kind = .none) (A H G : Nat) (inf : Bool)
    (num infv nan : α) (hG : G < H) (h2 : inf = true → 2 ≤ H) :
    (if (inf && decide (G = H - 1)) = true then infv else num) =
    (if G ≤ codeMax kind inf A H then num
     else if inf = true ∧ G = codeMax kind inf A H + 1 then infv else nan) := by
  rw [codeMax_other hk]
  cases inf
  · have h1 : G ≤ H - 1 := by omega
    simp only [Bool.false_and, Bool.false_eq_true, if_false, if_pos h1]
  · have := h2 rfl
    simp only [Bool.true_and, if_true, true_and, decide_eq_true_eq]
    by_cases h : G = H - 1
    · have h1 : ¬ G ≤ H - 2 := by omega
      have h3 : G = H - 2 + 1 := by omega
      rw [if_pos h, if_neg h1, if_pos h3]
    · have h1 : G ≤ H - 2 := by omega
      rw [if_neg h, if_pos h1]

theorem class_negZero {α} (A H G S : Nat) (inf : Bool) (num infv nan : α) (hG : G < H) (h2 : inf = true → 2 ≤ H) :
    (if (inf && decide (G = H - 1)) = true then infv else if G = 0 ∧ S = 1 then nan else num) =
    (if G = 0 ∧ S = 1 then nan
     else if G ≤ codeMax .negZero inf A H then num
     else if inf = true ∧ G = codeMax .negZero inf A H + 1 then infv else nan) := by
  rw [class_other .negZero (.inl rfl) A H G inf _ infv nan hG h2]
  by_cases hz : G = 0 ∧ S = 1
  · have h1 : G ≤ codeMax .negZero inf A H := by omega
    rw [if_pos hz, if_pos hz, if_pos h1]
  · rw [if_neg hz, if_neg hz]

theorem ef_number_eq (f : EF) (hv : f.valid = true) (s : Bool) (E M : Nat) (hM : M < 2 ^ f.m) :
    (if E = 0 then FV.fin ⟨s, 1 - efBias f.es + f.eoff - (f.m : Int), M⟩
     else FV.fin ⟨s, (E : Int) - efBias f.es + f.eoff - (f.m : Int), 2 ^ f.m + M⟩) =
    FV.fin (efNumber f s (2 ^ f.m * E + M)) := by
  have hexp : f.expmin = 1 - efBias f.es + f.eoff - (f.m : Int) := ef_expmin f hv
  rw [show efNumber f s (2 ^ f.m * E + M) = mpsNumber f.mpb.mps s (2 ^ (f.mpb.mps.p - 1) * E + M) from rfl,
    mpsNumber_code f.mpb.mps s E M hM, ef_mps_expmin, hexp]
  by_cases hE : E = 0
  · rw [if_pos hE, if_pos hE]
  · rw [if_neg hE, if_neg hE]; congr 2; omega

theorem ef_layout_class (f : EF) (hv : f.valid = true) (b : Nat) (hb : b < 2 ^ f.nbits) :
    efLayout f.es f.nbits f.inf f.kind f.eoff b =
      (if f.kind = .negZero ∧ b % 2 ^ (f.nbits - 1) = 0 ∧ b / 2 ^ (f.nbits - 1) = 1 then .nan (decide (b / 2 ^ (f.nbits - 1) = 1))
       else if b % 2 ^ (f.nbits - 1) ≤ efGmax f then .fin (efNumber f (decide (b / 2 ^ (f.nbits - 1) = 1)) (b % 2 ^ (f.nbits - 1)))
       else if f.inf = true ∧ b % 2 ^ (f.nbits - 1) = efGmax f + 1 then .inf (decide (b / 2 ^ (f.nbits - 1) = 1))
       else .nan (decide (b / 2 ^ (f.nbits - 1) = 1))) := by
  have ⟨hA, hB, hH, hN⟩ := ef_pow f hv
  have ⟨hki, hkm, hkz⟩ := ef_kind_pow f hv
  rw [hN, hH] at hb
  have ⟨_, fE, fM, fmag, fGlt, _⟩ := ef_fields b _ _ hA hB hb
  unfold efLayout
  simp only [show f.nbits - f.es - 1 = f.m from rfl, ef_number_eq f hv _ _ _ fM, efGmax_eq f hv]
  rw [hH] at hkm hkz ⊢
  cases hk : f.kind <;> simp only
  · simp only [reduceCtorEq, false_and, if_false]; rw [fmag]
    exact class_ieee _ _ _ _ _ _ _ _ hA (hki hk).1 fE fM
  · simp only [reduceCtorEq, false_and, if_false]; rw [← fmag]
    exact class_maxVal _ _ _ _ _ _ _ fGlt (hkm hk).1 (hkm hk).2
  · rw [← fmag]; simp only [true_and]
    exact class_negZero _ _ _ _ _ _ _ _ fGlt (hkz (.inl hk))
  · simp only [reduceCtorEq, false_and, if_false]; rw [← fmag]
    exact class_other _ (.inr rfl) _ _ _ _ _ _ _ fGlt (hkz (.inr hk))

theorem ef_decode_class (f : EF) (hv : f.valid = true) (b : Nat) (hb : b < 2 ^ f.nbits) :
    f.decode b =
      .ok (if f.kind = .negZero ∧ b % 2 ^ (f.nbits - 1) = 0 ∧ b / 2 ^ (f.nbits - 1) = 1 then .nan (decide (b / 2 ^ (f.nbits - 1) = 1))
       else if b % 2 ^ (f.nbits - 1) ≤ efGmax f then .fin (efNumber f (decide (b / 2 ^ (f.nbits - 1) = 1)) (b % 2 ^ (f.nbits - 1)))
       else if f.inf = true ∧ b % 2 ^ (f.nbits - 1) = efGmax f + 1 then .inf (decide (b / 2 ^ (f.nbits - 1) = 1))
       else .nan (decide (b / 2 ^ (f.nbits - 1) = 1))) := by
  rw [ef_decode_layout f hv b hb, ef_layout_class f hv b hb]

theorem ef_encode_of_fields (f : EF) (v : FV) (e mb : Nat) (hr : f.repr v = true)
    (hf : f.encodeFields v = .ok (e, mb)) :
    f.encode v = .ok ((2 ^ (f.nbits - 1) * f.encodeSign v ||| 2 ^ f.m * e) ||| mb) := by
  unfold EF.encode
  simp only [hr, Bool.not_true, Bool.false_eq_true, if_false, hf]

theorem ef_encode_code (f : EF) (v : FV) (e mb G : Nat) (hr : f.repr v = true)
    (hf : f.encodeFields v = .ok (e, mb)) (hor : 2 ^ f.m * e ||| mb = G) (hlt : G < 2 ^ (f.nbits - 1)) :
    f.encode v = .ok (2 ^ (f.nbits - 1) * f.encodeSign v + G) := by
  rw [ef_encode_of_fields f _ e mb hr hf, Nat.or_assoc, hor, two_pow_mul_or _ _ _ hlt]

theorem ef_encode_fin_nonzero (f : EF) (hv : f.valid = true) (x : RF) (hc : x.c ≠ 0) (hr : f.repr (.fin x) = true) :
    mpsUord f.mpb.mps x ≤ efGmax f ∧
    f.encode (.fin x) = .ok (2 ^ (f.nbits - 1) * (if x.s then 1 else 0) + mpsUord f.mpb.mps x) := by
  have hr0 := hr
  rw [ef_repr_fin_nonzero f hv x hc] at hr
  simp only [Bool.and_eq_true, decide_eq_true_eq] at hr
  obtain ⟨⟨_, hle⟩, _⟩ := hr
  refine ⟨hle, ?_⟩
  obtain ⟨e, mb, hf, hor⟩ := ef_fields_fin f x hc
  exact ef_encode_code f _ e mb _ hr0 hf hor (Nat.lt_of_le_of_lt hle (ef_Gmax_lt f hv))

theorem ef_encode_fin_zero (f : EF) (x : RF) (hc : x.c = 0) (hr : f.repr (.fin x) = true) :
    f.encode (.fin x) = .ok (2 ^ (f.nbits - 1) * (if x.s then 1 else 0)) := by
  have hf : f.encodeFields (.fin x) = .ok (0, 0) := by unfold EF.encodeFields; simp [hc]
  rw [ef_encode_of_fields f _ 0 0 hr hf]
  simp only [EF.encodeSign, FV.sign, Nat.mul_zero, Nat.or_zero]
  obtain ⟨s, e, c⟩ := x
  cases s <;> rfl

theorem ef_decode_split (f : EF) (hv : f.valid = true) (s : Bool) (G : Nat) (hG : G < 2 ^ (f.nbits - 1)) :
    2 ^ (f.nbits - 1) * (if s then 1 else 0) + G < 2 ^ f.nbits ∧
    f.decode (2 ^ (f.nbits - 1) * (if s then 1 else 0) + G) =
      .ok (if f.kind = .negZero ∧ G = 0 ∧ s = true then .nan s
       else if G ≤ efGmax f then .fin (efNumber f s G)
       else if f.inf = true ∧ G = efGmax f + 1 then .inf s
       else .nan s) := by
  have ⟨hn, hes⟩ := ef_valid_basic f hv
  have hN := two_pow_pred f.nbits hn
  have hH := Nat.two_pow_pos (f.nbits - 1)
  have hlt : 2 ^ (f.nbits - 1) * (if s then 1 else 0) + G < 2 ^ f.nbits := by cases s <;> simp <;> omega
  refine ⟨hlt, ?_⟩
  rw [ef_decode_class f hv _ hlt, (divmod_code hH _ G hG).1, (divmod_code hH _ G hG).2]
  cases s <;> simp

end Fpy
