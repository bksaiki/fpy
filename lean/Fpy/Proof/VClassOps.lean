/-
The value-class rules against the operations they abstract (the lattice facts are in `Proof/VClass`): `_map` tables
(`logb`), the Min/Max join, and the branch refinements of `_implied` / `_implied_compare`.  The class tests of `Float` and of the engine
(`isNan`, `isInf`, `isZero`, `nvIsNan`, …) are membership of the class in a mask (`*_eq_has`, `*_has`).
Then the exact `RealEngine` (what the interpreter computes under `fp.REAL`, where `_rounded` keeps the exact
class) on interpreter values — Floats AND non-dyadic Fractions: it is abstracted soundly by `_exact_add` /
`_exact_mul` / the identity for negation.  `Float.__add__` / `Float.__mul__` are the engine on two Floats
(`realAdd_fv`, `realMul_fv`), so their rules are instances.
-/
import Fpy.Proof.VClass
namespace Fpy.C13
open Fpy VC

theorem mapTable_has (t : Cls → VC) (a : VC) (c d : Cls) (hc : a.has c = true) (hd : (t c).has d = true) :
    (mapTable t a).has d = true := by
  obtain ⟨a1, a2, a3, a4⟩ := a
  unfold mapTable
  cases c <;> simp only [VC.has] at hc <;> subst hc
  · exact has_join_left (has_join_left (has_join_left hd))
  · exact has_join_left (has_join_left (has_join_right hd))
  · exact has_join_left (has_join_right hd)
  · exact has_join_right hd

theorem logb_atoms (v : FV) : (logbTable (classOf v)).has (classOf (logbFV v)) = true := by
  cases v with
  | nan s => rfl
  | inf s => rfl
  | fin x =>
    by_cases hx : x.c = 0
    · rw [classOf_fin_zero hx]; simp [logbFV, hx]; rfl
    · rw [classOf_fin_nz hx]
      have : logbFV (.fin x) = .fin (RF.ofInt x.e) := by simp [logbFV, hx]
      rw [this]
      exact has_of_zero_fin (classOf_fin_cases _) rfl rfl

theorem minMax_foldl_acc (as : List VC) (acc : VC) (c : Cls) (h : acc.has c = true) :
    (as.foldl (· ||| ·) acc).has c = true := by
  induction as generalizing acc with
  | nil => exact h
  | cons a as ih => exact ih _ (has_join_left h)

theorem minMax_foldl_mem (as : List VC) (acc : VC) (a : VC) (c : Cls) (ha : a ∈ as) (h : a.has c = true) :
    (as.foldl (· ||| ·) acc).has c = true := by
  induction as generalizing acc with
  | nil => cases ha
  | cons b as ih =>
    simp only [List.foldl]
    rcases List.mem_cons.mp ha with rfl | hm
    · exact minMax_foldl_acc as _ c (has_join_right h)
    · exact ih _ hm

/-- `ops.isfinite` on a Float -/
def fvIsFinite (v : FV) : Bool := !v.isNar

/-- a class test that decides membership in the mask `impliedPred` gives for `True` is refined soundly
on both answers: the mask for `False` is the complement -/
theorem implied_of_mask {p : Pred} {S : VC} (hS : impliedPred p true = some S) {c : Cls} {truth : Bool}
    (h : S.has c = truth) {m : VC} (hm : impliedPred p truth = some m) : m.has c = true := by
  cases truth
  · cases p <;> cases hS <;> cases hm <;> cases c <;> first | rfl | cases h
  · rw [hS] at hm; cases hm; exact h

theorem isNan_eq_has (v : FV) : v.isNan = NAN.has (classOf v) := by
  cases v with
  | fin x => exact (has_of_zero_fin (K := NAN) (classOf_fin_cases x) rfl rfl).symm
  | _ => rfl

theorem isInf_eq_has (v : FV) : v.isInf = INF.has (classOf v) := by
  cases v with
  | fin x => exact (has_of_zero_fin (K := INF) (classOf_fin_cases x) rfl rfl).symm
  | _ => rfl

theorem fvIsFinite_eq_has (v : FV) : fvIsFinite v = (ZERO ||| FINITE).has (classOf v) := by
  cases v with
  | fin x => exact (has_of_zero_fin (K := ZERO ||| FINITE) (classOf_fin_cases x) rfl rfl).symm
  | _ => rfl

theorem zero_has_ite (b : Bool) : ZERO.has (if b then Cls.zero else Cls.fin) = b := by
  cases b <;> rfl

theorem isZero_eq_has (v : FV) : v.isZero = ZERO.has (classOf v) := by
  cases v with
  | fin x => exact (zero_has_ite _).symm
  | _ => rfl

theorem nvIsNan_has (x : NV) : nvIsNan x = NAN.has (classOfNV x) := by
  cases x with
  | fv v => exact isNan_eq_has v
  | q n d => simp only [classOfNV]; split <;> rfl

theorem nvIsInf_has (x : NV) : nvIsInf x = INF.has (classOfNV x) := by
  cases x with
  | fv v => exact isInf_eq_has v
  | q n d => simp only [classOfNV]; split <;> rfl

theorem nvIsZero_has (x : NV) : nvIsZero x = ZERO.has (classOfNV x) := by
  cases x with
  | fv v => exact isZero_eq_has v
  | q n d => exact (zero_has_ite _).symm

theorem nvCompare_nan {x y : NV} (h : (nvIsNan x || nvIsNan y) = true) : nvCompare x y = none := by
  cases x with
  | fv u =>
    cases y with
    | fv v => cases u <;> cases v <;> first | rfl | cases h
    | q n d => exact if_pos h
  | q n d => exact if_pos h

theorem not_nan_has {x : NV} (h : nvIsNan x = false) : ((INF ||| ZERO) ||| FINITE).has (classOfNV x) = true := by
  cases x with
  | q n d => simp only [classOfNV]; split <;> rfl
  | fv v =>
    cases v with
    | nan s => cases h
    | inf s => rfl
    | fin r => exact has_of_zero_fin (classOf_fin_cases r) rfl rfl

theorem cmp_true_not_nan (op : CmpOp) (x y : NV) (hop : op ≠ .ne) (h : cmpHolds op x y = true) :
    ((INF ||| ZERO) ||| FINITE).has (classOfNV x) = true ∧ ((INF ||| ZERO) ||| FINITE).has (classOfNV y) = true := by
  cases hn : nvIsNan x || nvIsNan y with
  | true =>
    simp only [cmpHolds, nvCompare_nan hn] at h
    cases op <;> first | exact absurd rfl hop | cases h
  | false =>
    rw [Bool.or_eq_false_iff] at hn
    exact ⟨not_nan_has hn.1, not_nan_has hn.2⟩

theorem cmpHolds_ne (x y : NV) : cmpHolds .ne x y = !cmpHolds .eq x y := by
  unfold cmpHolds
  cases nvCompare x y <;> rfl

theorem rf_compare_eq_zero_iff (x l : RF) (h : RF.compare x l = .eq) : (x.c = 0 ↔ l.c = 0) := by
  unfold RF.compare at h
  -- `RealFloat.compare` tests for zeros first: a zero against a non-zero is `.lt` or `.gt` by the sign of the
  -- non-zero side, never `.eq`; these are the two cases left after `simp`
  by_cases hx : x.c = 0 <;> by_cases hl : l.c = 0 <;> simp [hx, hl] at h ⊢
  · split at h <;> cases h
  · split at h <;> cases h

theorem fv_compare_eq_class {x y : FV} (h : FV.compare x y = some .eq) : classOf x = classOf y := by
  cases x with
  | nan s => cases h
  | inf s =>
    cases y with
    | nan t => cases h
    | inf t => rfl
    | fin r => cases s <;> cases h
  | fin l =>
    cases y with
    | nan t => cases h
    | inf t => cases t <;> cases h
    | fin r =>
      have := rf_compare_eq_zero_iff l r (Option.some.inj h)
      by_cases hl : l.c = 0
      · rw [classOf_fin_zero hl, classOf_fin_zero (this.mp hl)]
      · rw [classOf_fin_nz hl, classOf_fin_nz (fun hr => hl (this.mpr hr))]

theorem cmpHolds_eq_class {x y : FV} (h : cmpHolds .eq (.fv x) (.fv y) = true) : classOf x = classOf y := by
  simp only [cmpHolds, nvCompare] at h
  cases hc : FV.compare x y with
  | none => rw [hc] at h; cases h
  | some o => rw [hc] at h; cases o <;> first | exact fv_compare_eq_class hc | cases h

theorem cmpHolds_eq_zero {x y : RF} (hx : x.c = 0) (hy : y.c = 0) :
    cmpHolds .eq (.fv (.fin x)) (.fv (.fin y)) = true := by
  simp [cmpHolds, nvCompare, FV.compare, RF.compare, hx, hy]

/-- a `Fraction` operand as the interpreter holds it: lowest terms, non-dyadic, hence numerator and
denominator both non-zero.  The lemmas below use `n ≠ 0` only; `d ≠ 0` is carried along as part of what the
interpreter guarantees -/
def WFq : NV → Prop
  | .q n d => n ≠ 0 ∧ d ≠ 0
  | .fv _ => True

theorem int_div_gcd_ne_zero (num : Int) (den : Nat) (h : num ≠ 0) :
    num / ((Nat.gcd num.natAbs den : Nat) : Int) ≠ 0 := by
  have hg : ((Nat.gcd num.natAbs den : Nat) : Int) ∣ num :=
    Int.ofNat_dvd_left.mpr (Nat.gcd_dvd_left _ _)
  intro h0
  have := Int.ediv_mul_cancel hg
  rw [h0] at this
  simp at this
  exact h this.symm

theorem classOfNV_frac_cases (a : Int) (b : Nat) :
    classOfNV (NV.frac a b) = .zero ∨ classOfNV (NV.frac a b) = .fin := by
  simp only [NV.frac, classOfNV]; split <;> simp

theorem classOfNV_frac_nz (a : Int) (b : Nat) (h : a ≠ 0) : classOfNV (NV.frac a b) = .fin := by
  simp only [NV.frac, classOfNV]
  have := int_div_gcd_ne_zero a b h
  simp [this]

theorem toRat_fst_eq_zero (x : RF) : x.toRat.1 = 0 ↔ x.c = 0 := by
  have hm : (if x.s = true then -(x.c : Int) else (x.c : Int)) = 0 ↔ x.c = 0 := by split <;> omega
  simp only [RF.toRat]
  split
  · rw [Int.mul_eq_zero, hm, or_iff_left (Int.pow_ne_zero (by decide))]
  · exact hm

theorem toRat_snd_ne_zero (x : RF) : x.toRat.2 ≠ 0 := by
  simp only [RF.toRat]
  split
  · simp
  · exact Nat.ne_of_gt (Nat.pow_pos (by decide))

theorem cls_q {n : Int} (d : Nat) (h : n ≠ 0) : classOfNV (.q n d) = .fin := by simp [classOfNV, h]

theorem realAdd_fv (u v : FV) : realAdd (.fv u) (.fv v) = .fv (u.add v) := by
  cases u with
  | inf s => cases v with
    | inf t => cases s <;> cases t <;> rfl
    | _ => rfl
  | _ => cases v <;> rfl

theorem realMul_fv (u v : FV) : realMul (.fv u) (.fv v) = .fv (u.mul v) := by
  cases u with
  | nan s => rfl
  | inf s => cases v with
    | fin y => exact (apply_ite NV.fv _ _ _).symm
    | _ => rfl
  | fin x => cases v with
    | nan t => rfl
    | inf t => exact (apply_ite NV.fv _ _ _).symm
    | fin y =>
      show (if (x.c == 0 || y.c == 0) = true then _ else _) = _
      simp only [FV.mul, RF.mul]
      by_cases h : (x.c == 0 || y.c == 0) = true
      · rw [if_pos h, if_pos (by simpa using h)]; rfl
      · rw [if_neg h, if_neg (by simpa using h)]

theorem nvRat_fst_ne_zero {x : NV} (hx : WFq x) (hc : classOfNV x = .fin) : (nvRat x).1 ≠ 0 := by
  cases x with
  | q n d => exact hx.1
  | fv v => cases v with
    | fin r => exact mt (toRat_fst_eq_zero r).1 (c_of_class_fin hc)
    | _ => cases hc

theorem zero_view {x : NV} (hx : WFq x) (hc : classOfNV x = .zero) : ∃ a, x = .fv (.fin a) ∧ a.c = 0 := by
  cases x with
  | q n d => rw [cls_q d hx.1] at hc; cases hc
  | fv v => cases v with
    | fin r => exact ⟨r, rfl, c_of_class_zero hc⟩
    | _ => cases hc

/-- `RealEngine.add` asks `nvIsNan` and `nvIsInf` of its operands before anything else, and these are class tests: a
special operand settles the class of the result by evaluation; the four pairs of finite classes are left.  In each,
`split` takes the engine's last `match` apart: two Floats are added by `RF.add`, any other pair as fractions by `ratAdd` -/
theorem nv_add_class (x y : NV) (hx : WFq x) (hy : WFq y) :
    (addAtoms (classOfNV x) (classOfNV y)).has (classOfNV (realAdd x y)) = true := by
  unfold realAdd
  simp only [nvIsNan_has, nvIsInf_has]
  cases hc : classOfNV x <;> cases hd : classOfNV y <;> try rfl
  case inf.inf =>
    by_cases hs : (nvSign x == nvSign y) = true <;> simp only [hs, ↓reduceIte] <;> rfl
  case zero.zero =>
    obtain ⟨a, rfl, ha⟩ := zero_view hx hc
    obtain ⟨b, rfl, hb⟩ := zero_view hy hd
    exact has_of_eq (classOf_fin_zero (x := a.add b) (by simp [RF.add, ha, hb])) rfl
  case zero.fin =>
    refine has_of_eq (c := .fin) ?_ rfl
    simp only [VC.has, NAN, INF, Bool.or_false, Bool.false_eq_true, ↓reduceIte]
    split
    · exact classOf_fin_nz (by simp [RF.add, c_of_class_zero hc, c_of_class_fin hd])
    · obtain ⟨a, rfl, ha⟩ := zero_view hx hc
      refine classOfNV_frac_nz _ _ ?_
      simp only [ratAdd, nvRat, (toRat_fst_eq_zero a).2 ha, Int.zero_mul, Int.zero_add]
      exact Int.mul_ne_zero (nvRat_fst_ne_zero hy hd) (by exact_mod_cast toRat_snd_ne_zero a)
  case fin.zero =>
    refine has_of_eq (c := .fin) ?_ rfl
    simp only [VC.has, NAN, INF, Bool.or_false, Bool.false_eq_true, ↓reduceIte]
    split
    · exact classOf_fin_nz (by simp [RF.add, c_of_class_fin hc, c_of_class_zero hd])
    · obtain ⟨b, rfl, hb⟩ := zero_view hy hd
      refine classOfNV_frac_nz _ _ ?_
      simp only [ratAdd, nvRat, (toRat_fst_eq_zero b).2 hb, Int.zero_mul, Int.add_zero]
      exact Int.mul_ne_zero (nvRat_fst_ne_zero hx hc) (by exact_mod_cast toRat_snd_ne_zero b)
  case fin.fin =>
    refine has_of_zero_fin ?_ rfl rfl
    simp only [VC.has, NAN, INF, Bool.or_false, Bool.false_eq_true, ↓reduceIte]
    split
    · exact classOf_fin_cases _
    · exact classOfNV_frac_cases _ _

theorem fv_add_class (x y : FV) : (addAtoms (classOf x) (classOf y)).has (classOf (FV.add x y)) = true := by
  have := nv_add_class (.fv x) (.fv y) trivial trivial
  rwa [realAdd_fv] at this

theorem nv_neg_class (x : NV) : classOfNV (realNeg x) = classOfNV x := by
  cases x with
  | fv v => exact classOf_neg v
  | q n d => simp [realNeg, classOfNV]

/-- `RealEngine.mul` asks `nvIsNan`, `nvIsInf` and `nvIsZero`, all three class tests: only finite non-zero operands
reach the arithmetic (`split`: `RF.mul` on two Floats, `ratMul` otherwise), and non-zero numerators have a non-zero
product -/
theorem nv_mul_class (x y : NV) (hx : WFq x) (hy : WFq y) :
    (mulAtoms (classOfNV x) (classOfNV y)).has (classOfNV (realMul x y)) = true := by
  unfold realMul
  simp only [nvIsNan_has, nvIsInf_has, nvIsZero_has]
  cases hc : classOfNV x <;> cases hd : classOfNV y <;> try rfl
  refine has_of_eq (c := .fin) ?_ rfl
  simp only [VC.has, NAN, INF, ZERO, Bool.or_false, Bool.false_eq_true, ↓reduceIte]
  split
  · exact classOf_fin_nz (by simp [RF.mul, c_of_class_fin hc, c_of_class_fin hd, Nat.mul_eq_zero])
  · exact classOfNV_frac_nz _ _ (Int.mul_ne_zero (nvRat_fst_ne_zero hx hc) (nvRat_fst_ne_zero hy hd))

theorem fv_mul_class (x y : FV) : (mulAtoms (classOf x) (classOf y)).has (classOf (FV.mul x y)) = true := by
  have := nv_mul_class (.fv x) (.fv y) trivial trivial
  rwa [realMul_fv] at this

end Fpy.C13
