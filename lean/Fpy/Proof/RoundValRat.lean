/-
Non-dyadic rational operands.  `truncRat` finds the binade of `N/D` (`ratE_spec`) and truncates to `prec` digits
(`truncRat_bits`), `rtoRat` ORs the sticky bit in; rounding that round-to-odd intermediate on a grid two digits
coarser is the correct rounding of `N/D` itself (`rtoRat_roundVal`).  At the end, what
`Props.C01v.frac_never_exact` needs about divisors of powers of two (`dvd_two_pow`, `isPow2_two_pow`).
-/
import Fpy.Proof.RoundValRF
import Fpy.Proof.RoundOdd
namespace Fpy.C01v
open Fpy Fpy.Spec

theorem le_div_iff {a b c : Rat} (hc : 0 < c) : a ≤ b / c ↔ a * c ≤ b := by
  rw [← Rat.not_lt, ← Rat.not_lt, Rat.div_lt_iff hc]

theorem ratB_pos (D : Nat) (hD : 0 < D) (exp : Int) : 0 < ratB D exp := by
  unfold ratB; split
  · exact Nat.mul_pos hD (Nat.pow_pos (by decide))
  · exact hD

theorem ratAB_val (N D : Nat) (hD : 0 < D) (exp : Int) :
    (ratA N exp : Rat) / (ratB D exp : Rat) * (2 : Rat) ^ exp = (N : Rat) / (D : Rat) := by
  have hD0 : (D : Rat) ≠ 0 := Rat.ne_of_gt (Rat.natCast_pos.2 hD)
  unfold ratA ratB
  by_cases he : exp ≥ 0
  · simp only [he, if_true]
    have : exp = ((exp.toNat : Nat) : Int) := by omega
    generalize exp.toNat = j at this
    rw [this, RF.two_zpow_nat, Rat.natCast_mul]
    have hP : ((2 ^ j : Nat) : Rat) ≠ 0 := Rat.ne_of_gt (Rat.natCast_pos.2 (Nat.pow_pos (by decide)))
    generalize ((2 ^ j : Nat) : Rat) = P at *
    grind
  · simp only [he, if_false]
    have : exp = -(((-exp).toNat : Nat) : Int) := by omega
    generalize (-exp).toNat = j at this
    have hP : ((2 ^ j : Nat) : Rat) ≠ 0 := Rat.ne_of_gt (Rat.natCast_pos.2 (Nat.pow_pos (by decide)))
    rw [this, Rat.zpow_neg, RF.two_zpow_nat, Rat.natCast_mul]
    generalize ((2 ^ j : Nat) : Rat) = P at *
    grind

/-- comparing `N/D` with `2^e` is comparing the scaled pair: no second split on the sign of `e` -/
theorem zpow_le_frac_iff (N D : Nat) (hD : 0 < D) (e : Int) :
    (2 : Rat) ^ e ≤ (N : Rat) / (D : Rat) ↔ ratB D e ≤ ratA N e := by
  have hG := RF.two_zpow_pos e
  have hB := Rat.natCast_pos.2 (ratB_pos D hD e)
  have h1 : (1 : Rat) ≤ (ratA N e : Rat) / (ratB D e : Rat) ↔ ratB D e ≤ ratA N e := by
    rw [le_div_iff hB, Rat.one_mul, Rat.natCast_le_natCast]
  rw [← ratAB_val N D hD e, ← h1]
  constructor
  · intro h
    exact Rat.le_of_mul_le_mul_right (by rwa [Rat.one_mul]) hG
  · intro h
    have := Rat.mul_le_mul_of_nonneg_right h (Rat.le_of_lt hG)
    rwa [Rat.one_mul] at this

theorem frac_lt_zpow_iff (N D : Nat) (hD : 0 < D) (e : Int) :
    (N : Rat) / (D : Rat) < (2 : Rat) ^ e ↔
      (if e ≥ 0 then N < D * 2 ^ e.toNat else N * 2 ^ (-e).toNat < D) := by
  rw [← Rat.not_le, zpow_le_frac_iff N D hD e]
  unfold ratA ratB
  split <;> omega

theorem natCast_binade {n : Nat} (hn : n ≠ 0) :
    (2 : Rat) ^ (((bitLength n : Nat) : Int) - 1) ≤ (n : Rat) ∧ (n : Rat) < (2 : Rat) ^ ((bitLength n : Nat) : Int) := by
  obtain ⟨n1, n2⟩ := (bitLength_eq_iff n _ (bitLength_pos hn)).1 rfl
  have : ((bitLength n : Nat) : Int) - 1 = ((bitLength n - 1 : Nat) : Int) := by have := bitLength_pos hn; omega
  rw [this, RF.two_zpow_nat, RF.two_zpow_nat]
  exact ⟨Rat.natCast_le_natCast.2 n1, Rat.natCast_lt_natCast.2 n2⟩

theorem ratE_spec (N D : Nat) (hN : N ≠ 0) (hD : 0 < D) :
    (2 : Rat) ^ ratE N D ≤ (N : Rat) / (D : Rat) ∧ (N : Rat) / (D : Rat) < (2 : Rat) ^ (ratE N D + 1) := by
  have hDq := Rat.natCast_pos.2 hD
  obtain ⟨N1, N2⟩ := natCast_binade hN
  obtain ⟨D1, D2⟩ := natCast_binade (by omega : D ≠ 0)
  -- from the binades of `N` and of `D`: `bl N − bl D − 1 ≤ log₂(N/D) < bl N − bl D + 1`
  have up : (N : Rat) / (D : Rat) < (2 : Rat) ^ ((bitLength N : Int) - (bitLength D : Int) + 1) := by
    rw [Rat.div_lt_iff hDq]
    have e : ((bitLength N : Nat) : Int) = ((bitLength N : Int) - (bitLength D : Int) + 1) + (((bitLength D : Nat) : Int) - 1) := by omega
    rw [e, RF.two_zpow_add] at N2
    exact Std.lt_of_lt_of_le N2
      (Rat.mul_le_mul_of_nonneg_left D1 (Rat.le_of_lt (RF.two_zpow_pos ((bitLength N : Int) - (bitLength D : Int) + 1))))
  have low : (2 : Rat) ^ ((bitLength N : Int) - (bitLength D : Int) - 1) ≤ (N : Rat) / (D : Rat) := by
    rw [le_div_iff hDq]
    have e : ((bitLength N : Nat) : Int) - 1 = ((bitLength N : Int) - (bitLength D : Int) - 1) + ((bitLength D : Nat) : Int) := by omega
    rw [e, RF.two_zpow_add] at N1
    exact Rat.le_trans
      (Rat.le_of_lt (Rat.mul_lt_mul_of_pos_left D2 (RF.two_zpow_pos ((bitLength N : Int) - (bitLength D : Int) - 1)))) N1
  unfold ratE
  simp only
  generalize (bitLength N : Int) - (bitLength D : Int) = e0 at *
  -- the test of the search is `2^e0 ≤ N/D`, spelled on naturals
  generalize ht : (if e0 ≥ 0 then decide (N ≥ D * 2 ^ e0.toNat) else decide (N * 2 ^ (-e0).toNat ≥ D)) = t
  have htest : t = true ↔ ¬ (N : Rat) / (D : Rat) < (2 : Rat) ^ e0 := by
    rw [← ht, frac_lt_zpow_iff N D hD e0]; split <;> simp only [decide_eq_true_eq, Nat.not_lt, ge_iff_le]
  cases t
  · rw [if_neg Bool.false_ne_true, show e0 - 1 + 1 = e0 by omega]
    exact ⟨low, Decidable.not_not.1 (mt htest.2 Bool.false_ne_true)⟩
  · rw [if_pos rfl]
    exact ⟨Rat.not_lt.1 (htest.1 rfl), up⟩

theorem truncRat_bits (N D prec : Nat) (hN : N ≠ 0) (hD : 0 < D) (hp : 1 ≤ prec) :
    bitLength (ratA N (ratE N D - prec + 1) / ratB D (ratE N D - prec + 1)) = prec := by
  -- `2^e ≤ N/D < 2^(e+1)` with `N/D = A/B · 2^exp`, `e = exp + prec − 1`: divided by `2^exp`, `2^(prec−1) ≤ A/B < 2^prec`
  obtain ⟨s1, s2⟩ := ratE_spec N D hN hD
  have hB := ratB_pos D hD (ratE N D - prec + 1)
  have hv := ratAB_val N D hD (ratE N D - prec + 1)
  generalize ratE N D = e at *
  generalize hexp : e - prec + 1 = exp at *
  have hG := RF.two_zpow_pos exp
  rw [← hv] at s1 s2
  have e1 : (2 : Rat) ^ e = ((2 ^ (prec - 1) : Nat) : Rat) * (2 : Rat) ^ exp := by
    have : e = ((prec - 1 : Nat) : Int) + exp := by omega
    rw [this, RF.two_zpow_add, RF.two_zpow_nat]
  have e2 : (2 : Rat) ^ (e + 1) = ((2 ^ prec : Nat) : Rat) * (2 : Rat) ^ exp := by
    have : e + 1 = ((prec : Nat) : Int) + exp := by omega
    rw [this, RF.two_zpow_add, RF.two_zpow_nat]
  rw [e1] at s1; rw [e2] at s2
  have t1 := Rat.le_of_mul_le_mul_right s1 hG
  have t2 := (Rat.mul_lt_mul_right hG).1 s2
  have hBq := Rat.natCast_pos.2 hB
  rw [le_div_iff hBq, ← Rat.natCast_mul, Rat.natCast_le_natCast] at t1
  rw [Rat.div_lt_iff hBq, ← Rat.natCast_mul, Rat.natCast_lt_natCast] at t2
  apply (bitLength_eq_iff _ prec hp).2
  exact ⟨(Nat.le_div_iff_mul_le hB).2 t1, (Nat.div_lt_iff_lt_mul hB).2 t2⟩

/-- `⌊A/B⌋` with "remainder ≠ 0" OR-ed into its last digit is the code of `A` to half a unit of `B` (`rtoBit_div`); hence
the two guard digits -/
theorem rtoBit_roundDiv (rm : RM) (s : Bool) (A B J : Nat) (hB : 0 < B) :
    roundQuot rm s (rtoBit (A / B) (A % B != 0)) (J + 2) = roundDiv rm s A (B * 2 ^ (J + 2)) ∧
    (rtoBit (A / B) (A % B != 0) % 2 ^ (J + 2) = 0 ↔ A % (B * 2 ^ (J + 2)) = 0) := by
  have e : B * 2 ^ (J + 2) = 2 * B * 2 ^ (J + 1) := by rw [Nat.pow_succ', Nat.mul_left_comm, ← Nat.mul_assoc]
  rw [rtoBit_div A B hB, e, roundDiv_eq_roundQuotG]
  exact C03.ratCode_rounds rm s A (2 * B) (J + 1) (by omega) (by omega)

theorem rto_roundVal (rm : RM) (neg : Bool) (A B : Nat) (hB : 0 < B) (exp u : Int) (hu : exp + 2 ≤ u) :
    roundVal rm u (⟨neg, exp, rtoBit (A / B) (A % B != 0)⟩ : RF).val
      = roundVal rm u (RF.sgn neg * ((A : Rat) / (B : Rat)) * (2 : Rat) ^ exp) ∧
    (OnGrid u (⟨neg, exp, rtoBit (A / B) (A % B != 0)⟩ : RF).val
      ↔ OnGrid u (RF.sgn neg * ((A : Rat) / (B : Rat)) * (2 : Rat) ^ exp)) := by
  obtain ⟨n, rfl⟩ : ∃ n, u = n + 1 := ⟨u - 1, by omega⟩
  obtain ⟨J, hK⟩ : ∃ J : Nat, n + 1 = exp + ((J + 2 : Nat) : Int) := ⟨(n + 1 - exp - 2).toNat, by omega⟩
  have hB0 : (B : Rat) ≠ 0 := Rat.ne_of_gt (Rat.natCast_pos.2 hB)
  have hP : ((2 ^ (J + 2) : Nat) : Rat) ≠ 0 := Rat.ne_of_gt (Rat.natCast_pos.2 (Nat.pow_pos (by decide)))
  have hBK : 0 < B * 2 ^ (J + 2) := Nat.mul_pos hB (Nat.pow_pos (by decide))
  have hq : RF.sgn neg * ((A : Rat) / (B : Rat)) * (2 : Rat) ^ exp
      = RF.sgn neg * ((A : Rat) / ((B * 2 ^ (J + 2) : Nat) : Rat)) * (2 : Rat) ^ (n + 1) := by
    rw [hK, RF.two_zpow_add, RF.two_zpow_nat, Rat.natCast_mul]
    generalize ((2 ^ (J + 2) : Nat) : Rat) = P at *
    grind
  obtain ⟨d1, d2⟩ := rtoBit_roundDiv rm neg A B J hB
  have hle : (⟨neg, exp, rtoBit (A / B) (A % B != 0)⟩ : RF).exp ≤ n := by simp only; omega
  have hkk : (n + 1 - (⟨neg, exp, rtoBit (A / B) (A % B != 0)⟩ : RF).exp).toNat = J + 2 := by simp only; omega
  have hv := fixed_val (⟨neg, exp, rtoBit (A / B) (A % B != 0)⟩ : RF) n rm hle
  have hg := onGrid_iff_mod (⟨neg, exp, rtoBit (A / B) (A % B != 0)⟩ : RF) n
  rw [hkk] at hv hg
  constructor
  · rw [hq, roundVal_frac rm neg A _ hBK (n + 1), ← d1, ← hv, RF.val_mk]
  · rw [hq, onGrid_frac_iff neg A _ hBK (n + 1), ← d2]
    exact hg

def ratVal (neg : Bool) (N D : Nat) : Rat := RF.sgn neg * ((N : Rat) / (D : Rat))

theorem intCast_eq_sgn_natAbs (num : Int) :
    (num : Rat) = RF.sgn (decide (num < 0)) * ((num.natAbs : Nat) : Rat) := by
  have := RF.val_ofSigned num 0
  rw [RF.val_mk] at this
  simpa using this.symm

theorem frac_val (num : Int) (den : Nat) :
    (num : Rat) / (den : Rat) = ratVal (decide (num < 0)) num.natAbs den := by
  unfold ratVal
  rw [intCast_eq_sgn_natAbs num, Rat.div_def, Rat.div_def, Rat.mul_assoc]

theorem rtoRat_eq (neg : Bool) (N D prec : Nat) :
    rtoRat neg N D prec =
      ⟨neg, ratE N D - prec + 1,
        rtoBit (ratA N (ratE N D - prec + 1) / ratB D (ratE N D - prec + 1))
          (ratA N (ratE N D - prec + 1) % ratB D (ratE N D - prec + 1) != 0)⟩ := by
  unfold rtoRat
  rw [truncRat_eq]
  rfl

theorem rtoRat_binade (neg : Bool) (N D prec : Nat) (hN : N ≠ 0) (hD : 0 < D) (hp : 1 ≤ prec) :
    (rtoRat neg N D prec).c ≠ 0 ∧ (rtoRat neg N D prec).s = neg ∧
    (rtoRat neg N D prec).exp = ratE N D - prec + 1 ∧ (rtoRat neg N D prec).e = ratE N D := by
  have hb := truncRat_bits N D prec hN hD hp
  have hb' := bitLength_rtoBit _ prec (ratA N (ratE N D - prec + 1) % ratB D (ratE N D - prec + 1) != 0) hp hb
  rw [rtoRat_eq]
  refine ⟨fun h0 => by rw [show rtoBit _ _ = 0 from h0, bitLength_zero] at hb'; omega, rfl, rfl, ?_⟩
  unfold RF.e RF.p
  simp only [hb']
  omega

theorem rtoRat_roundVal (rm : RM) (neg : Bool) (N D prec : Nat) (hD : 0 < D) (u : Int)
    (hu : ratE N D - prec + 1 + 2 ≤ u) :
    roundVal rm u (rtoRat neg N D prec).val = roundVal rm u (ratVal neg N D) ∧
    (OnGrid u (rtoRat neg N D prec).val ↔ OnGrid u (ratVal neg N D)) := by
  rw [rtoRat_eq]
  have hB := ratB_pos D hD (ratE N D - prec + 1)
  have hv := ratAB_val N D hD (ratE N D - prec + 1)
  have := rto_roundVal rm neg (ratA N (ratE N D - prec + 1)) (ratB D (ratE N D - prec + 1)) hB
    (ratE N D - prec + 1) u hu
  have hq : RF.sgn neg * ((ratA N (ratE N D - prec + 1) : Rat) / (ratB D (ratE N D - prec + 1) : Rat)) *
      (2 : Rat) ^ (ratE N D - prec + 1) = ratVal neg N D := by
    unfold ratVal; rw [← hv]; grind
  rw [hq] at this
  exact this

/-- the rounding position of the float shape for `N/D`: `roundPos (ratE N D) p minN`, as `floatN` is
`roundPos x.e p minN` -/
def ratN (N D p : Nat) (minN : Option Int) : Int :=
  match minN with | none => ratE N D - p | some m => max m (ratE N D - p)

theorem ratN_ge_nmin (N D p : Nat) (nmin : Int) : nmin ≤ ratN N D p (some nmin) := roundPos_ge_min (ratE N D) p nmin

theorem dvd_two_pow (j : Nat) : ∀ d : Nat, d ∣ 2 ^ j → ∃ i, d = 2 ^ i := by
  induction j with
  | zero => intro d h; exact ⟨0, by simpa using h⟩
  | succ j ih =>
    intro d h
    rw [Nat.pow_succ] at h
    by_cases h2 : 2 ∣ d
    · obtain ⟨d', rfl⟩ := h2
      rw [Nat.mul_comm (2 ^ j) 2] at h
      have : d' ∣ 2 ^ j := Nat.dvd_of_mul_dvd_mul_left (by decide : 0 < 2) h
      obtain ⟨i, rfl⟩ := ih d' this
      exact ⟨i + 1, by rw [Nat.pow_succ, Nat.mul_comm]⟩
    · have hg : Nat.Coprime d 2 := by
        unfold Nat.Coprime
        have a := Nat.gcd_dvd_left d 2
        have b := Nat.gcd_dvd_right d 2
        have c := Nat.le_of_dvd (by decide) b
        have hz : Nat.gcd d 2 ≠ 0 := by
          intro hz; rw [hz] at b; simp at b
        rcases (by omega : Nat.gcd d 2 = 1 ∨ Nat.gcd d 2 = 2) with e | e
        · exact e
        · rw [e] at a; exact absurd a h2
      exact ih d (hg.dvd_of_dvd_mul_right h)

theorem isPow2_two_pow (i : Nat) : isPow2 (2 ^ i) = true := by
  unfold isPow2
  simp [Nat.log2_two_pow]

end Fpy.C01v
