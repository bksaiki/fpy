/-
C16: the MPS-float ordinal map (`MPSFloatFormat._to_ordinal / from_ordinal`): `ordValue`, the value of an ordinal,
is strictly monotone, and the ordinal of a representable value is the ordinal of its value (`mps_ordinal_units`);
hence order, equality, the round trips and `next_up/next_down`.  `MPSFloatFormat.normalize` is `mps_normalize_val` in Props/C16.
Then the canonical value of an ordinal as an exact triple (`mpsNumber`, `mpsNumber_code`), on which
`next_towards_zero` is the ordinal minus one (`ntz_canon`) and `_binade_max` the last ordinal of a binade
(`binadeMax_code`, `binadeMax_top`): what the search of `_ext_to_mpb_fmt` (Proof/EncEF) is made of.
-/
import Fpy.Proof.Enc
namespace Fpy
open Fpy.Enc Fpy.Spec

/-- value (in units of `2^expmin`) of the float with ordinal `u ≥ 0` in a format with `A = 2^(p-1)`:
ordinals below `A` are the subnormals, then each block of `A` ordinals is one binade -/
def ordValue (A u : Nat) : Nat := if u < A then u else (A + u % A) * 2 ^ (u / A - 1)

theorem ordValue_lt_two (A u : Nat) (h : u < 2 * A) : ordValue A u = u := by
  unfold ordValue
  by_cases h1 : u < A
  · simp [h1]
  · have hA : 0 < A := by omega
    have h2 : u / A = 1 := Nat.div_eq_of_lt_le (by omega) (by omega)
    have h3 : u % A = u - A := by have := Nat.div_add_mod u A; rw [h2] at this; omega
    simp [h1, h2, h3]; omega

theorem ordValue_code {A : Nat} (hA : 0 < A) (E M : Nat) (hM : M < A) :
    ordValue A (A * E + M) = if E = 0 then M else (A + M) * 2 ^ (E - 1) := by
  unfold ordValue
  rw [(divmod_code hA E M hM).1, (divmod_code hA E M hM).2]
  by_cases hE : E = 0
  · rw [if_pos hE, hE, if_pos (by omega)]; omega
  · have := Nat.mul_le_mul_left A (Nat.pos_of_ne_zero hE)
    rw [if_neg hE, if_neg (by omega)]

theorem ordValue_step (A u : Nat) (hA : 0 < A) : ordValue A u < ordValue A (u + 1) := by
  obtain ⟨E, M, hM, rfl⟩ : ∃ E M, M < A ∧ u = A * E + M :=
    ⟨u / A, u % A, Nat.mod_lt _ hA, (Nat.div_add_mod u A).symm⟩
  have hP := Nat.two_pow_pos (E - 1)
  by_cases hM1 : M + 1 < A
  · rw [Nat.add_assoc, ordValue_code hA E M hM, ordValue_code hA E (M + 1) hM1]
    by_cases hE : E = 0
    · rw [if_pos hE, if_pos hE]; exact Nat.lt_succ_self M
    · rw [if_neg hE, if_neg hE]; exact (Nat.mul_lt_mul_right hP).2 (Nat.lt_succ_self _)
  · -- from the last value of a binade to the first of the next: `(A + (A-1))·P < A·(2·P)`
    rw [show A * E + M + 1 = A * (E + 1) + 0 by rw [Nat.mul_succ]; omega, ordValue_code hA E M hM,
      ordValue_code hA (E + 1) 0 hA, if_neg (Nat.succ_ne_zero E), Nat.add_sub_cancel, Nat.add_zero]
    by_cases hE : E = 0
    · rw [if_pos hE, hE, Nat.pow_zero, Nat.mul_one]; exact hM
    · obtain ⟨E, rfl⟩ : ∃ E', E = E' + 1 := ⟨E - 1, by omega⟩
      rw [if_neg hE, Nat.add_sub_cancel, Nat.pow_succ, Nat.mul_comm _ 2, ← Nat.mul_assoc, Nat.mul_comm A 2,
        Nat.two_mul]
      exact (Nat.mul_lt_mul_right hP).2 (Nat.add_lt_add_left hM A)

theorem ordValue_strictMono (A : Nat) (hA : 0 < A) {u v : Nat} (h : u < v) : ordValue A u < ordValue A v := by
  induction v with
  | zero => omega
  | succ v ih =>
    by_cases h1 : u = v
    · subst h1; exact ordValue_step A u hA
    · exact Nat.lt_trans (ih (by omega)) (ordValue_step A v hA)

theorem ordValue_lt_iff (A : Nat) (hA : 0 < A) (u v : Nat) : ordValue A u < ordValue A v ↔ u < v := by
  refine ⟨fun h => Nat.lt_of_not_le fun h1 => ?_, ordValue_strictMono A hA⟩
  rcases Nat.lt_or_eq_of_le h1 with h2 | rfl
  · have := ordValue_strictMono A hA h2; omega
  · omega

theorem ordValue_zero (A : Nat) (hA : 0 < A) : ordValue A 0 = 0 := by
  unfold ordValue; simp [hA]

theorem ordValue_inj (A : Nat) (hA : 0 < A) (u v : Nat) : ordValue A u = ordValue A v ↔ u = v := by
  have h1 := ordValue_lt_iff A hA u v
  have h2 := ordValue_lt_iff A hA v u
  exact ⟨fun h => by omega, fun h => by rw [h]⟩

theorem shiftDown_eq (c : Nat) (off : Int) : shiftDown c off = shiftBy c (-off) := by
  unfold shiftDown shiftBy
  by_cases h1 : off > 0
  · have a : ¬ (-off > 0) := by omega
    have b : -off < 0 := by omega
    simp only [h1, a, b, if_true, if_false, Int.neg_neg]
  · by_cases h2 : off < 0
    · have a : -off > 0 := by omega
      simp only [h1, h2, a, if_true, if_false]
    · have : off = 0 := by omega
      subst this; simp

theorem shiftDown_zero (c : Nat) : shiftDown c 0 = c := by unfold shiftDown; simp

/-- `representable_in`; each modulus is `2^0` when there is nothing to ask -/
theorem mps_repr_facts (f : MPSFmt) (x : RF) (hr : f.reprRF x = true) :
    x.c % 2 ^ (x.p - f.p) = 0 ∧ x.c % 2 ^ (f.expmin - x.exp).toNat = 0 := by
  by_cases hc : x.c = 0
  · rw [hc]; exact ⟨Nat.zero_mod _, Nat.zero_mod _⟩
  unfold MPSFmt.reprRF at hr
  rw [if_neg hc] at hr
  by_cases h1 : (x.p > f.p && x.c % 2 ^ (x.p - f.p) != 0) = true
  · rw [if_pos h1] at hr; cases hr
  · rw [if_neg h1] at hr
    refine ⟨?_, ?_⟩
    · by_cases hp : x.p > f.p
      · simpa [hp] using h1
      · rw [show x.p - f.p = 0 by omega]; exact Nat.mod_one _
    · have := isMoreSignificant_div hr
      rwa [show f.nmin + 1 = f.expmin from Int.sub_add_cancel _ _] at this

/-- the unsigned ordinal `MPSFloatFormat._to_ordinal` computes for a non-zero value -/
def mpsUord (f : MPSFmt) (x : RF) : Nat :=
  if x.e ≤ f.emin then shiftBy x.c (x.exp - f.expmin)
  else (x.e - f.emin + 1).toNat * 2 ^ (f.p - 1) + shiftDown x.c ((x.p : Int) - f.p) % 2 ^ (f.p - 1)

theorem mps_ordRF_zero (f : MPSFmt) {x : RF} (hc : x.c = 0) : f.ordRF x = 0 := by
  unfold MPSFmt.ordRF; rw [if_pos hc]

theorem mps_reprRF_zero (f : MPSFmt) {x : RF} (hc : x.c = 0) : f.reprRF x = true := by
  unfold MPSFmt.reprRF; rw [if_pos hc]

theorem mps_ordRF_eq (f : MPSFmt) (x : RF) (hc : x.c ≠ 0) :
    f.ordRF x = if x.s then -(mpsUord f x : Int) else (mpsUord f x : Int) := by
  unfold MPSFmt.ordRF mpsUord
  simp only [hc, if_false]
  by_cases h : x.e ≤ f.emin
  · simp only [h, if_true]; simp
  · simp only [h, if_false]
    have : ((x.e - f.emin + 1).toNat : Int) = x.e - f.emin + 1 := by omega
    simp only [Int.natCast_add, Int.natCast_mul, this, Int.natCast_pow]
    rfl

/-- the unsigned ordinal is the magnitude: `|x|`, in units of `2^expmin`, is `ordValue` of it.  Up to the first binade
the ordinal is the significand at `expmin` itself (`ordValue_lt_two`); above, exponent code and mantissa (`ordValue_code`) -/
theorem mps_uord_mag (f : MPSFmt) (hp : 1 ≤ f.p) (x : RF) (hc : x.c ≠ 0) (hr : f.reprRF x = true)
    (m : Int) (h1 : m ≤ x.exp) (h2 : m ≤ f.expmin) :
    mpsUord f x ≠ 0 ∧ mag x m = ordValue (2 ^ (f.p - 1)) (mpsUord f x) * 2 ^ (f.expmin - m).toNat := by
  have hA := Nat.two_pow_pos (f.p - 1)
  have hAA := two_pow_pred f.p hp
  have hem : f.expmin = f.emin - f.p + 1 := rfl
  have hx : mag ⟨x.s, x.exp, x.c⟩ m = mag x m := rfl
  unfold mpsUord
  by_cases hsub : x.e ≤ f.emin
  · -- subnormal range and first binade: the ordinal is the significand at scale expmin
    have hmag := mag_shiftBy x.s x.exp f.expmin x.c m h1 h2 (mps_repr_facts f x hr).2
    have ⟨hU, hbl⟩ := shiftBy_spec x.exp f.expmin x.c hc (mps_repr_facts f x hr).2
    rw [if_pos hsub, ← hx, ← hmag]
    generalize shiftBy x.c (x.exp - f.expmin) = U at *
    have hlt : U < 2 * 2 ^ (f.p - 1) := by
      rw [← hAA]; apply (bitLength_le_iff _ _).1; unfold RF.e RF.p at hsub; omega
    rw [ordValue_lt_two _ _ hlt]
    exact ⟨hU, rfl⟩
  · -- normal: the significand moved to `p` digits, `c0 = A + mantissa`
    have hT : x.exp + ((x.p : Int) - f.p) = x.e + 1 - f.p := by unfold RF.e; omega
    have hsd : shiftDown x.c ((x.p : Int) - f.p) = shiftBy x.c (x.exp - (x.e + 1 - f.p)) := by
      rw [shiftDown_eq]; congr 1; omega
    have hle : m ≤ x.e + 1 - f.p := by omega
    have hdiv : x.c % 2 ^ (x.e + 1 - f.p - x.exp).toNat = 0 := by
      rw [show (x.e + 1 - f.p - x.exp).toNat = x.p - f.p by unfold RF.e; omega]; exact (mps_repr_facts f x hr).1
    have hmag := mag_shiftBy x.s x.exp (x.e + 1 - f.p) x.c m h1 hle hdiv
    have ⟨hc0, hbl⟩ := shiftBy_spec x.exp (x.e + 1 - f.p) x.c hc hdiv
    -- a `%` fact left among the hypotheses is fed to every `omega` below
    clear hdiv
    rw [if_neg hsub, hsd, ← hx, ← hmag]
    generalize shiftBy x.c (x.exp - (x.e + 1 - f.p)) = c0 at *
    have hbl' : bitLength c0 = f.p := by unfold RF.e RF.p at hbl; omega
    have ⟨hlo, hhi⟩ := (bitLength_eq_iff c0 f.p hp).1 hbl'
    obtain ⟨T, hT'⟩ : ∃ T, x.e - f.emin + 1 = ((T + 1 : Nat) : Int) := ⟨(x.e - f.emin).toNat, by omega⟩
    have hmod : c0 % 2 ^ (f.p - 1) = c0 - 2 ^ (f.p - 1) := by
      rw [Nat.mod_eq_sub_mod hlo, Nat.mod_eq_of_lt (by omega)]
    rw [hT', Int.toNat_natCast, hmod, Nat.mul_comm, ordValue_code hA _ _ (by omega), if_neg (Nat.succ_ne_zero T),
      Nat.add_sub_cancel' hlo]
    refine ⟨Nat.ne_of_gt (Nat.add_pos_left (Nat.mul_pos hA (Nat.succ_pos T)) _), ?_⟩
    -- `c0` sits `T` binades above `expmin`
    have e2 : (x.e + 1 - f.p - f.expmin).toNat = T + 1 - 1 := by omega
    rw [show mag _ m = _ from RF.mag_shift _ f.expmin m (by simp only; omega) h2]
    unfold RF.mag
    rw [e2]

/-- `ordValue` of `|k|` with the sign of `k`: the value, in units of `2^expmin`, of the float with ordinal `k` -/
def sOrdValue (A : Nat) (k : Int) : Int :=
  if k < 0 then -(ordValue A k.natAbs : Int) else (ordValue A k.natAbs : Int)

theorem sOrdValue_lt_iff (A : Nat) (hA : 0 < A) (j k : Int) : sOrdValue A j < sOrdValue A k ↔ j < k := by
  unfold sOrdValue
  have h0 := ordValue_zero A hA
  by_cases hj : j < 0 <;> by_cases hk : k < 0 <;> simp only [hj, hk, if_true, if_false]
  · have := ordValue_lt_iff A hA k.natAbs j.natAbs
    omega
  · have h1 : 0 < ordValue A j.natAbs := by
      have := ordValue_strictMono A hA (show 0 < j.natAbs by omega); omega
    omega
  · have h1 : 0 < ordValue A k.natAbs := by
      have := ordValue_strictMono A hA (show 0 < k.natAbs by omega); omega
    omega
  · have := ordValue_lt_iff A hA j.natAbs k.natAbs
    omega

theorem sOrdValue_inj (A : Nat) (hA : 0 < A) (j k : Int) : sOrdValue A j = sOrdValue A k ↔ j = k := by
  have h1 := sOrdValue_lt_iff A hA j k
  have h2 := sOrdValue_lt_iff A hA k j
  exact ⟨fun h => by omega, fun h => by rw [h]⟩

theorem mps_ordinal_units (f : MPSFmt) (hp : 1 ≤ f.p) (x : RF) (hr : f.reprRF x = true)
    (m : Int) (h1 : m ≤ x.exp) (h2 : m ≤ f.expmin) :
    units x m = sOrdValue (2 ^ (f.p - 1)) (f.ordRF x) * ((2 ^ (f.expmin - m).toNat : Nat) : Int) := by
  have hA := Nat.two_pow_pos (f.p - 1)
  by_cases hc : x.c = 0
  · rw [mps_ordRF_zero f hc, units_zero hc]; unfold sOrdValue; simp [ordValue_zero _ hA]
  · have ⟨hU, hmag⟩ := mps_uord_mag f hp x hc hr m h1 h2
    rw [mps_ordRF_eq f x hc]
    unfold units sOrdValue
    rw [hmag]
    cases x.s
    · have : ¬ ((mpsUord f x : Int) < 0) := by omega
      simp only [Bool.false_eq_true, if_false, this, Int.natAbs_natCast, Int.natCast_mul]
    · have : (-(mpsUord f x : Int) < 0) := by omega
      simp only [if_true, this, Int.natAbs_neg, Int.natAbs_natCast, Int.natCast_mul, Int.neg_mul]

theorem mps_ordinal_strict_mono (f : MPSFmt) (hp : 1 ≤ f.p) (x y : RF)
    (hx : f.reprRF x = true) (hy : f.reprRF y = true) :
    f.ordRF x < f.ordRF y ↔ ltValue x y :=
  (sOrdValue_lt_iff _ (Nat.two_pow_pos _) _ _).symm.trans
    (ord_scheme f.expmin x y _ _ (mps_ordinal_units f hp x hx) (mps_ordinal_units f hp y hy)).1

theorem mps_ordinal_eq_iff (f : MPSFmt) (hp : 1 ≤ f.p) (x y : RF)
    (hx : f.reprRF x = true) (hy : f.reprRF y = true) :
    f.ordRF x = f.ordRF y ↔ sameValue x y :=
  (sOrdValue_inj _ (Nat.two_pow_pos _) _ _).symm.trans
    (ord_scheme f.expmin x y _ _ (mps_ordinal_units f hp x hx) (mps_ordinal_units f hp y hy)).2

theorem mps_reprRF_of (f : MPSFmt) (x : RF) (hc : x.c ≠ 0) (h1 : x.p ≤ f.p) (h2 : f.expmin ≤ x.exp) :
    f.reprRF x = true := by
  unfold MPSFmt.reprRF
  have a : ¬ (x.p > f.p) := by omega
  simp only [hc, if_false, a, decide_false, Bool.false_and, Bool.false_eq_true]
  exact isMoreSignificant_of_lt (by unfold MPSFmt.nmin; omega)

theorem mps_unord_facts (f : MPSFmt) (hp : 1 ≤ f.p) (k : Int) (hk : k ≠ 0) :
    (f.unordRF k).c ≠ 0 ∧ (f.unordRF k).s = decide (k < 0) ∧ f.reprRF (f.unordRF k) = true ∧
    mpsUord f (f.unordRF k) = k.natAbs := by
  have hA := Nat.two_pow_pos (f.p - 1)
  have hAA := two_pow_pred f.p hp
  have hem : f.expmin = f.emin - f.p + 1 := rfl
  unfold MPSFmt.unordRF
  simp only [hk, if_false]
  have hu : k.natAbs ≠ 0 := by omega
  generalize k.natAbs = u at *
  have hd := Nat.div_add_mod u (2 ^ (f.p - 1))
  have hm := Nat.mod_lt u hA
  by_cases he : u / 2 ^ (f.p - 1) = 0
  · simp only [he, if_true]
    have hlt : u < 2 ^ (f.p - 1) := by
      rcases Nat.div_eq_zero_iff.1 he with h | h <;> omega
    rw [Nat.mod_eq_of_lt hlt]
    have hbl : bitLength u ≤ f.p - 1 := (bitLength_le_iff _ _).2 hlt
    refine ⟨hu, trivial, mps_reprRF_of f _ hu (by unfold RF.p; simp only; omega) (Int.le_refl _), ?_⟩
    unfold mpsUord RF.e RF.p
    have : f.expmin + (bitLength u : Int) - 1 ≤ f.emin := by omega
    simp only [this, if_true, Int.sub_self, shiftBy_zero]
  · simp only [he, if_false]
    rw [two_pow_or _ _ hm]
    have hge : 1 ≤ u / 2 ^ (f.p - 1) := Nat.pos_of_ne_zero he
    have hbl : bitLength (2 ^ (f.p - 1) + u % 2 ^ (f.p - 1)) = f.p := by
      apply (bitLength_eq_iff _ _ hp).2; omega
    have hc : 2 ^ (f.p - 1) + u % 2 ^ (f.p - 1) ≠ 0 := by omega
    refine ⟨hc, trivial, mps_reprRF_of f _ hc (by unfold RF.p; simp only; omega) (by simp only; omega), ?_⟩
    unfold mpsUord RF.e RF.p
    simp only [hbl]
    generalize u / 2 ^ (f.p - 1) = eo at *
    generalize u % 2 ^ (f.p - 1) = mo at *
    generalize 2 ^ (f.p - 1) = A at *
    by_cases h1 : eo = 1
    · subst h1
      have : f.expmin + ((1 : Nat) : Int) - 1 + (f.p : Int) - 1 ≤ f.emin := by omega
      have e0 : f.expmin + (((1 : Nat) : Int) - 1) = f.expmin := by omega
      simp only [e0] at *
      have : f.expmin + (f.p : Int) - 1 ≤ f.emin := by omega
      simp only [this, if_true, Int.sub_self, shiftBy_zero]
      omega
    · have : ¬ (f.expmin + ((eo : Int) - 1) + (f.p : Int) - 1 ≤ f.emin) := by omega
      simp only [this, if_false, Int.sub_self, shiftDown_zero]
      have e1 : (f.expmin + ((eo : Int) - 1) + (f.p : Int) - 1 - f.emin + 1).toNat = eo := by omega
      have e2 : (A + mo) % A = mo := by
        rw [Nat.add_comm, Nat.add_mod_right]; exact Nat.mod_eq_of_lt hm
      rw [e1, e2, Nat.mul_comm]; omega

theorem mps_to_from_ordinal (f : MPSFmt) (hp : 1 ≤ f.p) (k : Int) : f.ordRF (f.unordRF k) = k := by
  by_cases hk : k = 0
  · subst hk; unfold MPSFmt.unordRF MPSFmt.ordRF; simp
  · have ⟨hc, hs, _, hu⟩ := mps_unord_facts f hp k hk
    rw [mps_ordRF_eq f _ hc, hs, hu]
    by_cases h : k < 0 <;> simp [h] <;> omega

theorem mps_unord_repr (f : MPSFmt) (hp : 1 ≤ f.p) (k : Int) : f.reprRF (f.unordRF k) = true := by
  by_cases hk : k = 0
  · subst hk; exact mps_reprRF_zero f rfl
  · exact (mps_unord_facts f hp k hk).2.2.1

theorem mps_from_to_ordinal (f : MPSFmt) (hp : 1 ≤ f.p) (x : RF) (hr : f.reprRF x = true) :
    sameValue (f.unordRF (f.ordRF x)) x :=
  (mps_ordinal_eq_iff f hp _ _ (mps_unord_repr f hp _) hr).1 (mps_to_from_ordinal f hp _)

theorem mps_next (f : MPSFmt) (x : RF) (hr : f.reprRF x = true) :
    (Fmt.mps f).nextUp (.fin x) false = .ok (.fin (f.unordRF (f.ordRF x + 1))) ∧
    (Fmt.mps f).nextDown (.fin x) false = .ok (.fin (f.unordRF (f.ordRF x - 1))) := by
  have hr' : f.repr (.fin x) = true := hr
  unfold Fmt.nextUp Fmt.nextDown Fmt.stepTowardsInf Fmt.repr Fmt.toOrdinal Fmt.fromOrdinal
    MPSFmt.toOrdinal MPSFmt.fromOrdinal
  simp [hr', FV.isNan, FV.isInf]
  rfl

/-- `from_ordinal` of a non-zero ordinal written as exponent code `E` and mantissa `M` -/
theorem unordRF_code (f : MPSFmt) (s : Bool) (E M : Nat) (hM : M < 2 ^ (f.p - 1))
    (hG : 2 ^ (f.p - 1) * E + M ≠ 0) :
    (if E = 0 then (⟨s, f.expmin, M⟩ : RF) else ⟨s, f.expmin + ((E : Int) - 1), 2 ^ (f.p - 1) + M⟩) =
      f.unordRF (if s then -((2 ^ (f.p - 1) * E + M : Nat) : Int) else ((2 ^ (f.p - 1) * E + M : Nat) : Int)) := by
  have hA := Nat.two_pow_pos (f.p - 1)
  unfold MPSFmt.unordRF
  generalize hGd : 2 ^ (f.p - 1) * E + M = G at *
  have hk : (if s then -(G : Int) else (G : Int)) ≠ 0 := by cases s <;> simp <;> omega
  have hna : (if s then -(G : Int) else (G : Int)).natAbs = G := by cases s <;> simp
  have hlt : decide ((if s then -(G : Int) else (G : Int)) < 0) = s := by cases s <;> simp <;> omega
  simp only [hk, if_false, hna, hlt]
  rw [← hGd, (divmod_code hA E M hM).1, (divmod_code hA E M hM).2, two_pow_or _ _ hM]

theorem normalize_canonical (x : RF) (p : Nat) (n : Int) (h1 : x.p = p) (h2 : n < x.exp) :
    x.normalize (some p) (some n) = some ⟨x.s, x.exp, x.c⟩ := by
  rw [RF.normalize_pn, show max (x.e - p + 1) (n + 1) = x.exp by unfold RF.e; omega, RF.normGo_self]

/-- on a value in the canonical spelling (`h`: `exp = n + 1` with at most `p` digits, or exactly `p` digits above it; what
`mps_normalize_val` returns) `next_towards_zero` has nothing to normalise first, and only steps -/
theorem nextTowardsZero_canonical (x : RF) (p : Nat) (n : Int) (hc : x.c ≠ 0)
    (h : (x.exp = n + 1 ∧ x.p ≤ p) ∨ (x.exp > n + 1 ∧ x.p = p)) :
    x.nextTowardsZero p n =
      some (if x.exp > n + 1 && bitLength (x.c - 1) < p then ⟨x.s, x.exp - 1, (x.c - 1) * 2 + 1⟩
            else ⟨x.s, x.exp, x.c - 1⟩) := by
  unfold RF.nextTowardsZero
  simp only [hc, if_false]
  rcases h with ⟨h1, h2⟩ | ⟨h1, h2⟩
  · have a : (x.exp != n + 1 || decide (x.p > p)) = false := by
      have : ¬ (x.p > p) := by omega
      simp [h1, this]
    simp only [a, Bool.false_eq_true, if_false]
    split <;> rfl
  · have a : (x.exp != n + 1 || decide (x.p > p)) = true := by
      have : x.exp ≠ n + 1 := by omega
      simp [this]
    simp only [a, if_true, normalize_canonical x p n h2 (by omega)]
    split <;> rfl

theorem two_pow_or' (A b : Nat) (h : b < A) (hA : ∃ i, A = 2 ^ i) : A ||| b = A + b := by
  obtain ⟨i, rfl⟩ := hA; exact two_pow_or i b h

/-- the canonical value with sign `s` and ordinal `±G`.  Zero is `⟨s, expmin, 0⟩` and not `unordRF 0 = ⟨false, 0, 0⟩`,
so that `ntz_canon` holds at `G = 1` (stepping `⟨false, expmin, 1⟩` down keeps the exponent `expmin`) and so that it
is what `decode` returns for the code 0: `efNumber f s G` is `mpsNumber f.mpb.mps s G`.  A third zero is the
`⟨false, emin, 0⟩` that `efloatMpb` puts for a largest value with `c = 0`; under that test (`if x.c = 0 then z else x`)
`mpsNumber` and `unordRF` agree, which is `mpsNumber_norm`. -/
def mpsNumber (f : MPSFmt) (s : Bool) (G : Nat) : RF :=
  if G = 0 then ⟨s, f.expmin, 0⟩ else f.unordRF (if s then -(G : Int) else (G : Int))

theorem mpsNumber_code (f : MPSFmt) (s : Bool) (E M : Nat) (hM : M < 2 ^ (f.p - 1)) :
    mpsNumber f s (2 ^ (f.p - 1) * E + M) =
      if E = 0 then ⟨s, f.expmin, M⟩ else ⟨s, f.expmin + ((E : Int) - 1), 2 ^ (f.p - 1) + M⟩ := by
  unfold mpsNumber
  by_cases hG : 2 ^ (f.p - 1) * E + M = 0
  · have hE : E = 0 := by
      rcases Nat.mul_eq_zero.1 (Nat.add_eq_zero_iff.1 hG).1 with h | h
      · exact absurd h (Nat.ne_of_gt (Nat.two_pow_pos _))
      · exact h
    rw [if_pos hG, if_pos hE, (Nat.add_eq_zero_iff.1 hG).2]
  · rw [if_neg hG]
    exact (unordRF_code f s E M hM hG).symm

theorem mpsNumber_zero (f : MPSFmt) (hp : 1 ≤ f.p) (K : Nat) : (mpsNumber f false K).c = 0 ↔ K = 0 := by
  unfold mpsNumber
  by_cases h : K = 0
  · simp [h]
  · simp only [h, if_false, iff_false]
    exact (mps_unord_facts f hp K (by omega)).1

/-- `.getD x`: `efloatMpb`'s total spelling of a call that raises only on zero -/
theorem ntz_canon (f : MPSFmt) (hp : 1 ≤ f.p) (K : Nat) (hK : 1 ≤ K) :
    ((mpsNumber f false K).nextTowardsZero f.p f.nmin).getD (mpsNumber f false K) = mpsNumber f false (K - 1) := by
  have hA := Nat.two_pow_pos (f.p - 1)
  have hn : f.expmin = f.nmin + 1 := (Int.sub_add_cancel _ _).symm
  have hbl : ∀ c, bitLength c < f.p ↔ c < 2 ^ (f.p - 1) := fun c => by
    rw [← bitLength_le_iff]; omega
  have hpc : ∀ M, M < 2 ^ (f.p - 1) → bitLength (2 ^ (f.p - 1) + M) = f.p := fun M hM =>
    (bitLength_eq_iff _ _ hp).2 ⟨Nat.le_add_right _ _, by rw [two_pow_pred f.p hp]; omega⟩
  have code := mpsNumber_code f false
  obtain ⟨E, M, hM, rfl⟩ : ∃ E M, M < 2 ^ (f.p - 1) ∧ K = 2 ^ (f.p - 1) * E + M :=
    ⟨K / 2 ^ (f.p - 1), K % 2 ^ (f.p - 1), Nat.mod_lt _ hA, (Nat.div_add_mod K _).symm⟩
  generalize 2 ^ (f.p - 1) = A at *
  cases M with
  | succ M =>
    -- inside a binade the significand goes down by one
    have hM' : M < A := Nat.lt_of_succ_lt hM
    rw [code E _ hM, show A * E + (M + 1) - 1 = A * E + M from rfl, code E M hM']
    by_cases hE : E = 0
    · rw [if_pos hE, if_pos hE, nextTowardsZero_canonical _ _ _ (Nat.succ_ne_zero M) (.inl ⟨hn, Nat.le_of_lt ((hbl _).2 hM)⟩),
        Option.getD_some, if_neg]
      · rfl
      · rw [hn]; simp
    · rw [if_neg hE, if_neg hE, nextTowardsZero_canonical _ _ _ (Nat.succ_ne_zero _) _, Option.getD_some, if_neg]
      · rfl
      · simp [hbl]
      · by_cases h1 : E = 1
        · exact .inl ⟨by rw [h1, hn]; simp, Nat.le_of_eq (hpc _ hM)⟩
        · exact .inr ⟨by simp only; omega, hpc _ hM⟩
  | zero =>
    -- first value of a binade: the step lands on the last value of the binade below
    obtain ⟨E, rfl⟩ : ∃ E', E = E' + 1 := ⟨E - 1, by cases E <;> omega⟩
    have hlt : A - 1 < A := Nat.sub_lt hA Nat.one_pos
    rw [code _ _ hA, show A * (E + 1) + 0 - 1 = A * E + (A - 1) by rw [Nat.mul_succ]; omega, code E _ hlt,
      if_neg (Nat.succ_ne_zero E)]
    have hc : A + 0 ≠ 0 := Nat.ne_of_gt hA
    by_cases hE : E = 0
    · subst hE
      rw [nextTowardsZero_canonical ⟨false, _, _⟩ _ _ hc (.inl ⟨by rw [hn]; simp, Nat.le_of_eq (hpc _ hA)⟩), Option.getD_some, if_neg,
        if_pos rfl]
      · congr 1; simp
      · rw [hn]; simp
    · rw [nextTowardsZero_canonical ⟨false, _, _⟩ _ _ hc (.inr ⟨by simp only; omega, hpc _ hA⟩), Option.getD_some, if_pos, if_neg hE]
      · congr 1
        · simp only; omega
        · simp only; omega
      · simp only [Bool.and_eq_true, decide_eq_true_eq, hbl]
        exact ⟨by omega, hlt⟩

/-- `_binade_max` at the exponent of the block `E` of ordinals (`E = 0`: the subnormals) is the last ordinal of that block -/
theorem binadeMax_code (f : MPSFmt) (hp : 1 ≤ f.p) (E : Nat) (e : Int) (he : e = f.emin + (E : Int) - 1) :
    binadeMax f.p f.emin e = mpsNumber f false (2 ^ (f.p - 1) * E + (2 ^ (f.p - 1) - 1)) := by
  have hA := Nat.two_pow_pos (f.p - 1)
  have hAA := two_pow_pred f.p hp
  have hem : f.expmin = f.emin - f.p + 1 := rfl
  subst he
  rw [mpsNumber_code f false E _ (by omega)]
  unfold binadeMax bitmask
  by_cases hE : E = 0
  · subst hE
    have h : ¬ (f.emin + ((0 : Nat) : Int) - 1 ≥ f.emin) := by omega
    have e1 : (f.emin - (f.emin + ((0 : Nat) : Int) - 1)).toNat = 1 := by omega
    rw [if_neg h, if_pos rfl, e1, ← hem]
    congr 1; omega
  · have h : f.emin + (E : Int) - 1 ≥ f.emin := by omega
    rw [if_pos h, if_neg hE]
    congr 1 <;> omega

/-- the same counted from the top of a layout with `B` exponent codes (`A·B` magnitude codes, `A = 2^(p-1)`): the block `j`
below the topmost ends at the ordinal `A·B - j·A - 1` -/
theorem binadeMax_top (g : MPSFmt) (hp : 1 ≤ g.p) (B j : Nat) (hj : j + 1 ≤ B) (e : Int)
    (he : e = g.emin + (B : Int) - 2 - j) :
    binadeMax g.p g.emin e = mpsNumber g false (2 ^ (g.p - 1) * B - j * 2 ^ (g.p - 1) - 1) := by
  have hA := Nat.two_pow_pos (g.p - 1)
  obtain ⟨E, rfl⟩ : ∃ E, B = E + j + 1 := ⟨B - j - 1, by omega⟩
  rw [binadeMax_code g hp E e (by omega)]
  congr 1
  rw [Nat.mul_add, Nat.mul_add, Nat.mul_one, Nat.mul_comm j]
  omega

theorem mpsNumber_norm (g : MPSFmt) (hp : 1 ≤ g.p) (K : Nat) (z : RF) :
    (if (mpsNumber g false K).c = 0 then z else mpsNumber g false K) = if K = 0 then z else g.unordRF (K : Int) := by
  by_cases h : K = 0
  · rw [if_pos ((mpsNumber_zero g hp K).2 h), if_pos h]
  · rw [if_neg (fun h' => h ((mpsNumber_zero g hp K).1 h')), if_neg h]
    unfold mpsNumber; rw [if_neg h]; rfl

theorem reprRF_sign (g : MPSFmt) (x : RF) (s : Bool) : g.reprRF { x with s := s } = g.reprRF x := by
  unfold MPSFmt.reprRF RF.isMoreSignificant RF.p RF.e RF.p; rfl

theorem mpsUord_sign (g : MPSFmt) (x : RF) (s : Bool) : mpsUord g { x with s := s } = mpsUord g x := by
  unfold mpsUord RF.e RF.p; rfl

theorem mps_ordRF_neg (g : MPSFmt) (e : Int) (c : Nat) : g.ordRF ⟨true, e, c⟩ = -g.ordRF ⟨false, e, c⟩ := by
  unfold MPSFmt.ordRF RF.e RF.p
  by_cases hc : c = 0 <;> simp [hc]

theorem mps_le_iff_ord (g : MPSFmt) (hp : 1 ≤ g.p) (x y : RF) (hx : g.reprRF x = true) (hy : g.reprRF y = true) :
    x.le y = true ↔ g.ordRF x ≤ g.ordRF y := by
  rw [le_iff_units]
  have h := mps_ordinal_strict_mono g hp y x hy hx
  unfold ltValue at h
  rw [Int.min_comm] at h
  omega

end Fpy
