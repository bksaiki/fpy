/-
Helper lemmas for C17 (stochastic rounding): the two-step `_round_at_stochastic` of the model
is the deterministic `_round_at` with mode RAZ/RTZ chosen by the threshold test
`2^k ≤ r + m`, where `m = Spec.srNumer …` is the operand's distance past its lower neighbour
in units of `2^-k` of the gap, rounded as the context's mode says.
-/
import Fpy.Proof.RFOrder
namespace Fpy

namespace Spec

/-- Numerator of the round-away probability.  The operand is `c` units of its own LSB, `K ≥ 1`
digits are dropped (gap `2^K` units), so it lies `ρ = c % 2^K` units past the lower neighbour,
i.e. `ρ · 2^k / 2^K` units of `2^-k` of the gap: for `k ≤ K` this is `ρ / 2^(K-k)` rounded as
the mode prescribes, for `k ≥ K` it is the integer `ρ · 2^(k-K)`. -/
def srNumer (rm : RM) (s : Bool) (c K k : Nat) : Nat :=
  if k ≤ K then roundQuot rm s (c % 2 ^ K) (K - k) else (c % 2 ^ K) * 2 ^ (k - K)

end Spec
open Fpy.Spec

theorem some_ne_zero {k : Nat} (hk : 1 ≤ k) : some k ≠ some 0 := by
  rw [ne_eq, Option.some.injEq]; omega

theorem RF.round_float_stochastic (x : RF) (p : Nat) (minN : Option Int) (rm : RM) {k? : Option Nat}
    (hk : k? ≠ some 0) (r : Nat) (ex : Bool) :
    x.round (some p) minN rm k? r ex =
      x.roundAtStochastic (some p) (roundPos x.e p minN) (minN.map ((p : Int) + ·)) rm k? r ex := by
  cases minN <;> exact if_neg hk

theorem RF.round_fixed_stochastic (x : RF) (n : Int) (rm : RM) {k? : Option Nat} (hk : k? ≠ some 0)
    (r : Nat) (ex : Bool) :
    x.round none (some n) rm k? r ex = x.roundAtStochastic none n none rm k? r ex :=
  if_neg hk

theorem map_threshold {α : Type} (f : Nat → α) (up dn : α) (m N : Nat) (h : m ≤ N)
    (hf : ∀ r < N, f r = if N ≤ r + m then up else dn) :
    (List.range N).map f = List.replicate (N - m) dn ++ List.replicate m up := by
  apply List.ext_getElem
  · simp; omega
  · intro i h1 h2
    simp only [List.length_map, List.length_range] at h1
    rw [List.getElem_map, List.getElem_range, hf i h1, List.getElem_append]
    simp only [List.length_replicate, List.getElem_replicate]
    by_cases hi : i < N - m
    · rw [if_neg (by omega), dif_pos hi]
    · rw [if_pos (by omega), dif_neg hi]

theorem map_test_threshold (P : Nat → Bool) (m N : Nat) (h : m ≤ N) (hP : ∀ r < N, (P r = true ↔ N ≤ r + m)) :
    (List.range N).map P = List.replicate (N - m) false ++ List.replicate m true :=
  map_threshold P true false m N h (fun r hr => by
    by_cases hc : N ≤ r + m
    · rw [if_pos hc]; exact (hP r hr).2 hc
    · rw [if_neg hc]; exact Bool.eq_false_iff.2 (fun hp => hc ((hP r hr).1 hp)))

theorem countP_threshold (P : Nat → Bool) (m N : Nat) (h : m ≤ N) (hP : ∀ r < N, (P r = true ↔ N ≤ r + m)) :
    (List.range N).countP P = m := by
  have e : (List.range N).countP P = ((List.range N).map P).countP id := by rw [List.countP_map]; rfl
  rw [e, map_test_threshold P m N h hP, List.countP_append, List.countP_replicate, List.countP_replicate]
  simp

theorem countP_below_threshold (P : Nat → Bool) (m N : Nat) (h : m ≤ N) (hP : ∀ r < N, (P r = true ↔ ¬ N ≤ r + m)) :
    (List.range N).countP P = N - m := by
  have e : (List.range N).countP P = ((List.range N).map (fun r => !P r)).countP (!·) := by
    rw [List.countP_map]; congr 1; funext r; simp
  rw [e, map_test_threshold _ m N h (fun r hr => by rw [Bool.not_eq_true', ← Bool.not_eq_true, hP r hr, Decidable.not_not]),
    List.countP_append, List.countP_replicate, List.countP_replicate]
  simp

theorem sum_threshold (f : Nat → Nat) (q m k : Nat) (h : m ≤ 2 ^ k)
    (hf : ∀ r < 2 ^ k, f r = if 2 ^ k ≤ r + m then q + 1 else q) :
    ((List.range (2 ^ k)).map f).sum = 2 ^ k * q + m := by
  rw [map_threshold f _ _ m _ h hf, List.sum_append_nat, List.sum_replicate_nat, List.sum_replicate_nat,
    Nat.mul_succ, ← Nat.add_assoc, ← Nat.add_mul, Nat.sub_add_cancel h]

theorem ite_add_right (c : Prop) [Decidable c] (x y z : Nat) :
    (if c then x else y) + z = if c then x + z else y + z := by split <;> rfl

theorem roundQuot_shift (rm : RM) (s : Bool) (c u J : Nat) :
    roundQuot rm s (c + 2 * u * 2 ^ J) J = roundQuot rm s c J + 2 * u := by
  have hG : 0 < 2 ^ J := Nat.pow_pos (by decide)
  have hd : (c + 2 * u * 2 ^ J) / 2 ^ J = c / 2 ^ J + 2 * u := Nat.add_mul_div_right _ _ hG
  have hm : (c + 2 * u * 2 ^ J) % 2 ^ J = c % 2 ^ J := Nat.add_mul_mod_self_right _ _ _
  have hpar : (c / 2 ^ J + 2 * u) % 2 = (c / 2 ^ J) % 2 := by omega
  unfold roundQuot
  -- quotient `a + 2u`, same remainder, same parity: every branch is the old one plus `2u`
  simp only [hd, hm, hpar]
  cases rm <;> simp only [ite_add_right, Nat.add_right_comm _ 1 (2 * u)]

/-- `m` is `ρ · 2^k / 2^K` rounded to an integer as the mode says: one formula for both branches of `srNumer` -/
theorem srNumer_eq (rm : RM) (s : Bool) (c K k : Nat) :
    srNumer rm s c K k = roundQuot rm s (c % 2 ^ K * 2 ^ k) K := by
  unfold srNumer
  split
  · rename_i h
    have := roundQuot_scale rm s (c % 2 ^ K) (K - k) k
    rwa [Nat.sub_add_cancel h, eq_comm] at this
  · have e : c % 2 ^ K * 2 ^ k = c % 2 ^ K * 2 ^ (k - K) * 2 ^ K := by
      rw [Nat.mul_assoc, ← Nat.pow_add]; congr 2; omega
    rw [roundQuot_exact _ _ _ _ (by rw [e]; exact Nat.mul_mod_left ..), e,
      Nat.mul_div_cancel _ (Nat.pow_pos (by decide))]

theorem srNumer_exact (rm : RM) (s : Bool) (c K k : Nat) (h : c % 2 ^ K = 0) :
    srNumer rm s c K k = 0 := by
  rw [srNumer_eq, h, Nat.zero_mul, roundQuot_exact _ _ _ _ (Nat.zero_mod _), Nat.zero_div]

theorem srNumer_enough_bits (rm : RM) (s : Bool) (c K k : Nat) (h : K ≤ k) :
    srNumer rm s c K k * 2 ^ K = (c % 2 ^ K) * 2 ^ k := by
  have hd : 2 ^ K ∣ c % 2 ^ K * 2 ^ k := Nat.dvd_mul_left_of_dvd (Nat.pow_dvd_pow 2 h) _
  rw [srNumer_eq, roundQuot_exact _ _ _ _ (Nat.mod_eq_zero_of_dvd hd), Nat.div_mul_cancel hd]

theorem srNumer_high (rm : RM) (s : Bool) (c K k : Nat) (h : K ≤ k) :
    srNumer rm s c K k = (c % 2 ^ K) * 2 ^ (k - K) := by
  apply Nat.eq_of_mul_eq_mul_right (Nat.pow_pos (by decide : 0 < 2) (n := K))
  rw [srNumer_enough_bits rm s c K k h, Nat.mul_assoc, ← Nat.pow_add, Nat.sub_add_cancel h]

theorem srNumer_le (rm : RM) (s : Bool) (c K k : Nat) : srNumer rm s c K k ≤ 2 ^ k := by
  rw [srNumer_eq]
  have hK : 0 < 2 ^ K := Nat.pow_pos (by decide)
  exact roundQuot_le_pow rm s _ K k ((Nat.div_lt_iff_lt_mul hK).2
    (Nat.mul_comm (2 ^ K) _ ▸ Nat.mul_lt_mul_of_pos_right (Nat.mod_lt c hK) (Nat.pow_pos (by decide : 0 < 2))))

/-- the operand widened by `k` digits, `W = c · 2^k / 2^K` rounded as the mode says, is the lower neighbour `q`
followed by the `k` digits `m` (`m = 2^k`: a carry): `c · 2^k` is `ρ · 2^k` moved by the even multiple `q · 2^k`
of `2^K` -/
theorem srW_eq (rm : RM) (s : Bool) (c K k : Nat) (hk : 1 ≤ k) :
    roundQuot rm s (c * 2 ^ k) K = c / 2 ^ K * 2 ^ k + srNumer rm s c K k := by
  have hu : 2 * (c / 2 ^ K * 2 ^ (k - 1)) = c / 2 ^ K * 2 ^ k := by rw [two_pow_pred k hk, Nat.mul_left_comm]
  have hc : c * 2 ^ k = c % 2 ^ K * 2 ^ k + 2 * (c / 2 ^ K * 2 ^ (k - 1)) * 2 ^ K := by
    rw [hu, Nat.mul_right_comm, ← Nat.add_mul, Nat.mul_comm _ (2 ^ K), Nat.mod_add_div]
  rw [hc, roundQuot_shift, hu, srNumer_eq, Nat.add_comm]

/-- the extended-precision quotient (dropping `J = K - k` digits) is the lower neighbour
followed by `k` rounding digits `m`, where `m ≤ 2^k` (equality = carry into the neighbour) -/
theorem roundQuot_ext (rm : RM) (s : Bool) (c J k : Nat) (hk : 1 ≤ k) :
    roundQuot rm s c J = c / 2 ^ (J + k) * 2 ^ k + srNumer rm s c (J + k) k := by
  rw [← srW_eq rm s c (J + k) k hk, roundQuot_scale]

/-- the mean `q + m / 2^k` of the `2^k` outcomes is within `2^-k` of the operand `c / 2^K` (everything multiplied by
`2^k · 2^K`), and equals it when `k ≥ K`: the bias is the rounding error of `W` -/
theorem srNumer_mean_close (rm : RM) (s : Bool) (c K k : Nat) (hk : 1 ≤ k) :
    (2 ^ k * (c / 2 ^ K) + srNumer rm s c K k) * 2 ^ K < c * 2 ^ k + 2 ^ K ∧
    c * 2 ^ k < (2 ^ k * (c / 2 ^ K) + srNumer rm s c K k) * 2 ^ K + 2 ^ K ∧
    (K ≤ k → (2 ^ k * (c / 2 ^ K) + srNumer rm s c K k) * 2 ^ K = c * 2 ^ k) := by
  rw [Nat.mul_comm (2 ^ k), ← srW_eq rm s c K k hk]
  refine ⟨(roundQuot_within rm s _ K).1, (roundQuot_within rm s _ K).2, fun h => ?_⟩
  have hd : 2 ^ K ∣ c * 2 ^ k := Nat.dvd_mul_left_of_dvd (Nat.pow_dvd_pow 2 h) _
  rw [roundQuot_exact _ _ _ _ (Nat.mod_eq_zero_of_dvd hd), Nat.div_mul_cancel hd]

theorem abs_gt_spec (a b : RF) (hexp : b.exp ≤ a.exp) :
    a.abs.gt b.abs = decide (b.c < a.c * 2 ^ (a.exp - b.exp).toNat) := by
  rw [Bool.eq_iff_iff, RF.gt_iff a.abs b.abs b.exp (Or.inr hexp) (RF.okAt_self b.abs), RF.abs_sc, RF.abs_sc,
    RF.natAbs_sc, RF.natAbs_sc, RF.mag_self, decide_eq_true_iff, Int.ofNat_lt]
  rfl

theorem abs_gt_self (x : RF) : x.abs.gt x.abs = false := by
  rw [abs_gt_spec x x (Int.le_refl _)]; simp

theorem split_ext (s : Bool) (n : Int) (k w : Nat) (hk : 1 ≤ k) :
    (RF.split ⟨s, n - k + 1, w⟩ n).2.c = w % 2 ^ k ∧
    (w % 2 ^ k ≠ 0 → (RF.split ⟨s, n - k + 1, w⟩ n).2.exp = n - k + 1) := by
  by_cases hw : w = 0
  · subst hw; unfold RF.split; simp
  · have hle : (⟨s, n - k + 1, w⟩ : RF).exp ≤ n := by simp only; omega
    rw [split_spec ⟨s, n - k + 1, w⟩ n hw hle]
    have : (n + 1 - (n - (k : Int) + 1)).toNat = k := by omega
    simp [this]

/-- the deterministic mode the draw `r` amounts to at position `n`: away from zero iff `2^k ≤ r + m` -/
def srMode (rm : RM) (x : RF) (n : Int) (k r : Nat) : RM :=
  if 2 ^ k ≤ r + srNumer rm x.s x.c (n + 1 - x.exp).toNat k then .raz else .rtz

/-- the extended-precision quotient `w = q · 2^k + m` (`m ≤ 2^k`) against the draw: when its `k` rounding digits
vanish, `m` is `0` or `2^k` (a carry) and the draw decides nothing: `w · 2^J` exceeds `c` exactly in the carry
case; otherwise the rounding digits are `m` -/
theorem ext_digits (c J k m r : Nat) (hm : m ≤ 2 ^ k) (hr : r < 2 ^ k) :
    ((c / 2 ^ (J + k) * 2 ^ k + m) % 2 ^ k = 0 →
      (c < (c / 2 ^ (J + k) * 2 ^ k + m) * 2 ^ J ↔ 2 ^ k ≤ r + m)) ∧
    ((c / 2 ^ (J + k) * 2 ^ k + m) % 2 ^ k ≠ 0 → (c / 2 ^ (J + k) * 2 ^ k + m) % 2 ^ k = m ∧ m ≠ 0) := by
  have hdm : c / 2 ^ (J + k) * 2 ^ (J + k) + c % 2 ^ (J + k) = c := by
    rw [Nat.mul_comm]; exact Nat.div_add_mod c (2 ^ (J + k))
  have hml : c % 2 ^ (J + k) < 2 ^ (J + k) := Nat.mod_lt _ (Nat.pow_pos (by decide))
  have hpow : 2 ^ k * 2 ^ J = 2 ^ (J + k) := by rw [Nat.pow_add, Nat.mul_comm]
  rw [Nat.mul_add_mod_self_right, Nat.add_mul, Nat.mul_assoc, hpow]
  generalize c / 2 ^ (J + k) = q at *
  by_cases h : m = 2 ^ k
  · subst h
    rw [Nat.mod_self, hpow]
    exact ⟨fun _ => ⟨fun _ => by omega, fun _ => by omega⟩, fun h => absurd rfl h⟩
  · rw [Nat.mod_eq_of_lt (by omega)]
    refine ⟨fun h0 => ?_, fun h0 => ⟨rfl, h0⟩⟩
    subst h0
    rw [Nat.zero_mul]
    exact ⟨fun _ => by omega, fun _ => by omega⟩

/-- case `exp ≤ n - k`: the extended-precision value drops `K - k ≥ 1` digits -/
theorem roundAtStochastic_low (x : RF) (p : Option Nat) (n : Int) (emin : Option Int) (rm : RM)
    (k r : Nat) (hk : 1 ≤ k) (hA : x.exp ≤ n - k) (hr : r < 2 ^ k) :
    x.roundAtStochastic p n emin rm (some k) r false = x.roundAtCore p n emin (srMode rm x n k r) false := by
  unfold RF.roundAtStochastic
  simp only [roundAtCore_fixed x (n - k) rm hA]
  generalize hJ : (n - (k : Int) + 1 - x.exp).toNat = J
  have hK : (n + 1 - x.exp).toNat = J + k := by omega
  have hle : x.exp ≤ n - (k : Int) + 1 := by omega
  obtain ⟨hz, hnz⟩ := ext_digits x.c J k _ r (srNumer_le rm x.s x.c (J + k) k) hr
  unfold srMode
  rw [hK]
  rw [← roundQuot_ext rm x.s x.c J k hk] at hz hnz
  generalize srNumer rm x.s x.c (J + k) k = m at *
  generalize roundQuot rm x.s x.c J = w at *
  have ⟨hlc, hlexp⟩ := split_ext x.s n k w hk
  generalize RF.split ⟨x.s, n - k + 1, w⟩ n = sp at *
  obtain ⟨kept, lost⟩ := sp
  simp only at hlc hlexp ⊢
  by_cases hl : w % 2 ^ k = 0
  · simp only [hlc, hl, if_true]
    rw [abs_gt_spec _ x hle]
    simp only [hJ, decide_eq_true_eq, hz hl]
  · obtain ⟨hmod, hm0⟩ := hnz hl
    simp only [hlc, hmod, hm0, if_false, hlexp hl, Int.sub_self, Int.lt_irrefl, gt_iff_lt, ge_iff_le]

/-- case `n - k < exp ≤ n`: the extended-precision value is the operand itself -/
theorem roundAtStochastic_high (x : RF) (p : Option Nat) (n : Int) (emin : Option Int) (rm : RM)
    (k r : Nat) (hc : x.c ≠ 0) (hB : n - k < x.exp) (hle : x.exp ≤ n) (hr : r < 2 ^ k) :
    x.roundAtStochastic p n emin rm (some k) r false = x.roundAtCore p n emin (srMode rm x n k r) false := by
  have hxr := roundAtCore_above x (n - k) rm false (by omega)
  unfold RF.roundAtStochastic
  simp only [hxr, split_spec x n hc hle]
  generalize hK : (n + 1 - x.exp).toNat = K
  have hKk : K ≤ k := by omega
  unfold srMode
  rw [hK, srNumer_high _ _ _ _ _ hKk]
  by_cases hl : x.c % 2 ^ K = 0
  · have h2 : ¬ (2 ^ k ≤ r) := by omega
    simp [hl, abs_gt_self, h2]
  · simp only [hl, if_false]
    have hoff : (x.exp - (n - (k : Int) + 1)).toNat = k - K := by omega
    by_cases h0 : x.exp - (n - (k : Int) + 1) > 0
    · simp only [h0, if_true, hoff, ge_iff_le]
    · have h1 : ¬ (x.exp - (n - (k : Int) + 1) < 0) := by omega
      have hkK : k - K = 0 := by omega
      simp only [h0, h1, if_false, hkK, Nat.pow_zero, Nat.mul_one, ge_iff_le]

/-- all digits above `n`: the second step rounds toward zero, i.e. changes nothing -/
theorem roundAtStochastic_above (x : RF) (p : Option Nat) (n : Int) (emin : Option Int) (rm : RM)
    (k r : Nat) (exact : Bool) (h : x.exp > n) :
    x.roundAtStochastic p n emin rm (some k) r exact = x.roundAtCore p n emin .rtz exact := by
  have hxr := roundAtCore_above x (n - k) rm exact (by omega)
  have hsp : (x.split n).2.c = 0 := by
    rcases RF.split_cases x n with ⟨-, e⟩ | ⟨-, -, e⟩ | ⟨-, hle, -⟩
    · rw [e]
    · rw [e]
    · omega
  have hgt := abs_gt_self x
  unfold RF.roundAtStochastic
  simp only [hxr]
  generalize x.split n = sp at *
  obtain ⟨kept, lost⟩ := sp
  simp only at hsp
  simp [hsp, hgt]

/-- … which is what the thresholded mode says there: nothing is dropped, `m = 0` -/
theorem srMode_above (rm : RM) (x : RF) (n : Int) (k r : Nat) (h : x.exp > n) (hr : r < 2 ^ k) :
    srMode rm x n k r = .rtz := by
  unfold srMode
  rw [show (n + 1 - x.exp).toNat = 0 by omega, srNumer_exact rm x.s x.c 0 k (Nat.mod_one _)]
  exact if_neg (by omega)

theorem roundAtStochastic_eq (x : RF) (p : Option Nat) (n : Int) (emin : Option Int) (rm : RM)
    (k r : Nat) (hc : x.c ≠ 0) (hk : 1 ≤ k) (hr : r < 2 ^ k) :
    x.roundAtStochastic p n emin rm (some k) r false = x.roundAtCore p n emin (srMode rm x n k r) false := by
  by_cases hA : x.exp ≤ n - k
  · exact roundAtStochastic_low x p n emin rm k r hk hA hr
  · by_cases hle : x.exp ≤ n
    · exact roundAtStochastic_high x p n emin rm k r hc (by omega) hle hr
    · rw [roundAtStochastic_above x p n emin rm k r false (by omega), srMode_above rm x n k r (by omega) hr]

theorem roundQuot_srMode (rm : RM) (x : RF) (n : Int) (k r : Nat) (hr : r < 2 ^ k) :
    roundQuot (srMode rm x n k r) x.s x.c (n + 1 - x.exp).toNat =
      if 2 ^ k ≤ r + srNumer rm x.s x.c (n + 1 - x.exp).toNat k
      then x.c / 2 ^ (n + 1 - x.exp).toNat + 1 else x.c / 2 ^ (n + 1 - x.exp).toNat := by
  unfold srMode
  generalize (n + 1 - x.exp).toNat = K
  by_cases h0 : x.c % 2 ^ K = 0
  · have hm := srNumer_exact rm x.s x.c K k h0
    have : ¬ (2 ^ k ≤ r + 0) := by omega
    rw [hm]; simp only [this, if_false]
    exact roundQuot_exact _ _ _ _ h0
  · split <;> (unfold roundQuot; simp [h0])

theorem round_float_srMode (x : RF) (p : Nat) (minN : Option Int) (rm : RM) (k r : Nat)
    (hc : x.c ≠ 0) (hk : 1 ≤ k) (hr : r < 2 ^ k) :
    x.round (some p) minN rm (some k) r =
      x.roundAtCore (some p) (roundPos x.e p minN) (minN.map ((p : Int) + ·))
        (srMode rm x (roundPos x.e p minN) k r) false := by
  rw [RF.round_float_stochastic x p minN rm (some_ne_zero hk), roundAtStochastic_eq x _ _ _ rm k r hc hk hr]

/-- result significand of draw `r`, in units of the grid spacing (`0` would mean an error) -/
def resultQuot (x : RF) (n : Int) (rm : RM) (k r : Nat) : Nat :=
  match (x.round none (some n) rm (some k) r).toOption with
  | some (y, _) => y.c
  | none => 0

/-- magnitude of the float-shape result of draw `r` in units of `2^(n+1)` (`0` would mean an error) -/
def floatQuot (x : RF) (p : Nat) (minN : Option Int) (rm : RM) (k : Nat) (n : Int) (r : Nat) : Nat :=
  match (x.round (some p) minN rm (some k) r).toOption with
  | some (y, _) => y.c * 2 ^ (y.exp - (n + 1)).toNat
  | none => 0

/-- `n` is a parameter tied by `hn`, so that `Props/C17.lean` can pass the `let n := match minN with …` of its
statements, which is `roundPos x.e p minN` by `rfl` -/
theorem floatQuot_eq (x : RF) (p : Nat) (minN : Option Int) (rm : RM) (k r : Nat) (n : Int)
    (hn : n = roundPos x.e p minN) (hc : x.c ≠ 0) (hp : 1 ≤ p) (hk : 1 ≤ k) (hr : r < 2 ^ k) (hle : x.exp ≤ n) :
    floatQuot x p minN rm k n r =
      (if 2 ^ k ≤ r + srNumer rm x.s x.c (n + 1 - x.exp).toNat k
       then x.c / 2 ^ (n + 1 - x.exp).toNat + 1 else x.c / 2 ^ (n + 1 - x.exp).toNat) := by
  subst hn
  obtain ⟨y, fl, h1, _, _, _, _, h6⟩ :=
    roundAtCore_prec x p _ (minN.map ((p : Int) + ·)) (srMode rm x (roundPos x.e p minN) k r) hc hp (roundPos_ge x.e p minN)
  unfold floatQuot
  rw [round_float_srMode x p minN rm k r hc hk hr, h1, ← roundQuot_srMode rm x _ k r hr]
  exact (h6 hle).1

theorem thr_eq_up (c : Prop) [Decidable c] (q : Nat) : (if c then q + 1 else q) = q + 1 ↔ c := by
  split <;> simp [*]

theorem thr_eq_down (c : Prop) [Decidable c] (q : Nat) : (if c then q + 1 else q) = q ↔ ¬ c := by
  split <;> simp [*]

theorem mean_of_threshold (f : Nat → Nat) (rm : RM) (s : Bool) (c K k : Nat) (hk : 1 ≤ k)
    (hf : ∀ r < 2 ^ k, f r = if 2 ^ k ≤ r + srNumer rm s c K k then c / 2 ^ K + 1 else c / 2 ^ K) :
    let S := ((List.range (2 ^ k)).map f).sum
    S = 2 ^ k * (c / 2 ^ K) + srNumer rm s c K k ∧
    S * 2 ^ K < c * 2 ^ k + 2 ^ K ∧ c * 2 ^ k < S * 2 ^ K + 2 ^ K ∧
    (K ≤ k → S * 2 ^ K = c * 2 ^ k) := by
  intro S
  have hS : S = 2 ^ k * (c / 2 ^ K) + srNumer rm s c K k := sum_threshold f _ _ k (srNumer_le _ _ _ _ _) hf
  rw [hS]
  exact ⟨rfl, srNumer_mean_close rm s c K k hk⟩

end Fpy
