/-
C12, the compiler model with loops — the remaining statement cases (one-armed `if`, `while`, `for x in range(round(n))`
from their cores in FPCoreLLoop; `if/else` followed by statements, where `IfBundling._visit_if` + `_visit_if` make the
branches hand the changed variables on; tuple assignment) and the recursion over the source program (`lstmt_all`,
`lblock_all`), of which the scoping theorem `fvIn_S` is a projection.
-/
import Fpy.Proof.FPCoreLLoop
namespace Fpy.C12
open Fpy Fpy.Lang

theorem mem_append4 {a b c d : List String} {y : String} :
    y ∈ a ++ b ++ c ++ d ↔ y ∈ a ∨ y ∈ b ∨ y ∈ c ∨ y ∈ d := by
  simp only [List.mem_append, or_assoc]

section
variable (cfg : Cfg) (hord : OrdOK cfg)
include hord

/-- `site`: where the statement bundles; `FB`: the free variables of the compiled body the statement does not bind itself -/
theorem loopCtx_mk (site : Nat) {G : List String} {body : List LStmt} {c : LExpr} {k : FExpr} {FB : List String}
    {P : Props} {C : Ctx}
    (hG : ∀ y, y ∈ G → isTmpL y = false) (hlP : LitsOK P ((LStmt.asgL body).length + 1)) (hP : P.toCtx = .ok C)
    (hwc : ∀ y, y ∈ c.vars → y ∈ G) (hkG : FvIn G k) (hFB : ∀ y, y ∈ FB → isTmpL y = false → y ∈ G) :
    (∀ y, y ∈ LStmt.asgL body → y ∈ G → y ∈ cfg.ord site (mutatedOf G body)) ∧
    ∃ r0, LoopCtx G (cfg.ord site (mutatedOf G body)) (cfg.ord site (mutatedOf G body) ++ c.vars ++ FB ++ fvF k)
      c k P C r0 := by
  have hlen : (cfg.ord site (mutatedOf G body)).length ≤ (LStmt.asgL body).length + 1 :=
    Nat.le_trans ((hord _ _).2) (Nat.le_trans (length_mutatedOf_le G body) (Nat.le_succ _))
  have hMG : ∀ x, x ∈ cfg.ord site (mutatedOf G body) → x ∈ G := fun x hx => (mem_ord_mut cfg hord hx).2
  obtain ⟨r0, hr0⟩ := lit0 ((hlP.1.ctx hP).mono (by omega))
  refine ⟨fun y h1 h2 => ((hord _ _).1 y).2 ((mem_mutatedOf G body y).2 ⟨h1, h2⟩), r0,
    { gNT := hG, mG := hMG, mS := fun x hx => mem_append4.2 (Or.inl hx), sG := ?_,
      cS := fun x hx => mem_append4.2 (Or.inr (Or.inl hx)), cG := hwc,
      kS := fun x hx => mem_append4.2 (Or.inr (Or.inr (Or.inr hx))), ctx := hP, zero := hr0,
      lits := (hlP.1.ctx hP).mono hlen, litsI := hlP.2.mono hlen }⟩
  intro y hy ht
  rcases mem_append4.1 hy with h1 | h1 | h1 | h1
  · exact hMG y h1
  · exact hwc y h1
  · exact hFB y h1 ht
  · exact hkG y h1 ht

theorem stmt_while (c : LExpr) {body : List LStmt} (hB : LBlockAll cfg body) : LStmtAll cfg (.while_ c body) := by
  intro G K E hws hc hk
  obtain ⟨hwc, hwt⟩ := hws
  cases K with
  | none => cases hc
  | some k =>
    have hkG : FvIn G k := hk k rfl
    have hMG : ∀ y, y ∈ cfg.ord (siteWhile body) (mutatedOf G body) → y ∈ G := fun y hy => (mem_ord_mut cfg hord hy).2
    simp only [compileLS] at hc
    split at hc
    · cases hc
    · obtain ⟨B, hcB, rfl⟩ := Option.map_eq_some_iff.1 hc
      obtain ⟨hBG, hrunB⟩ := hB G _ B hwt hcB (forall_some (fvIn_carryRet (fun y hy => gammaL_mono body G y (hMG y hy))))
      refine ⟨fvIn_carryOut hMG (fvIn_whileE (fvIn_carryCond _ hwc) (fvIn_carryInit hMG) (fvIn_carryIn _ hBG)
        (fvIn_carryIn _ hkG)), fun Φ fuel σ μ C o μ' P h hG hb hP hl => ?_⟩
      rw [LStmt.toLang] at h
      simp only [LStmt.lits] at hl
      obtain ⟨hlP, hlt⟩ := hl
      obtain ⟨hmut, r0, L⟩ := loopCtx_mk cfg hord (siteWhile body) (c := c) hG hlP hP hwc hkG hBG
      obtain ⟨hext, σ', rfl, hb', hkeep, hconv⟩ := while_core Φ L hrunB hlt
        (fun x hx => mem_append4.2 (Or.inr (Or.inr (Or.inl hx)))) hmut fuel σ μ o μ' h hb
      refine ⟨hext, Ran.normal hb' hkeep, fun ρ hA => Sim.normal_intro fun v hw => ?_⟩
      have hbM : Bound (cfg.ord (siteWhile body) (mutatedOf G body)) σ := fun x hx => hb x (L.mG x hx)
      refine conv_carryOut (fun y hy ht => hA y ?_ ht) L.mS L.mNT hbM (fun ρ1 hrel => ?_)
      · exact fv_carried _ c B k _ y ht (fun h => (fv_whileE _ _ _ _ _ y).2 (Or.inl h))
          (fun hne h => (fv_whileE _ _ _ _ _ y).2 (Or.inr ⟨h, hne⟩)) (mem_append4.1 hy)
      · exact conv_while (conv_carryInit hP hrel L.zero L.mS L.mNT hbM) (hconv _ (hrel.set_carrier hbM) v hw)

theorem stmt_if1 (c : LExpr) {t : List LStmt} (hB : LBlockAll cfg t) : LStmtAll cfg (.if1 c t) := by
  intro G K E hws hc hk
  obtain ⟨hwc, hwt⟩ := hws
  cases K with
  | none => cases hc
  | some k =>
    have hkG : FvIn G k := hk k rfl
    have hMG : ∀ y, y ∈ cfg.ord (siteIf1 t) (mutatedOf G t) → y ∈ G := fun y hy => (mem_ord_mut cfg hord hy).2
    simp only [compileLS] at hc
    split at hc
    · cases hc
    · obtain ⟨B, hcB, rfl⟩ := Option.map_eq_some_iff.1 hc
      obtain ⟨hBG, hrunB⟩ := hB G _ B hwt hcB (forall_some (fvIn_carryRet (fun y hy => gammaL_mono t G y (hMG y hy))))
      refine ⟨fvIn_carryOut hMG (fvIn_bind1 (fvIn_ite (fvIn_carryCond _ hwc) (fvIn_carryIn _ hBG) (fvIn_carryInit hMG))
        (fun y hy ht _ => fvIn_carryIn _ hkG y hy ht)), fun Φ fuel σ μ C o μ' P h hG hb hP hl => ?_⟩
      obtain ⟨f, rfl⟩ := evalS_pos Φ h
      rw [LStmt.toLang] at h
      simp only [LStmt.lits] at hl
      obtain ⟨hlP, hlt⟩ := hl
      obtain ⟨hmut, r0, L⟩ := loopCtx_mk cfg hord (siteIf1 t) (c := c) hG hlP hP hwc hkG hBG
      obtain ⟨hext, σ', rfl, hb', hkeep, hconv⟩ := if1_core Φ L hrunB hlt
        (fun x hx => mem_append4.2 (Or.inr (Or.inr (Or.inl hx)))) hmut h hb
      refine ⟨hext, Ran.normal hb' hkeep, fun ρ hA => Sim.normal_intro fun v hw => ?_⟩
      refine conv_carryOut (fun y hy ht => hA y ?_ ht) L.mS L.mNT (fun x hx => hb x (L.mG x hx))
        (fun ρ1 hrel => hconv ρ1 hrel v hw)
      refine fv_carried _ c B k _ y ht (fun h => (fv_bind1 _ _ _ y).2 (Or.inl ((fv_ite _ _ _ y).2 (Or.inr (Or.inr h)))))
        (fun hne h => (fv_bind1 _ _ _ y).2 ?_) (mem_append4.1 hy)
      rcases h with h | h | h
      · exact Or.inl ((fv_ite _ _ _ y).2 (Or.inl h))
      · exact Or.inl ((fv_ite _ _ _ y).2 (Or.inr (Or.inl h)))
      · exact Or.inr ⟨h, hne⟩

theorem stmt_for (x : String) (n : Nat) {body : List LStmt} (hB : LBlockAll cfg body) :
    LStmtAll cfg (.forRange x n body) := by
  intro G K E hws hc hk
  obtain ⟨hxt, hxG, hxa, hwt⟩ := hws
  cases K with
  | none => cases hc
  | some k =>
    have hkG : FvIn G k := hk k rfl
    have hMG : ∀ y, y ∈ cfg.ord (siteFor body) (mutatedOf G body) → y ∈ G := fun y hy => (mem_ord_mut cfg hord hy).2
    simp only [compileLS] at hc
    rw [mutatedOf_cons x G body hxa] at hc
    obtain ⟨B, hcB, rfl⟩ := Option.map_eq_some_iff.1 hc
    obtain ⟨hBG, hrunB⟩ := hB (x :: G) _ B hwt hcB (forall_some (fvIn_carryRet (fun y hy =>
      gammaL_mono body (x :: G) y (List.mem_cons_of_mem _ (hMG y hy)))))
    refine ⟨fvIn_carryOut hMG (fvIn_forE (fvIn_carryInit hMG) (fvIn_carryIn _ hBG) (fvIn_carryIn _ hkG)),
      fun Φ fuel σ μ C o μ' P h hG hb hP hl => ?_⟩
    obtain ⟨f, rfl⟩ := evalS_pos Φ h
    rw [LStmt.toLang, evalS_for] at h
    simp only [LStmt.lits] at hl
    obtain ⟨hlP0, hlt⟩ := hl
    have hlP : LitsOK P ((LStmt.asgL body).length + 1) := hlP0.mono (by omega)
    obtain ⟨rn, hrn, hidx⟩ := (hlP0.1.ctx hP) n (by omega)
    replace h := bind_ok h
    obtain ⟨⟨iv, μ1⟩, h1, h⟩ := h
    obtain ⟨rfl, rfl⟩ := evalE_range_inv Φ f σ μ C n rn iv μ1 hrn hidx h1
    -- a `for` has no condition: the variable-free literal `0` stands in for `c`, so `cS`, `cG` hold vacuously and
    -- `carryCond M c` has no free variable (the `absurd` below)
    obtain ⟨hmut, r0, L⟩ := loopCtx_mk cfg hord (siteFor body) (c := LExpr.lit (.q 0 1)) (FB := rmNames [x] (fvF B))
      hG hlP hP (fun y hy => by simp [LExpr.vars] at hy) hkG (fun y hy ht => by
        obtain ⟨hyB, hyx⟩ := (mem_rmNames _ _ y).1 hy
        exact (List.mem_cons.1 (hBG y hyB ht)).resolve_left (by simpa using hyx))
    have hμ : (μ ++ [rangeVals n])[μ.length]? = some (rangeVals n) := by simp
    obtain ⟨hext, σ', rfl, hb', hkeep, hconv⟩ :=
      for_core Φ L hxt hxG hrunB hlt
        (fun y hy => by
          by_cases hyx : y = x
          · exact List.mem_cons.2 (Or.inl hyx)
          · exact List.mem_cons_of_mem _ (mem_append4.2 (Or.inr (Or.inr (Or.inl
              ((mem_rmNames _ _ y).2 ⟨hy, by simpa using hyx⟩))))))
        hmut f 0 σ _ o μ' h hμ hb
    refine ⟨(HeapExt.append μ _).trans hext, Ran.normal hb' hkeep,
      fun ρ hA => Sim.normal_intro fun v hw => ?_⟩
    have hbM : Bound (cfg.ord (siteFor body) (mutatedOf G body)) σ := fun y hy => hb y (L.mG y hy)
    refine conv_carryOut (fun y hy ht => hA y ?_ ht) L.mS L.mNT hbM (fun ρ1 hrel => ?_)
    · have hyx : y ≠ x := fun e => hxG (e ▸ L.sG y hy ht)
      have hy' : y ∈ cfg.ord (siteFor body) (mutatedOf G body) ∨ y ∈ (LExpr.lit (.q 0 1)).vars ∨ y ∈ fvF B ∨ y ∈ fvF k :=
        (mem_append4.1 hy).imp_right (Or.imp_right (Or.imp_left fun h => ((mem_rmNames _ _ y).1 h).1))
      refine fv_carried _ (LExpr.lit (.q 0 1)) B k _ y ht (fun h => (fv_forE _ _ _ _ _ _ y ht).2 (Or.inl h))
        (fun hne h => (fv_forE _ _ _ _ _ _ y ht).2 (Or.inr ⟨?_, hne⟩)) hy'
      rcases h with h | h | h
      · exact absurd (fvIn_carryCond (G := []) _ (c := .lit (.q 0 1)) (fun z hz => by simp [LExpr.vars] at hz) y h ht) (by simp)
      · exact Or.inl ⟨h, hyx⟩
      · exact Or.inr h
    · have hL1 : CtxLits C 1 := (hlP0.1.ctx hP).mono (by omega)
      have hLn : CtxLits C (n + 1) := (hlP0.1.ctx hP).mono (by omega)
      have hrel2 := hrel.set_tmp (t := "%it") (.tuple (rangeVals n)) (by decide) (by decide)
      unfold forE
      refine conv_let1 (conv_range hP n hLn) ?_
      have hsz := conv_size0 (ρ := ρ1.set "%it" (.tuple (rangeVals n))) hP hL1
        (a := .var "%it") (vs := rangeVals n) (conv_var (get?_set_self _ _ _))
      rw [show (rangeVals n).length = n by simp [rangeVals]] at hsz
      refine conv_for hsz (asIndex_q n) (conv_carryInit hP hrel2 L.zero L.mS L.mNT hbM) ?_
      have := hconv _ (hrel2.set_carrier hbM (r0 := r0)) (by
        rw [get?_set_ne (fun e => (carrier_ne_it_k _ L.mNT).1 e.symm)]
        exact get?_set_self _ _ _) v hw
      simp only [List.drop_zero] at this
      exact this
end

theorem fv_ifPre_rev (M : List String) (B : FExpr) (y : String) (ht : isTmpL y = false)
    (hy : y ∈ fvF B ∨ (isMany M = false ∧ y ∈ M)) (hM : isMany M = true → y ∉ M) : y ∈ fvF (ifPre M B) := by
  match M with
  | [] =>
    rcases hy with h | h
    · exact h
    · simp at h
  | [m] =>
    simp only [ifPre]
    rw [fv_bind1]
    by_cases hym : y = m
    · exact Or.inl ((fv_var m y).2 hym)
    · rcases hy with h | h
      · exact Or.inr ⟨h, hym⟩
      · simp at h; exact absurd h.2 hym
  | m :: m2 :: rest =>
    rcases hy with h | h
    · exact (fv_unpack _ _ _ y ht).2 (Or.inr ⟨h, hM (isMany_cons2 _ _ _)⟩)
    · simp [isMany_cons2] at h

section
variable {P : Props} {C : Ctx} (hP : P.toCtx = .ok C)
include hP

theorem conv_ifPre {M S : List String} {ρ σ : Env} {B : FExpr} {w : Val} (hrel : CarryRel M S ρ σ)
    (hL : CtxLits C M.length) (hMT : ∀ x, x ∈ M → isTmpL x = false) (hMS : ∀ x, x ∈ M → x ∈ S) (hb : Bound M σ)
    (hB : ∀ ρ2, AgreeL S ρ2 σ → Conv ρ2 P B w) : Conv ρ P (ifPre M B) w := by
  match M with
  | [] => exact conv_carryIn (M := []) hP hrel hL hMT hb hB
  | [m] =>
    obtain ⟨v, hv⟩ := hb m (by simp)
    have hm : ρ.get? m = some v := by
      rw [hrel.2 m (hMS m (by simp)) (hMT m (by simp)) (by simp [isMany_one])]; exact hv
    refine conv_let1 (conv_var hm) (hB _ (fun y hy ht => ?_))
    rw [Fpy.Xform.Env.get?_set]
    split
    · next h => subst h; exact hv.symm
    · exact hrel.2 y hy ht (by simp [isMany_one])
  | m :: m2 :: rest =>
    -- for two or more names `ifPre` is `carryIn` by definition
    exact conv_carryIn (M := m :: m2 :: rest) hP hrel hL hMT hb hB

theorem conv_ifEnd {ch : List String} {ρ' σ' : Env} {r0 : NV}
    (hr0 : opEval C .round [cvtReal (.q 0 1)] = .ok r0)
    (hA : AgreeL (fvF (ifEnd ch)) ρ' σ') (hT : ∀ x, x ∈ ch → isTmpL x = false) (hb : Bound ch σ') :
    Conv ρ' P (ifEnd ch) (carried ch σ' r0) := by
  match ch with
  | [] => exact conv_num hP hr0
  | [x] =>
    obtain ⟨w, hw⟩ := hb x (by simp)
    have hx : ρ'.get? x = some w := by
      rw [hA x (by simp [ifEnd, fv_bind1, fvF]) (hT x (by simp))]; exact hw
    simp only [ifEnd, carried, gv_of_get hw]
    exact conv_let1 (conv_var hx) (conv_var (get?_set_self _ _ _))
  | x :: x2 :: rest =>
    -- for two or more names `ifEnd` is `carryRet` by definition
    exact conv_carryRet (M := x :: x2 :: rest) hP hr0 hA hT hb

end

section
variable (cfg : Cfg)

theorem stmt_ifte (c : LExpr) {t e : List LStmt} (hBt : LBlockAll cfg t) (hBe : LBlockAll cfg e) :
    LStmtAll cfg (.ifte c t e) := by
  intro G K E hws hc hk
  obtain ⟨hwc, hwt, hwe⟩ := hws
  obtain ⟨k, T, F, rfl, hT, hF, rfl⟩ := compileLS_ifte_inv hc
  have hmuts := mutsIf_sub G t e
  have hch := changedIf_sub G t e
  obtain ⟨hTG, hsimT⟩ := hBt G _ T hwt hT (forall_some (fvIn_ifEnd fun y hy => (hch y hy).1))
  obtain ⟨hFG, hsimF⟩ := hBe G _ F hwe hF (forall_some (fvIn_ifEnd fun y hy => (hch y hy).2))
  refine ⟨fvIn_carryOut hmuts (fvIn_ifAfter
    (fvIn_ite (fvIn_carryCond _ hwc) (fvIn_ifPre hmuts hTG) (fvIn_ifPre hmuts hFG))
    fun y hy ht hn => gamma_ifte_out (hk k rfl y hy ht) hn), fun Φ fuel σ μ C o μ' P h hG hb hP hl => ?_⟩
  obtain ⟨f, rfl⟩ := evalS_pos Φ h
  rw [LStmt.toLang, evalS_ifte] at h
  simp only [LStmt.lits] at hl
  obtain ⟨hlP, hlt, hle⟩ := hl
  obtain ⟨b, hcv, hrun⟩ := lcond_inv (fun μ1 => evalB Φ f σ μ1 C (LStmt.toLangs t))
    (fun μ1 => evalB Φ f σ μ1 C (LStmt.toLangs e)) h
  have hMT : ∀ x, x ∈ mutsIf G t e → isTmpL x = false := fun x hx => hG x (hmuts x hx)
  have hchNT : ∀ x, x ∈ mutsIf G t e ++ introsIf G t e → isTmpL x = false :=
    fun x hx => gammaL_nt hwt hG x (hch x hx).1
  have hbM : Bound (mutsIf G t e) σ := fun x hx => hb x (hmuts x hx)
  have hlenM := length_mutsIf_le G t e
  have hlenI := length_introsIf_le G t e
  have hC0 := hlP.1.ctx hP
  obtain ⟨r0, hr0⟩ := lit0 (hC0.mono (by omega))
  have hCLM : CtxLits C (mutsIf G t e).length := hC0.mono (by omega)
  have hCLch : CtxLits C (mutsIf G t e ++ introsIf G t e).length := hC0.mono (by
    rw [List.length_append]; omega)
  have hLi : LitsP (P.update intProps) (mutsIf G t e).length := hlP.2.mono (by omega)
  -- the names `S` on which the FPCore environment stands for the source state
  obtain ⟨S, hSmem⟩ : ∃ S : List String, ∀ y, y ∈ S ↔
      y ∈ mutsIf G t e ∨ y ∈ c.vars ∨ y ∈ fvF T ∨ y ∈ fvF F ∨ (y ∈ fvF k ∧ y ∉ mutsIf G t e ++ introsIf G t e) :=
    ⟨mutsIf G t e ++ c.vars ++ fvF T ++ fvF F ++ rmNames (mutsIf G t e ++ introsIf G t e) (fvF k),
      fun y => by simp only [List.mem_append, or_assoc, mem_rmNames]⟩
  have hMS : ∀ x, x ∈ mutsIf G t e → x ∈ S := fun x hx => (hSmem x).2 (Or.inl hx)
  have hkOut : ∀ y, y ∈ fvF k → isTmpL y = false → y ∉ mutsIf G t e ++ introsIf G t e →
      y ∈ G ∧ y ∉ LStmt.asgL t ∧ y ∉ LStmt.asgL e := by
    intro y hy ht hn
    have hyG := gamma_ifte_out (hk k rfl y hy ht) hn
    exact ⟨hyG, fun ha => hn (List.mem_append.2 (Or.inl ((mem_mutsIf G t e y).2 ⟨Or.inl ha, hyG⟩))),
      fun ha => hn (List.mem_append.2 (Or.inl ((mem_mutsIf G t e y).2 ⟨Or.inr ha, hyG⟩)))⟩
  -- the branch taken, `body`, and its compiled form `Bc`
  obtain ⟨body, Bc, hSb, hlb, hchB, hasgB, hBS, hite, hrunB⟩ : ∃ (body : List LStmt) (Bc : FExpr),
      BlockSim G body (some (ifEnd (mutsIf G t e ++ introsIf G t e))) Bc ∧
      LStmt.litsL G P body ∧
      (∀ y, y ∈ mutsIf G t e ++ introsIf G t e ∨ y ∈ (LStmt.ifte c t e).gamma G → y ∈ LStmt.gammaL G body) ∧
      (∀ y, y ∈ LStmt.asgL body → y ∈ LStmt.asgL t ∨ y ∈ LStmt.asgL e) ∧ (∀ x, x ∈ fvF Bc → x ∈ S) ∧
      (∀ ρ1 w, Conv ρ1 P (carryCond (mutsIf G t e) c) (.bool b) → Conv ρ1 P (ifPre (mutsIf G t e) Bc) w →
        Conv ρ1 P (.ite (carryCond (mutsIf G t e) c) (ifPre (mutsIf G t e) T) (ifPre (mutsIf G t e) F)) w) ∧
      evalB Φ f σ μ C (LStmt.toLangs body) = .ok (o, μ') := by
    cases b with
    | true =>
      exact ⟨t, T, hsimT, hlt, fun y hy => hy.elim (fun h => (hch y h).1) (fun h => (mem_gamma_ifte.1 h).1), fun y hy => Or.inl hy,
        fun x hx => (hSmem x).2 (Or.inr (Or.inr (Or.inl hx))), fun ρ1 w hc hB => conv_ite hc hB, hrun⟩
    | false =>
      exact ⟨e, F, hsimF, hle, fun y hy => hy.elim (fun h => (hch y h).2) (fun h => (mem_gamma_ifte.1 h).2), fun y hy => Or.inr hy,
        fun x hx => (hSmem x).2 (Or.inr (Or.inr (Or.inr (Or.inl hx)))), fun ρ1 w hc hB => conv_ite hc hB, hrun⟩
  obtain ⟨hext, σb, rfl, hbnd, hkeep, hconvB⟩ := hSb.run hrunB hG hb hP hlb
    (fun σb ρ' hbnd hA' => conv_ifEnd hP hr0 hA' hchNT (fun x hx => hbnd x (hchB x (Or.inl hx))))
  refine ⟨hext, Ran.normal (fun y hy => hbnd y (hchB y (Or.inr hy))) fun y hy => hkeep y (fun ha => hy (by
    simp only [LStmt.asg, List.mem_append]; exact hasgB y ha)), fun ρ hA => Sim.normal_intro fun v hw => ?_⟩
  refine conv_carryOut (fun y hy ht => hA y ?_ ht) hMS hMT hbM (fun ρ1 hrel => ?_)
  · -- a name of `S` is free in the compiled statement
    by_cases hmM : isMany (mutsIf G t e) = true ∧ y ∈ mutsIf G t e
    · exact fv_carryOut_rev _ _ y ht (Or.inl hmM)
    · have hM' : isMany (mutsIf G t e) = true → y ∉ mutsIf G t e := fun h1 h2 => hmM ⟨h1, h2⟩
      refine fv_carryOut_rev _ _ y ht (Or.inr ((fv_ifAfter _ _ _ y ht).2 ?_))
      rcases (hSmem y).1 hy with h1 | h1 | h1 | h1 | h1
      · refine Or.inl ((fv_ite _ _ _ y).2 (Or.inr (Or.inl (fv_ifPre_rev _ T y ht (Or.inr ⟨?_, h1⟩) hM'))))
        cases hmm : isMany (mutsIf G t e) with
        | true => exact absurd h1 (hM' hmm)
        | false => rfl
      · exact Or.inl ((fv_ite _ _ _ y).2 (Or.inl (fv_carryCond_rev _ c y h1 hM')))
      · exact Or.inl ((fv_ite _ _ _ y).2 (Or.inr (Or.inl (fv_ifPre_rev _ T y ht (Or.inl h1) hM'))))
      · exact Or.inl ((fv_ite _ _ _ y).2 (Or.inr (Or.inr (fv_ifPre_rev _ F y ht (Or.inl h1) hM'))))
      · exact Or.inr h1
  · have hcond := conv_carryCond hP Φ hrel hLi (fun x hx => (hSmem x).2 (Or.inr (Or.inl hx)))
      (fun x hx => hG x (hwc x hx)) hcv
    have cB := conv_ifPre hP hrel hCLM hMT hMS hbM (fun ρ2 hA2 => hconvB ρ2 (hA2.mono hBS))
    have hbch : Bound (mutsIf G t e ++ introsIf G t e) σb := fun x hx => hbnd x (hchB x (Or.inl hx))
    rw [ifAfter_eq]
    refine conv_let1 (hite ρ1 _ hcond cB) (conv_carryIn hP (S := fvF k) (CarryRel.step (σ := σ) ?_ hbch ?_) hCLch hchNT
      hbch hw)
    · exact fun y hy ht hych => hrel.2 y ((hSmem y).2 (Or.inr (Or.inr (Or.inr (Or.inr ⟨hy, hych⟩))))) ht
        (fun _ hm => hych (List.mem_append.2 (Or.inl hm)))
    · intro y hy ht hych
      obtain ⟨hyG, hnt, hne⟩ := hkOut y hy ht hych
      exact hkeep y (fun ha => (hasgB y ha).elim hnt hne)

end

section
variable (cfg : Cfg)

theorem stmt_tassign (xs : List String) (e : LExpr) : LStmtAll cfg (.tassign xs e) := by
  intro G K E hws hc hk
  obtain ⟨hwe, hxT, hnd⟩ := hws
  cases K with
  | none => cases hc
  | some k =>
    simp only [compileLS] at hc
    cases hc
    refine ⟨fun y hy ht => ?_, fun Φ fuel σ μ C o μ' P h hG hb hP hl => ?_⟩
    · rcases (fv_unpack xs e.toF k y ht).1 hy with h | h
      · exact hwe y (fvF_toF e y h)
      · exact (List.mem_append.1 (hk k rfl y h.1 ht)).resolve_left h.2
    obtain ⟨f, rfl⟩ := evalS_pos Φ h
    rw [LStmt.toLang] at h
    obtain ⟨gfun, h1, rfl⟩ := evalS_assign_vars_inv hnd h
    obtain ⟨rfl, ce⟩ := lexpr_sound Φ f e σ _ C _ _ h1
    have hget := get?_foldl_set gfun xs σ
    refine ⟨HeapExt.refl _, Ran.normal ?_ fun y hy => ?_, fun ρ hA => Sim.normal_intro fun w hw => ?_⟩
    · intro y hy
      simp only [LStmt.gamma, List.mem_append] at hy
      rw [hget y]
      by_cases hyxs : y ∈ xs
      · exact ⟨gfun y, by simp [hyxs]⟩
      · rcases hy with hy | hy
        · exact absurd hy hyxs
        · obtain ⟨w', hw'⟩ := hb y hy
          exact ⟨w', by simp [hyxs, hw']⟩
    · rw [hget y]
      have : y ∉ xs := by simpa [LStmt.asg] using hy
      simp [this]
    · have hL : CtxLits C xs.length := by
        simp only [LStmt.lits] at hl
        exact hl.1.ctx hP
      have hsub : SubOK ρ P σ FExpr.var e.vars := by
        refine subOK_var (fun y hy ht => hA y ((fv_unpack xs e.toF k y ht).2 (Or.inl ?_)) ht)
          (fun y hy => hG y (hwe y hy))
        exact vars_sub_fvF e y hy
      refine conv_unpack hP xs e.toF k gfun w hL hxT (ce ρ P FExpr.var hP hsub) (fun ρ' hρ' => hw ρ' (fun y hy ht => ?_))
      rw [hρ' y ht, hget y]
      by_cases hyxs : y ∈ xs
      · simp [hyxs]
      · simp only [hyxs, if_false]
        exact hA y ((fv_unpack xs e.toF k y ht).2 (Or.inr ⟨hy, hyxs⟩)) ht

end

section
variable (cfg : Cfg)

/- One structural recursion over the source, the fuel of the source evaluator quantified inside (`StmtSim`, `BlockSim`): an `if`
compiles a branch that is not run, so the scoping of the compiled form (`FvIn`), which the simulation needs of every compiled
continuation, cannot wait for a run. -/
mutual
theorem lstmt_all (hord : OrdOK cfg) : ∀ s : LStmt, LStmtAll cfg s
  | .assign x e => stmt_assign cfg x e
  | .ret e => stmt_ret cfg e
  | .with_ d body => stmt_with cfg d (lblock_all hord body)
  | .while_ c body => stmt_while cfg hord c (lblock_all hord body)
  | .tassign xs e => stmt_tassign cfg xs e
  | .ifte c t f => stmt_ifte cfg c (lblock_all hord t) (lblock_all hord f)
  | .if1 c t => stmt_if1 cfg hord c (lblock_all hord t)
  | .forRange x n body => stmt_for cfg hord x n (lblock_all hord body)
theorem lblock_all (hord : OrdOK cfg) : ∀ ss : List LStmt, LBlockAll cfg ss
  | [] => lblock_nil cfg
  | s :: ss => lblock_cons cfg (lstmt_all hord s) (lblock_all hord ss)
end

variable (hord : OrdOK cfg)
include hord

theorem fvIn_S : ∀ (s : LStmt) (G : List String) (K : Option FExpr) (E : FExpr), s.ws G →
    compileLS cfg G s K = some E → (∀ k, K = some k → FvIn (s.gamma G) k) → FvIn G E :=
  fun s G K E hws hc hk => (lstmt_all cfg hord s G K E hws hc hk).1

end

end Fpy.C12
