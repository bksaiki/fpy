/-
The process level of C18: the invariant of the state machine (`StateOK`) and of the thread machine (`TCacheOK`,
`ThreadOK`), the history and the schedule theorem in their general forms (`history_independent_from`,
`schedule_independent_from`), and the progress measure of a thread (`PC.rank`).
The heap side is used through `Proof/Boundary` (the fresh-region predicates `VGe`/`VGeL`/`EOK`/`HOK`, the triple
`Fr n μ Q m` with its rules `.ret`/`.bind`/`.ite`, `copy_frame`, `allocTrees_frame`, `exit_frame`) and
`Proof/Frame` (`evalFrame`).
-/
import Fpy.Proof.Frame
import Fpy.Proof.Except
namespace Fpy.C18
open Fpy Fpy.Lang

mutual
def RefFree : Val → Prop
  | .list _ => False
  | .tuple vs => RefFreeL vs
  | .bool _ => True
  | .num _ => True
  | .ctx _ => True
def RefFreeL : List Val → Prop
  | [] => True
  | v :: vs => RefFree v ∧ RefFreeL vs
end

/-- no module-level value that a function could capture holds a list -/
def NoCapturedLists (P : Prog) : Prop := RefFreeL (P.globals.map (·.2))

theorem copy_refFree (src : Heap) (f : Nat) :
    (∀ v dst w dst', RefFree v → copyIn src f v dst = .ok (w, dst') → dst' = dst) ∧
    (∀ vs dst ws dst', RefFreeL vs → copyIns src f vs dst = .ok (ws, dst') → dst' = dst) := by
  induction f with
  | zero => exact ⟨fun _ _ _ _ _ h => (nomatch h), fun _ _ _ _ _ h => (nomatch h)⟩
  | succ f ih =>
    refine ⟨fun v dst w dst' hv h => ?_, fun vs dst ws dst' hv h => ?_⟩
    · cases v with
      | list r => exact hv.elim
      | tuple vs =>
        obtain ⟨⟨ws, d1⟩, h1, h⟩ := bind_ok h
        cases h
        exact ih.2 vs dst ws _ hv h1
      | _ => cases h; rfl
    · cases vs with
      | nil => cases h; rfl
      | cons v vs =>
        obtain ⟨⟨w, d1⟩, h1, h⟩ := bind_ok h
        obtain ⟨⟨ws', d2⟩, h2, h⟩ := bind_ok h
        cases h
        exact (ih.2 vs d1 ws' _ hv.2 h2).trans (ih.1 v dst w d1 hv.1 h1)

theorem compile_heap_nil {P : Prog} (hP : NoCapturedLists P) {fuel : Nat} {d : FuncDef} {c : Compiled}
    (h : compile P fuel d = .ok c) : c.heap = [] := by
  obtain ⟨⟨vals, hp⟩, hr, h⟩ := bind_ok h
  cases h
  exact (copy_refFree P.pyHeap fuel).2 _ _ _ _ hP hr

theorem compile_policy {P : Prog} {fuel : Nat} {d : FuncDef} {c : Compiled} (h : compile P fuel d = .ok c) : c.policy = P.policy := by
  obtain ⟨_, _, h⟩ := bind_ok h
  cases h; rfl

theorem lookup_insert_self (cache : List (Nat × Compiled)) (fid : Nat) (c : Compiled) :
    lookup (insert cache fid c) fid = some c :=
  (Fpy.assoc_get_set cache fid fid c).trans (if_pos rfl)

theorem lookup_insert_ne (cache : List (Nat × Compiled)) {fid fid' : Nat} (c : Compiled) (h : fid' ≠ fid) :
    lookup (insert cache fid c) fid' = lookup cache fid' :=
  (Fpy.assoc_get_set cache fid fid' c).trans (if_neg h)

/-- every cache entry is the compilation of the definition that `look` gives for its key; `look` is
`defAt P S` for the state machine (`CacheOK`) and `P.defs[·]?` for the thread machine (`TCacheOK`) -/
def CacheFor (P : Prog) (fuel : Nat) (look : Nat → Option FuncDef) (cache : List (Nat × Compiled)) : Prop :=
  ∀ fid c, lookup cache fid = some c → ∃ d, look fid = some d ∧ compile P fuel d = .ok c

theorem cacheFor_nil (P : Prog) (fuel : Nat) (look : Nat → Option FuncDef) : CacheFor P fuel look [] :=
  fun _ _ h => nomatch h

theorem cacheFor_insert {P : Prog} {fuel : Nat} {look : Nat → Option FuncDef} {cache : List (Nat × Compiled)}
    (h : CacheFor P fuel look cache) {fid : Nat} {d : FuncDef} {c : Compiled} (hd : look fid = some d)
    (hc : compile P fuel d = .ok c) : CacheFor P fuel look (insert cache fid c) := by
  intro fid' c' hl
  by_cases e : fid' = fid
  · subst e; rw [lookup_insert_self] at hl; cases hl; exact ⟨d, hd, hc⟩
  · rw [lookup_insert_ne _ _ e] at hl; exact h fid' c' hl

theorem cacheFor_mono {P : Prog} {fuel : Nat} {look look' : Nat → Option FuncDef} {cache : List (Nat × Compiled)}
    (h : CacheFor P fuel look cache) (hl : ∀ fid d, look fid = some d → look' fid = some d) : CacheFor P fuel look' cache :=
  fun fid c hc => let ⟨d, hd, hcd⟩ := h fid c hc; ⟨d, hl fid d hd, hcd⟩

def CacheOK (P : Prog) (fuel : Nat) (S : State) : Prop := CacheFor P fuel (defAt P S) S.cache

theorem defAt_extend {P : Prog} {S : State} {fid : Nat} {d d' : FuncDef} (h : defAt P S fid = some d) :
    defAt P { S with extra := S.extra ++ [d'] } fid = some d := by
  unfold defAt
  rw [← List.append_assoc]
  exact getElem?_append_of_eq_some h

theorem defAt_of_defs {P : Prog} (S : State) {fid : Nat} {d : FuncDef} (h : P.defs[fid]? = some d) : defAt P S fid = some d :=
  getElem?_append_of_eq_some h

theorem step_call_eq {P : Prog} {fuel : Nat} {S : State} (hS : CacheOK P fuel S) (fid : Nat) (args : List Tree) (ctx : Option Ctx)
    {d : FuncDef} (hd : defAt P S fid = some d) :
    step P fuel S (.call fid args ctx) =
      (match compile P fuel d with
       | .error e => (S, some (.error e))
       | .ok c =>
         match runCompiled ⟨P.defs⟩ fuel c args ctx with
         | .error e => ({ S with cache := insert S.cache fid c }, some (.error e))
         | .ok (t, w, μ) =>
           ({ S with cache := insert S.cache fid (c.after μ), results := S.results ++ [(fid, w)] }, some (.ok t))) := by
  simp only [step, hd]
  cases hl : lookup S.cache fid with
  | none => rfl
  | some c =>
    obtain ⟨d', hd', hc⟩ := hS fid c hl
    rw [hd] at hd'; cases hd'
    rw [hc]; rfl

theorem step_call_obs {P : Prog} {fuel : Nat} {S : State} (hS : CacheOK P fuel S) (fid : Nat) (args : List Tree) (ctx : Option Ctx)
    {d : FuncDef} (hd : defAt P S fid = some d) :
    (step P fuel S (.call fid args ctx)).2 = some (pureCall P fuel d args ctx) := by
  rw [step_call_eq hS fid args ctx hd]
  unfold pureCall
  cases hc : compile P fuel d with
  | error e => rfl
  | ok c =>
    simp only
    cases hr : runCompiled ⟨P.defs⟩ fuel c args ctx with
    | error e => rfl
    | ok r => obtain ⟨t, w, μ⟩ := r; rfl

theorem transform_new_identity (P : Prog) (fuel : Nat) (S : State) (fid : Nat) (d : FuncDef) (hd : defAt P S fid = some d) :
    defAt P (step P fuel S (.transform fid)).1 (P.defs ++ S.extra).length = some d := by
  have hd' : (P.defs ++ S.extra)[fid]? = some d := hd
  simp only [step, defAt, hd']
  rw [← List.append_assoc]
  exact List.getElem?_concat_length

/-- with per-activation copies (the code since the repair of F7) every list reachable from a result is a
cell allocated by that call -/
theorem runCompiled_fresh {Φ : Funs} {fuel : Nat} {c : Compiled} (hc : c.policy.copyCaptured = true)
    {args : List Tree} {ctx : Option Ctx} {t : Tree} {w : Val} {μ : Heap}
    (h : runCompiled Φ fuel c args ctx = .ok (t, w, μ)) : VGe c.heap.length w := by
  obtain ⟨⟨genv, μ0⟩, h0, h⟩ := bind_ok h
  -- four frame steps at `n = c.heap.length`, each handing its `HOK` (the `.1` of an `Ext`) to the next: the activation
  -- environment (copies behind the compile-time cells), the argument trees, the body, the conversion of the result
  have hA : Fr c.heap.length c.heap (EOK c.heap.length) (activationEnv fuel c) :=
    .ite (fun _ => ((copy_frame c.heap c.heap.length fuel).2 _ _ (hok_self c.heap)).bind fun _ _ hv hh =>
      .ret hh (eok_zip _ _ hv)) fun hn => absurd hc hn
  obtain ⟨e0, hgenv⟩ := hA genv μ0 h0
  obtain ⟨e1, hvs⟩ := allocTrees_frame c.heap.length args μ0 e0.1
  have hB := evalFrame Φ fuel c.heap.length _ _ (callCtx c.fd ctx) c.fd.body
    (eok_bindParams c.fd.params _ genv hgenv hvs) e1.1
  dsimp only at h
  split at h
  · cases h
  · split at h
    · cases h
    · cases h
    · rename_i v μ2 hev
      obtain ⟨e2, hv⟩ := hB _ _ hev
      obtain ⟨⟨w', μ3⟩, h3, h⟩ := bind_ok h
      obtain ⟨_, _, h⟩ := bind_ok h
      cases h
      exact (exit_frame c.policy e2.1 hv _ _ h3).2

/-- no cell survives a call: nothing captured holds a list, or captured lists are copied per activation -/
def NoSharedCells (P : Prog) : Prop := NoCapturedLists P ∨ P.policy.copyCaptured = true

theorem current_copies {P : Prog} (hπ : P.policy = Policy.current) : P.policy.copyCaptured = true := by
  rw [hπ]; rfl

theorem after_stable {P : Prog} (hP : NoSharedCells P) {fuel : Nat} {d : FuncDef} {c : Compiled}
    (hc : compile P fuel d = .ok c) (μ : Heap) : c.after μ = c := by
  unfold Compiled.after
  rcases hP with h | h
  · simp [compile_heap_nil h hc]
  · simp [compile_policy hc, h]

theorem result_not_held {P : Prog} (hP : NoSharedCells P) {fuel : Nat} {d : FuncDef} {c : Compiled}
    (hc : compile P fuel d = .ok c) {args : List Tree} {ctx : Option Ctx} {t : Tree} {r : Nat} {μ : Heap}
    (h : runCompiled ⟨P.defs⟩ fuel c args ctx = .ok (t, .list r, μ)) : c.heap.length ≤ r := by
  rcases hP with hP | hP
  · rw [compile_heap_nil hP hc]; exact Nat.zero_le r
  · exact runCompiled_fresh (by rw [compile_policy hc]; exact hP) h

structure StateOK (P : Prog) (fuel : Nat) (S : State) : Prop where
  cache : CacheOK P fuel S
  /-- every list handed back to the caller so far is a cell the compiled function does not hold -/
  results : ∀ fid r, (fid, Val.list r) ∈ S.results →
    ∃ d, defAt P S fid = some d ∧ ∀ c, compile P fuel d = .ok c → c.heap.length ≤ r

/-- A step keeps the invariant, and every identity keeps its definition (`extra` is only appended to).  The second
part holds of any state; it stands here because it needs the same walk through `step`. -/
theorem step_preserves {P : Prog} {fuel : Nat} (hP : NoSharedCells P) {S : State} (h : StateOK P fuel S) (op : Op) :
    StateOK P fuel (step P fuel S op).1 ∧
    ∀ fid d, defAt P S fid = some d → defAt P (step P fuel S op).1 fid = some d := by
  obtain ⟨hS, hR⟩ := h
  have same : StateOK P fuel S ∧ ∀ fid d, defAt P S fid = some d → defAt P S fid = some d := ⟨⟨hS, hR⟩, fun _ _ h => h⟩
  cases op with
  | call fid args ctx =>
    cases hd : defAt P S fid with
    | none => simp only [step, hd]; exact same
    | some d =>
      rw [step_call_eq hS fid args ctx hd]
      cases hc : compile P fuel d with
      | error e => exact same
      | ok c =>
        simp only
        cases hr : runCompiled ⟨P.defs⟩ fuel c args ctx with
        | error e => exact ⟨⟨cacheFor_insert hS hd hc, hR⟩, fun _ _ h => h⟩
        | ok r =>
          obtain ⟨t, w, μ⟩ := r
          simp only [after_stable hP hc]
          refine ⟨⟨cacheFor_insert hS hd hc, fun fid' r hp => ?_⟩, fun _ _ h => h⟩
          rcases List.mem_append.mp hp with h1 | h1
          · exact hR fid' r h1
          · cases List.mem_singleton.mp h1
            exact ⟨d, hd, fun c' hc' => by rw [hc] at hc'; cases hc'; exact result_not_held hP hc hr⟩
  | transform fid =>
    cases hd : defAt P S fid with
    | none => simp only [step, hd]; exact same
    | some d =>
      simp only [step, hd]
      exact ⟨⟨cacheFor_mono hS fun _ _ => defAt_extend,
        fun fid' r hp => let ⟨d', hd', hc⟩ := hR fid' r hp; ⟨d', defAt_extend hd', hc⟩⟩, fun _ _ => defAt_extend⟩
  | mutateResult k i x =>
    simp only [step]
    split
    · rename_i fid r hres
      split
      · rename_i c hl
        -- the cell the caller writes is one of its own
        obtain ⟨d, hd, hc⟩ := hS fid c hl
        obtain ⟨d', hd', hge⟩ := hR fid r (List.mem_of_getElem? hres)
        rw [hd] at hd'; cases hd'
        rw [List.getElem?_eq_none (hge c hc)]
        exact same
      · exact same
    · exact same

theorem run_preserves {P : Prog} {fuel : Nat} (hP : NoSharedCells P) (ops : List Op) {S : State} (h : StateOK P fuel S) :
    StateOK P fuel (run P fuel S ops) ∧ ∀ fid d, defAt P S fid = some d → defAt P (run P fuel S ops) fid = some d := by
  induction ops generalizing S with
  | nil => exact ⟨h, fun _ _ h => h⟩
  | cons op ops ih =>
    obtain ⟨h1, m1⟩ := step_preserves hP h op
    obtain ⟨h2, m2⟩ := ih h1
    exact ⟨h2, fun fid d hd => m2 fid d (m1 fid d hd)⟩

theorem stateOK_init (P : Prog) (fuel : Nat) : StateOK P fuel State.init :=
  ⟨cacheFor_nil P fuel _, fun _ _ h => nomatch h⟩

/-- from any state that satisfies the invariant, for any identity the state knows (a transformed copy too) -/
theorem history_independent_from {P : Prog} (fuel : Nat) (hP : NoSharedCells P) {S : State} (hS : StateOK P fuel S)
    (h : List Op) {fid : Nat} {d : FuncDef} (hd : defAt P S fid = some d) (args : List Tree) (ctx : Option Ctx) :
    (step P fuel (run P fuel S h) (.call fid args ctx)).2 = some (pureCall P fuel d args ctx) :=
  have ⟨hS', hm⟩ := run_preserves hP h hS
  step_call_obs hS'.cache fid args ctx (hm fid d hd)

/-- every entry of the shared cache is the compilation of the module's definition at its key: `CacheFor` with
`P.defs[·]?` for the lookup (threads call module functions only), to which it unfolds, so the `cacheFor_*` lemmas
apply to it -/
def TCacheOK (P : Prog) (fuel : Nat) (cache : List (Nat × Compiled)) : Prop :=
  ∀ fid c, lookup cache fid = some c → ∃ d, P.defs[fid]? = some d ∧ compile P fuel d = .ok c

/-- what a thread holds at its program counter is what the sequential call would have computed -/
def ThreadOK (P : Prog) (fuel : Nat) (t : Thread) : Prop :=
  match t.pc with
  | .start => True
  | .miss => True
  | .hit c => ∃ d, P.defs[t.fid]? = some d ∧ compile P fuel d = .ok c
  | .compiled c => ∃ d, P.defs[t.fid]? = some d ∧ compile P fuel d = .ok c
  | .ready c => ∃ d, P.defs[t.fid]? = some d ∧ compile P fuel d = .ok c
  | .failed e => (P.defs[t.fid]? = none ∧ e = .unbound) ∨ ∃ d, P.defs[t.fid]? = some d ∧ compile P fuel d = .error e
  | .done r => r = seqResult P fuel t

theorem trun_preserves {P : Prog} {fuel : Nat} (hP : NoSharedCells P) {cache : List (Nat × Compiled)} {t : Thread} {c : Compiled}
    (hc : TCacheOK P fuel cache) (ht : ∃ d, P.defs[t.fid]? = some d ∧ compile P fuel d = .ok c) :
    TCacheOK P fuel (trun P fuel cache t c).1 ∧ ThreadOK P fuel (trun P fuel cache t c).2 := by
  obtain ⟨d, hd, hcd⟩ := ht
  have hseq : (runCompiled ⟨P.defs⟩ fuel c t.args t.ctx).map (·.1) = seqResult P fuel t := by
    unfold seqResult pureCall
    simp only [hd, hcd]
  unfold trun
  cases hr : runCompiled ⟨P.defs⟩ fuel c t.args t.ctx with
  | error e => exact ⟨hc, (hr ▸ hseq :)⟩
  | ok r =>
    obtain ⟨tr, w, μ⟩ := r
    simp only [after_stable hP hcd]
    exact ⟨cacheFor_insert hc hd hcd, (hr ▸ hseq :)⟩

theorem tstep_preserves {P : Prog} {fuel : Nat} (hP : NoSharedCells P) {cache : List (Nat × Compiled)} {t : Thread}
    (hc : TCacheOK P fuel cache) (ht : ThreadOK P fuel t) :
    TCacheOK P fuel (tstep P fuel cache t).1 ∧ ThreadOK P fuel (tstep P fuel cache t).2 := by
  obtain ⟨fid, args, ctx, pc⟩ := t
  cases pc with
  | start =>
    refine ⟨hc, ?_⟩
    show ThreadOK P fuel ⟨fid, args, ctx, match lookup cache fid with | some c => .hit c | none => .miss⟩
    cases hl : lookup cache fid with
    | none => trivial
    | some c => exact hc fid c hl
  | miss =>
    refine ⟨hc, ?_⟩
    show ThreadOK P fuel ⟨fid, args, ctx, match P.defs[fid]? with
      | none => .failed .unbound
      | some d => match compile P fuel d with | .ok c => .compiled c | .error e => .failed e⟩
    split
    · exact .inl ⟨‹_›, rfl⟩
    · split
      · exact ⟨_, ‹_›, ‹_›⟩
      · exact .inr ⟨_, ‹_›, ‹_›⟩
  | compiled c =>
    obtain ⟨d, hd, hcd⟩ := ht
    exact ⟨cacheFor_insert hc hd hcd, d, hd, hcd⟩
  | hit c => exact trun_preserves hP hc ht
  | ready c => exact trun_preserves hP hc ht
  | failed e =>
    refine ⟨hc, ?_⟩
    show Except.error e = seqResult P fuel ⟨fid, args, ctx, _⟩
    unfold seqResult pureCall
    rcases ht with ⟨h1, h2⟩ | ⟨d, hd, hcd⟩
    · simp only [h1, h2]
    · simp only [hd, hcd]
  | done r => exact ⟨hc, ht⟩

theorem schedule_independent_from (P : Prog) (fuel : Nat) (hP : NoSharedCells P) (sched : List Nat) :
    ∀ (cache : List (Nat × Compiled)) (ts : List Thread), TCacheOK P fuel cache → (∀ t ∈ ts, ThreadOK P fuel t) →
      TCacheOK P fuel (runSchedule P fuel cache ts sched).1 ∧
      ∀ t ∈ (runSchedule P fuel cache ts sched).2, ∀ r, t.pc = .done r → r = seqResult P fuel t := by
  induction sched with
  | nil =>
    intro cache ts hc hts
    refine ⟨hc, fun t ht r hr => ?_⟩
    have := hts t ht
    rwa [ThreadOK, hr] at this
  | cons i rest ih =>
    intro cache ts hc hts
    simp only [runSchedule]
    cases hi : ts[i]? with
    | none => exact ih cache ts hc hts
    | some t =>
      obtain ⟨h1, h2⟩ := tstep_preserves hP hc (hts t (List.mem_of_getElem? hi))
      refine ih _ _ h1 fun t' ht' => ?_
      rcases List.mem_or_eq_of_mem_set ht' with h | h
      · exact hts t' h
      · exact h ▸ h2

/-- an upper bound on the atomic steps a thread still takes before it is `.done` (`tstep_rank`) -/
def PC.rank : PC → Nat
  | .start => 4
  | .miss => 3
  | .compiled _ => 2
  | .failed _ => 1
  | .hit _ => 1
  | .ready _ => 1
  | .done _ => 0

theorem PC.eq_done_of_rank_eq_zero {pc : PC} (h : pc.rank = 0) : ∃ r, pc = .done r := by
  cases pc with
  | done r => exact ⟨r, rfl⟩
  | _ => cases h

theorem trun_rank (P : Prog) (fuel : Nat) (cache : List (Nat × Compiled)) (t : Thread) (c : Compiled) :
    (trun P fuel cache t c).2.pc.rank = 0 := by
  unfold trun
  cases runCompiled ⟨P.defs⟩ fuel c t.args t.ctx with
  | error e => rfl
  | ok r => rfl

theorem tstep_rank (P : Prog) (fuel : Nat) (cache : List (Nat × Compiled)) (t : Thread) :
    (tstep P fuel cache t).2.pc.rank ≤ t.pc.rank - 1 := by
  obtain ⟨fid, args, ctx, pc⟩ := t
  cases pc with
  | start =>
    show PC.rank (match lookup cache fid with | some c => .hit c | none => .miss) ≤ 3
    cases lookup cache fid with
    | none => exact Nat.le_refl 3
    | some c => exact (by decide : 1 ≤ 3)
  | miss =>
    show PC.rank (match P.defs[fid]? with
      | none => .failed .unbound
      | some d => match compile P fuel d with | .ok c => .compiled c | .error e => .failed e) ≤ 2
    split
    · exact (by decide : 1 ≤ 2)
    · split
      · exact Nat.le_refl 2
      · exact (by decide : 1 ≤ 2)
  | hit c => exact Nat.le_of_eq (trun_rank ..)
  | ready c => exact Nat.le_of_eq (trun_rank ..)
  | compiled c => exact Nat.le_refl 1
  | failed e => exact Nat.le_refl 0
  | done r => exact Nat.le_refl 0

theorem runSchedule_rank (P : Prog) (fuel : Nat) (sched : List Nat) :
    ∀ (cache : List (Nat × Compiled)) (ts : List Thread) (i : Nat) (t : Thread), ts[i]? = some t →
      ∃ t', (runSchedule P fuel cache ts sched).2[i]? = some t' ∧ t'.pc.rank ≤ t.pc.rank - sched.count i := by
  induction sched with
  | nil => intro cache ts i t h; exact ⟨t, h, Nat.le_refl _⟩
  | cons j rest ih =>
    intro cache ts i t h
    simp only [runSchedule]
    by_cases hji : j = i
    · subst hji
      rw [h]
      have hlt : j < ts.length := (List.getElem?_eq_some_iff.mp h).1
      obtain ⟨t', h1, h2⟩ := ih (tstep P fuel cache t).1 (ts.set j (tstep P fuel cache t).2) j _ (List.getElem?_set_self hlt)
      refine ⟨t', h1, ?_⟩
      rw [List.count_cons_self, Nat.add_comm, ← Nat.sub_sub]
      exact Nat.le_trans h2 (Nat.sub_le_sub_right (tstep_rank P fuel cache t) _)
    · rw [List.count_cons_of_ne hji]
      cases hj : ts[j]? with
      | none => exact ih cache ts i t h
      | some tj => exact ih _ _ i t (by rw [List.getElem?_set_ne hji]; exact h)

end Fpy.C18
