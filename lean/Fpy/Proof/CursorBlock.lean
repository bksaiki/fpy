/-
One block of an edited program: the loop of `_forward_stmt` in closed form, and where the
specification (`applyBlock`) puts an old statement or the run that replaced it.

Everything is a sum over the edits of the block (`blockSum`): the shift the code accumulates, and
the number of statements the specification emits below an old index.  Two sums agree as soon as
their summands agree on every edit of the block, which is where disjointness of the log comes in.
-/
import Fpy.Spec.Cursor
namespace Fpy.Cursor.Proof
open Fpy.Cursor Fpy.Cursor.Spec

/-- the sum of `g` over the edits of `E` that are edits of the block `here` -/
def blockSum (g : Edit → Int) (here : BlockPath) : List Edit → Int
  | [] => 0
  | e :: r => (if e.blockPath = here then g e else 0) + blockSum g here r

theorem blockSum_congr {g h : Edit → Int} {here : BlockPath} {E : List Edit}
    (hgh : ∀ e ∈ E, e.blockPath = here → g e = h e) : blockSum g here E = blockSum h here E := by
  induction E with
  | nil => rfl
  | cons e r ih =>
    simp only [blockSum]
    rw [ih (fun x hx => hgh x (List.mem_cons_of_mem _ hx))]
    by_cases hb : e.blockPath = here
    · rw [if_pos hb, if_pos hb, hgh e List.mem_cons_self hb]
    · rw [if_neg hb, if_neg hb]

theorem blockSum_add (g h : Edit → Int) (here : BlockPath) (E : List Edit) :
    blockSum (fun e => g e + h e) here E = blockSum g here E + blockSum h here E := by
  induction E with
  | nil => rfl
  | cons e r ih =>
    simp only [blockSum, ih]
    by_cases hb : e.blockPath = here
    · simp only [if_pos hb]; omega
    · simp only [if_neg hb]; omega

theorem blockSum_zero (here : BlockPath) (E : List Edit) : blockSum (fun _ => 0) here E = 0 := by
  induction E with
  | nil => rfl
  | cons e r ih => simp [blockSum, ih]

theorem covers_iff (e : Edit) (here : BlockPath) (i : Nat) :
    covers e here i = true ↔ e.blockPath = here ∧ e.index ≤ i ∧ i < e.index + e.removed := by
  simp [covers, and_assoc]

theorem coveredBy_cons (e : Edit) (r : List Edit) (here : BlockPath) (j : Nat) :
    coveredBy (e :: r) here j = (covers e here j || coveredBy r here j) := by
  simp [coveredBy]

theorem coveredBy_eq_false {E : List Edit} {here : BlockPath} {i : Nat} :
    coveredBy E here i = false ↔
      ∀ e ∈ E, e.blockPath = here → ¬ (e.index ≤ i ∧ i < e.index + e.removed) := by
  simp only [coveredBy, List.any_eq_false, covers_iff, not_and]

theorem coveredBy_of_covers {E : List Edit} {here : BlockPath} {i : Nat} {c : Edit}
    (hc : c ∈ E) (h : covers c here i = true) : coveredBy E here i = true :=
  List.any_eq_true.mpr ⟨c, hc, h⟩

/-- what one edit of the block adds to the shift at `i`: its run ends at or before `i` -/
def shiftOf (i : Nat) (e : Edit) : Int :=
  if e.index + e.removed ≤ i then (e.inserted : Int) - (e.removed : Int) else 0

def shiftAt (E : List Edit) (here : BlockPath) (i : Nat) : Int := blockSum (shiftOf i) here E

/-- the last edit of the log whose replaced run covers the old statement `i` of `here`: the one `_forward_stmt` reports -/
abbrev lastCover (E : List Edit) (here : BlockPath) (i : Nat) : Option Edit :=
  E.findRev? (covers · here i)

theorem scan_foldl (E : List Edit) (here : BlockPath) (i : Nat) (acc : Int × Option Edit) :
    E.foldl (fun (acc : Int × Option Edit) e =>
      if e.blockPath != here then acc
      else if i ≥ e.index + e.removed then (acc.1 + ((e.inserted : Int) - (e.removed : Int)), acc.2)
      else if i ≥ e.index then (acc.1, some e)
      else acc) acc
    = (acc.1 + shiftAt E here i, (lastCover E here i).or acc.2) := by
  induction E generalizing acc with
  | nil => simp [shiftAt, blockSum]
  | cons e r ih =>
    -- one turn of the loop adds `shiftOf i e` and remembers `e` if it covers `i`
    have step : (if e.blockPath != here then acc
        else if i ≥ e.index + e.removed then (acc.1 + ((e.inserted : Int) - (e.removed : Int)), acc.2)
        else if i ≥ e.index then (acc.1, some e)
        else acc)
        = (acc.1 + (if e.blockPath = here then shiftOf i e else 0),
            if covers e here i then some e else acc.2) := by
      unfold shiftOf covers
      by_cases hb : e.blockPath = here
      · by_cases h1 : e.index + e.removed ≤ i
        · simp [hb, h1, Nat.not_lt.mpr h1]
        · by_cases h2 : e.index ≤ i
          · simp [hb, h1, h2, Nat.lt_of_not_le h1]
          · simp [hb, h1, h2]
      · simp [hb]
    rw [List.foldl_cons, step, ih]
    simp only [shiftAt, blockSum, lastCover, List.findRev?]
    refine Prod.ext (by simp only []; omega) ?_
    cases r.findRev? (covers · here i) <;> by_cases hc : covers e here i = true <;> simp [hc]

theorem scan_eq (E : List Edit) (here : BlockPath) (i : Nat) :
    scan E here i = (shiftAt E here i, lastCover E here i) := by
  rw [scan, scan_foldl]; simp

theorem lastCover_none_iff (E : List Edit) (here : BlockPath) (i : Nat) :
    lastCover E here i = none ↔ coveredBy E here i = false := by
  simp [lastCover, coveredBy]

theorem lastCover_some {E : List Edit} {here : BlockPath} {i : Nat} {c : Edit}
    (h : lastCover E here i = some c) : c ∈ E ∧ covers c here i = true := by
  rw [lastCover, List.findRev?_eq_find?_reverse] at h
  exact ⟨List.mem_reverse.mp (List.mem_of_find?_eq_some h), List.find?_some (p := (covers · here i)) h⟩

/-- the same-block part of `¬ _overlaps(a, b)` -/
def SameBlockDisjoint (a b : Edit) : Prop :=
  a.blockPath = b.blockPath →
    ¬ (a.index ≤ b.index ∧ b.index < a.index + a.removed) ∧
    ¬ (b.index ≤ a.index ∧ a.index < b.index + b.removed)

/-- Of `checkDisjoint` only the same-block half is needed: an edit of a block beneath a replaced statement is reached
neither by `applyBlock` (which drops the statement) nor by `forwardBlock` (which raises `insideRewritten`). -/
def Disjoint (E : List Edit) : Prop := E.Pairwise SameBlockDisjoint

theorem sameBlockDisjoint_of_overlaps {a b : Edit} (h : overlaps a b = false) : SameBlockDisjoint a b := by
  intro hb
  unfold overlaps at h
  simp only [hb, beq_self_eq_true, if_true] at h
  simp at h
  omega

theorem SameBlockDisjoint.symm {a b : Edit} (h : SameBlockDisjoint a b) : SameBlockDisjoint b a :=
  fun hb => (h hb.symm).symm

theorem disjoint_of_check (E : List Edit) (h : checkDisjoint E = true) : Disjoint E := by
  induction E with
  | nil => exact List.Pairwise.nil
  | cons a r ih =>
    simp only [checkDisjoint, Bool.and_eq_true, List.all_eq_true] at h
    refine List.Pairwise.cons (fun b hb => ?_) (ih h.2)
    have := h.1 b hb
    simp at this
    exact sameBlockDisjoint_of_overlaps this.1

theorem _root_.Fpy.Cursor.Spec.SpecLog.disjoint {fresh : Edit → List Stmt} {L : EditLog} (h : SpecLog fresh L) : Disjoint L.edits := by
  have hc := h.check
  unfold EditLog.check at hc
  cases hr : checkRanges L.source.body L.edits with
  | error e => rw [hr] at hc; cases hc
  | ok u =>
    rw [hr] at hc
    by_cases hd : checkDisjoint L.edits = true
    · exact disjoint_of_check _ hd
    · simp [hd] at hc

theorem Disjoint.rel {E : List Edit} (h : Disjoint E) {a b : Edit} (ha : a ∈ E) (hb : b ∈ E) (hne : a ≠ b) :
    SameBlockDisjoint a b := by
  induction E with
  | nil => cases ha
  | cons e r ih =>
    rw [Disjoint, List.pairwise_cons] at h
    rcases List.mem_cons.mp ha with rfl | ha'
    · rcases List.mem_cons.mp hb with rfl | hb'
      · exact absurd rfl hne
      · exact h.1 b hb'
    · rcases List.mem_cons.mp hb with rfl | hb'
      · exact (h.1 a ha').symm
      · exact ih h.2 ha' hb'

/-- another edit `e` of `c`'s block lies wholly before or after `c`'s run and, if that run is not empty, does not
start where it starts (two insertions may share an index; an insertion may not sit at the head of a replaced run) -/
theorem Disjoint.clear {E : List Edit} (h : Disjoint E) {c e : Edit} (hc : c ∈ E) (he : e ∈ E)
    (hb : e.blockPath = c.blockPath) :
    e = c ∨ ((e.index + e.removed ≤ c.index ∨ c.index + c.removed ≤ e.index) ∧
      (0 < c.removed → e.index ≠ c.index)) := by
  by_cases hec : e = c
  · exact Or.inl hec
  · have := h.rel he hc hec hb
    exact Or.inr (by omega)

theorem emitAt_cons (fresh : Edit → List Stmt) (e : Edit) (r : List Edit) (here : BlockPath) (j : Nat) :
    emitAt fresh (e :: r) here j
      = (if e.blockPath = here ∧ e.index = j then fresh e else []) ++ emitAt fresh r here j := by
  simp [emitAt]

theorem emitAt_eq_nil {fresh : Edit → List Stmt} {E : List Edit} {here : BlockPath} {j : Nat}
    (h : ∀ e ∈ E, ¬ (e.blockPath = here ∧ e.index = j)) : emitAt fresh E here j = [] := by
  rw [emitAt, List.flatMap_eq_nil_iff]
  exact fun e he => if_neg (h e he)

theorem emitAt_start (fresh : Edit → List Stmt) (E : List Edit) (c : Edit)
    (hd : Disjoint E) (hc : c ∈ E) (hr : 0 < c.removed) :
    emitAt fresh E c.blockPath c.index = fresh c := by
  induction E with
  | nil => cases hc
  | cons e r ih =>
    have hd' := List.pairwise_cons.mp hd
    rw [emitAt_cons]
    by_cases hec : e = c
    · subst hec
      rw [if_pos ⟨rfl, rfl⟩, emitAt_eq_nil, List.append_nil]
      intro x hx h
      have := hd'.1 x hx h.1.symm
      omega
    · have hcr : c ∈ r := (List.mem_cons.mp hc).resolve_left (Ne.symm hec)
      rw [ih hd'.2 hcr, if_neg, List.nil_append]
      intro h
      have := hd'.1 c hcr h.1
      omega

theorem length_emitAt (fresh : Edit → List Stmt) (E : List Edit) (here : BlockPath) (j : Nat)
    (hf : ∀ e ∈ E, (fresh e).length = e.inserted) :
    ((emitAt fresh E here j).length : Int) = blockSum (fun e => if e.index = j then (e.inserted : Int) else 0) here E := by
  induction E with
  | nil => rfl
  | cons e r ih =>
    rw [emitAt_cons, List.length_append, Int.natCast_add, ih (fun x hx => hf x (List.mem_cons_of_mem _ hx)), blockSum]
    have he := hf e List.mem_cons_self
    by_cases h1 : e.blockPath = here <;> by_cases h2 : e.index = j <;> simp [h1, h2, he]

/-- in a disjoint log at most one run contains `j` -/
theorem covered_sum (E : List Edit) (here : BlockPath) (j : Nat) (hd : Disjoint E) :
    (if coveredBy E here j then 1 else 0 : Int)
      = blockSum (fun e => if e.index ≤ j ∧ j < e.index + e.removed then 1 else 0) here E := by
  induction E with
  | nil => rfl
  | cons e r ih =>
    rw [Disjoint, List.pairwise_cons] at hd
    rw [blockSum, ← ih hd.2, coveredBy_cons]
    by_cases hc : covers e here j = true
    · rw [hc]
      rw [covers_iff] at hc
      have hr : coveredBy r here j = false :=
        coveredBy_eq_false.mpr fun x hx hbx hcx => by
          have := hd.1 x hx (hc.1.trans hbx.symm)
          omega
      rw [hr]
      simp [hc]
    · have : ¬ (e.blockPath = here ∧ e.index ≤ j ∧ j < e.index + e.removed) := by rwa [← covers_iff]
      by_cases h1 : e.blockPath = here
      · have : ¬ (e.index ≤ j ∧ j < e.index + e.removed) := fun h => this ⟨h1, h⟩
        simp [hc, h1, this]
      · simp [hc, h1]

/-- what one edit of the block adds to (the number of statements emitted for old indices below
`k`) − `k`: if it starts below `k`, its insertions less the part of its run below `k` -/
def beforeOf (k : Nat) (e : Edit) : Int :=
  if e.index < k then
    (e.inserted : Int) - (if e.index + e.removed ≤ k then (e.removed : Int) else (k : Int) - (e.index : Int))
  else 0

theorem beforeOf_succ (k : Nat) (e : Edit) :
    beforeOf (k + 1) e + (if e.index ≤ k ∧ k < e.index + e.removed then 1 else 0)
      = beforeOf k e + (if e.index = k then (e.inserted : Int) else 0) := by
  unfold beforeOf
  by_cases h1 : e.index < k
  · rw [if_pos h1, if_pos (Nat.lt_succ_of_lt h1), if_neg (Nat.ne_of_lt h1)]
    by_cases h4 : e.index + e.removed ≤ k
    · rw [if_pos h4, if_pos (Nat.le_succ_of_le h4), if_neg (fun h => Nat.not_lt.mpr h4 h.2)]
    · have h5 : e.index ≤ k ∧ k < e.index + e.removed := ⟨Nat.le_of_lt h1, Nat.lt_of_not_le h4⟩
      rw [if_neg h4, if_pos h5]
      split <;> omega
  · rw [if_neg h1]
    by_cases h3 : e.index = k
    · rw [if_pos (h3 ▸ Nat.lt_succ_self _), if_pos h3]
      by_cases h4 : e.index + e.removed ≤ k + 1
      · rw [if_pos h4]; split <;> omega
      · rw [if_neg h4]; split <;> omega
    · have h2 : ¬ e.index ≤ k := fun h => h1 (Nat.lt_of_le_of_ne h h3)
      rw [if_neg (fun h => h2 (Nat.le_of_lt_succ h)), if_neg h3, if_neg (fun h => h2 h.1)]

theorem beforeOf_zero (e : Edit) : beforeOf 0 e = 0 := if_neg (Nat.not_lt_zero _)

theorem beforeOf_uncovered (k : Nat) (e : Edit) (h : ¬ (e.index ≤ k ∧ k < e.index + e.removed)) :
    beforeOf k e + (if e.index = k then (e.inserted : Int) else 0) = shiftOf k e := by
  unfold beforeOf shiftOf
  by_cases h1 : e.index + e.removed ≤ k
  · rw [if_pos h1, if_pos h1]
    split <;> split <;> omega
  · have h2 : ¬ e.index < k := fun h2 => h ⟨Nat.le_of_lt h2, Nat.lt_of_not_le h1⟩
    have h3 : ¬ e.index = k := fun h3 => h ⟨Nat.le_of_eq h3, Nat.lt_of_not_le h1⟩
    rw [if_neg h2, if_neg h3, if_neg h1]; rfl

theorem beforeOf_clear (k : Nat) (e : Edit) (h : e.index + e.removed ≤ k ∨ k < e.index) (hne : e.index ≠ k) :
    beforeOf k e = shiftOf k e := by
  unfold beforeOf shiftOf
  by_cases h1 : e.index + e.removed ≤ k
  · rw [if_pos h1, if_pos h1, if_pos (by omega)]
  · have h2 : ¬ e.index < k := by omega
    rw [if_neg h2, if_neg h1]

theorem applyBlock_nil (fresh : Edit → List Stmt) (E : List Edit) (here : BlockPath) (i : Nat) :
    applyBlock fresh E here [] i = emitAt fresh E here i := by
  simp [applyBlock]

theorem applyBlock_cons (fresh : Edit → List Stmt) (E : List Edit) (here : BlockPath) (s : Stmt) (r : Block) (i : Nat) :
    applyBlock fresh E here (s :: r) i
      = emitAt fresh E here i ++ ((if coveredBy E here i then [] else [applyStmt fresh E here i s])
          ++ applyBlock fresh E here r (i + 1)) := by
  simp [applyBlock]

/-- the old statements below `k` come out as `l1`, of length `k + Σ beforeOf k`; the rest of the block follows -/
theorem applyBlock_split (fresh : Edit → List Stmt) (E : List Edit) (here : BlockPath) (b : Block) (k : Nat)
    (hf : ∀ e ∈ E, (fresh e).length = e.inserted) (hd : Disjoint E) (hk : k ≤ b.length) :
    ∃ l1, (l1.length : Int) = k + blockSum (beforeOf k) here E ∧
      applyBlock fresh E here b 0 = l1 ++ applyBlock fresh E here (b.drop k) k := by
  induction k with
  | zero =>
    refine ⟨[], ?_, by simp⟩
    rw [blockSum_congr (h := fun _ => 0) (fun e _ _ => beforeOf_zero e), blockSum_zero]
    rfl
  | succ k ih =>
    obtain ⟨l1, hl, heq⟩ := ih (by omega)
    rw [List.drop_eq_getElem_cons hk, applyBlock_cons] at heq
    refine ⟨l1 ++ (emitAt fresh E here k ++ (if coveredBy E here k then [] else [applyStmt fresh E here k b[k]])), ?_, ?_⟩
    · have hsum := blockSum_congr (here := here) (E := E)
        (g := fun e => beforeOf (k + 1) e + (if e.index ≤ k ∧ k < e.index + e.removed then 1 else 0))
        (h := fun e => beforeOf k e + (if e.index = k then (e.inserted : Int) else 0))
        (fun e _ _ => beforeOf_succ k e)
      rw [blockSum_add, blockSum_add, ← length_emitAt fresh E here k hf, ← covered_sum E here k hd] at hsum
      simp only [List.length_append, Int.natCast_add]
      cases hcov : coveredBy E here k <;> rw [hcov] at hsum <;>
        simp only [Bool.false_eq_true, if_false, if_true, List.length_nil, List.length_singleton] at hsum ⊢ <;> omega
    · rw [heq]; simp [List.append_assoc]

theorem applyBlock_get_fwd (fresh : Edit → List Stmt) (E : List Edit) (here : BlockPath) (b : Block) (k : Nat)
    (s : Stmt) (hf : ∀ e ∈ E, (fresh e).length = e.inserted) (hd : Disjoint E)
    (hs : b[k]? = some s) (hc : coveredBy E here k = false) :
    (applyBlock fresh E here b 0)[((k : Int) + shiftAt E here k).toNat]? = some (applyStmt fresh E here k s) := by
  obtain ⟨hlt, hbk⟩ := List.getElem?_eq_some_iff.mp hs
  obtain ⟨l1, hl, heq⟩ := applyBlock_split fresh E here b k hf hd (Nat.le_of_lt hlt)
  have hdrop : b.drop k = s :: b.drop (k + 1) := hbk ▸ List.drop_eq_getElem_cons hlt
  have hsum := blockSum_congr (here := here) (E := E)
    (g := fun e => beforeOf k e + (if e.index = k then (e.inserted : Int) else 0)) (h := shiftOf k)
    (fun e he hb => beforeOf_uncovered k e (coveredBy_eq_false.mp hc e he hb))
  rw [blockSum_add, ← length_emitAt fresh E here k hf] at hsum
  have hidx : ((k : Int) + shiftAt E here k).toNat = l1.length + (emitAt fresh E here k).length := by
    rw [shiftAt]; omega
  rw [hidx, heq, hdrop, applyBlock_cons, hc, List.getElem?_append_right (Nat.le_add_right ..),
    Nat.add_sub_cancel_left, List.getElem?_append_right (Nat.le_refl _), Nat.sub_self]
  rfl

theorem applyBlock_run_fwd (fresh : Edit → List Stmt) (E : List Edit) (c : Edit) (b : Block)
    (hf : ∀ e ∈ E, (fresh e).length = e.inserted) (hd : Disjoint E) (hc : c ∈ E) (hr : 0 < c.removed)
    (hk : c.index ≤ b.length) :
    ∃ l1 l2, applyBlock fresh E c.blockPath b 0 = l1 ++ fresh c ++ l2 ∧
      l1.length = ((c.index : Int) + shiftAt E c.blockPath c.index).toNat := by
  obtain ⟨l1, hl, heq⟩ := applyBlock_split fresh E c.blockPath b c.index hf hd hk
  have hsum := blockSum_congr (here := c.blockPath) (E := E) (g := beforeOf c.index) (h := shiftOf c.index)
    (fun e he hb => by
      rcases hd.clear hc he hb with rfl | h
      · exact (if_neg (Nat.lt_irrefl _)).trans (if_neg (by omega)).symm
      · exact beforeOf_clear _ e (by omega) (h.2 hr))
  have hemit := emitAt_start fresh E c hd hc hr
  have hend : ∃ l2, applyBlock fresh E c.blockPath (b.drop c.index) c.index = fresh c ++ l2 := by
    cases b.drop c.index with
    | nil => exact ⟨[], by rw [applyBlock_nil, hemit, List.append_nil]⟩
    | cons s r => exact ⟨_, by rw [applyBlock_cons, hemit]⟩
  obtain ⟨l2, h2⟩ := hend
  exact ⟨l1, l2, by rw [heq, h2, List.append_assoc], by rw [shiftAt]; omega⟩

theorem shift_inside (E : List Edit) (c : Edit) (i : Nat) (hd : Disjoint E) (hc : c ∈ E)
    (hi : c.index ≤ i ∧ i < c.index + c.removed) :
    shiftAt E c.blockPath i = shiftAt E c.blockPath c.index :=
  blockSum_congr fun e he hb => by
    unfold shiftOf
    rcases hd.clear hc he hb with rfl | h
    · rw [if_neg (by omega), if_neg (by omega)]
    · by_cases h1 : e.index + e.removed ≤ c.index
      · rw [if_pos h1, if_pos (by omega)]
      · rw [if_neg h1, if_neg (by omega)]

end Fpy.Cursor.Proof
