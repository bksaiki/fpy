/-
The candidate loop of the site rewriters (`Model/Sites.lean`) in closed form (`walk_eq`): the sites rewritten are
the listed sites, each asked `selects` with its own number (`pick`).
-/
import Fpy.Model.Sites
namespace Fpy.Sites.Proof
open Fpy.Cursor Fpy.Sites

def sitesOf (cands : List Cand) : List StmtPath := (cands.filter (fun c => !c.refused)).map (·.path)
def refusedOf (cands : List Cand) : List StmtPath := (cands.filter (·.refused)).map (·.path)

theorem sitesOf_cons (c : Cand) (r : List Cand) :
    sitesOf (c :: r) = if c.refused then sitesOf r else c.path :: sitesOf r := by
  cases h : c.refused <;> simp [sitesOf, h]

theorem refusedOf_cons (c : Cand) (r : List Cand) :
    refusedOf (c :: r) = if c.refused then c.path :: refusedOf r else refusedOf r := by
  cases h : c.refused <;> simp [refusedOf, h]

/-- the sites the walk rewrites: site number `n`, `n+1`, … of the list, each asked `selects` with its number -/
def pick (w : Where) (tgt : Option (BlockPath × Nat × Nat)) : Nat → List StmtPath → List StmtPath
  | _, [] => []
  | n, p :: r => if selects w tgt p n then p :: pick w tgt (n + 1) r else pick w tgt (n + 1) r

theorem walk_eq (w : Where) (tgt : Option (BlockPath × Nat × Nat)) (cands : List Cand) (st : State) :
    walk w tgt cands st =
      { siteIdx := st.siteIdx + (sitesOf cands).length,
        matched := st.matched + (pick w tgt st.siteIdx (sitesOf cands)).length,
        rewritten := st.rewritten ++ pick w tgt st.siteIdx (sitesOf cands),
        refused := st.refused ++ refusedOf cands,
        declined := st.declined + ((refusedOf cands).filter (tgt.isSome && selects w tgt · (-1))).length } := by
  induction cands generalizing st with
  | nil => simp [walk, sitesOf, refusedOf, pick]
  | cons c r ih =>
    rw [walk, ih, step, sitesOf_cons, refusedOf_cons]
    by_cases hc : c.refused = true
    · by_cases hd : (tgt.isSome && selects w tgt c.path (-1)) = true <;> simp [hc, hd] <;> omega
    · by_cases hb : selects w tgt c.path st.siteIdx = true <;> simp [hc, hb, pick] <;> omega

theorem pick_sel {w : Where} {tgt : Option (BlockPath × Nat × Nat)} {sel : StmtPath → Bool}
    (hsel : ∀ p idx, selects w tgt p idx = sel p) (n : Nat) (l : List StmtPath) : pick w tgt n l = l.filter sel := by
  induction l generalizing n with
  | nil => rfl
  | cons p r ih => rw [pick, hsel, ih, List.filter_cons]

theorem pick_index (j : Int) (n : Nat) (l : List StmtPath) :
    pick (.index j) Option.none n l = if (n : Int) ≤ j then (l[(j - n).toNat]?).toList else [] := by
  induction l generalizing n with
  | nil => simp [pick]
  | cons p r ih =>
    rw [pick, ih]
    by_cases h : (n : Int) = j
    · subst h
      have : selects (.index (n : Int)) Option.none p n = true := by simp [selects]
      rw [if_pos this, if_neg (by omega), if_pos (Int.le_refl _), Int.sub_self]
      rfl
    · have : selects (.index j) Option.none p n = false := by simp [selects, h]
      simp only [this, Bool.false_eq_true, if_false]
      by_cases h2 : (n : Int) ≤ j
      · have e : (j - n).toNat = (j - (n + 1 : Nat)).toNat + 1 := by omega
        rw [if_pos (by omega), if_pos h2, e, List.getElem?_cons_succ]
      · rw [if_neg (by omega), if_neg h2]

theorem length_sitesOf_add (cands : List Cand) :
    (sitesOf cands).length + (refusedOf cands).length = cands.length := by
  induction cands with
  | nil => rfl
  | cons c r ih =>
    rw [sitesOf_cons, refusedOf_cons]
    split <;> simp only [List.length_cons] <;> omega

theorem listSites_eq (cands : List Cand) : listSites cands = sitesOf cands := by
  simp [listSites, walk_eq, pick_sel (w := .none) (tgt := Option.none) (sel := fun _ => true) (fun _ _ => rfl)]

theorem listRefusals_eq (cands : List Cand) : listRefusals cands = refusedOf cands := by
  simp [listRefusals, walk_eq]

theorem apply_index (pid : Nat) (cands : List Cand) (j : Int) :
    apply pid cands (.index j) =
      if 0 ≤ j ∧ j < ((sitesOf cands).length : Int) then .ok ((sitesOf cands)[j.toNat]?).toList
      else .error .reference := by
  simp only [apply, checkWhere, targetOf, checkSite, walk_eq, pick_index, Nat.zero_add]
  by_cases h : 0 ≤ j ∧ j < ((sitesOf cands).length : Int)
  · simp [h.1, h.2]
  · simp only [if_neg h]
end Fpy.Sites.Proof
