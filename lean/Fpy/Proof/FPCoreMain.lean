/-
C12 — the loop-free compiler model (`compileS`, `compileB`) is sound: induction on the fuel of the source run, statements
(`StmtOK`) and blocks (`BlockOK`) together (`flat_sound_all`).  The model with loops (`compileLS`, `compileLB`) is not an
extension of this one — an `if/else` whose branches return is compiled only here, and what a `with` block hands on is
decided there from the compiled continuation (`occ K`), here from the source (`mention`) — and has its own proof (FPCoreL*).
-/
import Fpy.Proof.FPCoreBlock
import Fpy.Proof.FPCoreExpr
namespace Fpy.C12
open Fpy Fpy.Lang

/-- A run of the source statement leaves the heap as it is. And for every way the statement was compiled — `K`: the compiled
continuation, which mentions the names `N`; `K = none`: the statement ends the function body, and then `N = []` as `compileB`
passes it — `Ran` says what the run alone gives and `Sim` that `E` converges accordingly in every `ρ` that agrees with `σ` on
what `E` mentions; `litsOK C K.isSome N` speaks of the literals of this very compilation. `BlockOK`: the same of a block. -/
def StmtOK (Φ : Funs) (fuel : Nat) : Prop :=
  ∀ (s : SStmt) (σ : Env) (μ : Heap) (C : Ctx) (o : Outcome) (μ' : Heap),
    evalS Φ fuel σ μ C s.toLang = .ok (o, μ') →
    μ' = μ ∧
    ((∀ x, x ∈ s.names → isTmp x = false) → (∀ x, x ∈ s.defs → isTmp x = false) →
     ∀ (K : Option FExpr) (N : List String) (E : FExpr) (P : Props),
      compileS s K N = some E → (K = none → N = []) → P.toCtx = .ok C → s.litsOK C K.isSome N →
      Ran K s.defs s.defs σ o ∧ ∀ ρ, Agree (s.mention N) ρ σ → Sim (fun _ => Agree N) ρ P E K o)

def BlockOK (Φ : Funs) (fuel : Nat) : Prop :=
  ∀ (ss : List SStmt) (σ : Env) (μ : Heap) (C : Ctx) (o : Outcome) (μ' : Heap),
    evalB Φ fuel σ μ C (SStmt.toLangs ss) = .ok (o, μ') →
    μ' = μ ∧
    ((∀ x, x ∈ SStmt.namesL ss → isTmp x = false) → (∀ x, x ∈ SStmt.defsL ss → isTmp x = false) →
     ∀ (K : Option FExpr) (N : List String) (E : FExpr) (P : Props),
      compileB ss K N = some E → (K = none → N = []) → P.toCtx = .ok C → SStmt.litsOKL ss C K.isSome N →
      Ran K (SStmt.defsL ss) (SStmt.defsL ss) σ o ∧
        ∀ ρ, Agree (SStmt.mentionL ss N) ρ σ → Sim (fun _ => Agree N) ρ P E K o)

theorem compileB_cons_inv {s : SStmt} {ss : List SStmt} {K : Option FExpr} {N : List String} {E : FExpr} {C : Ctx}
    (hc : compileB (s :: ss) K N = some E) (hl : SStmt.litsOKL (s :: ss) C K.isSome N) :
    (ss = [] ∧ K = none ∧ compileS s none [] = some E ∧ s.litsOK C false []) ∨
    ∃ K', compileB ss K N = some K' ∧ compileS s (some K') (SStmt.mentionL ss N) = some E ∧
      s.litsOK C true (SStmt.mentionL ss N) ∧ SStmt.litsOKL ss C K.isSome N := by
  cases ss with
  | nil =>
    cases K with
    | none => exact Or.inl ⟨rfl, rfl, hc, hl.1⟩
    | some k => exact Or.inr ⟨k, rfl, hc, hl.1, trivial⟩
  | cons s2 ss2 =>
    have hc' : (match compileB (s2 :: ss2) K N with
      | none => none
      | some K' => compileS s (some K') (SStmt.mentionL (s2 :: ss2) N)) = some E := hc
    cases hcc : compileB (s2 :: ss2) K N with
    | none => rw [hcc] at hc'; cases hc'
    | some K' => rw [hcc] at hc'; exact Or.inr ⟨K', rfl, hc', hl.1, hl.2⟩

theorem compileS_ifte_inv {c : SExpr} {t e : List SStmt} {K : Option FExpr} {N : List String} {E : FExpr}
    (hc : compileS (.ifte c t e) K N = some E) :
    K = none ∧ ∃ T F, compileB t none [] = some T ∧ compileB e none [] = some F ∧ E = .ite c.toF T F := by
  cases K with
  | some k => cases hc
  | none =>
    simp only [compileS] at hc
    split at hc
    · next T F hT hF => cases hc; exact ⟨rfl, T, F, hT, hF, rfl⟩
    · cases hc

theorem block_step (Φ : Funs) (f : Nat) (hS : StmtOK Φ f) (hB : BlockOK Φ f) : BlockOK Φ (f + 1) := by
  intro ss σ μ C o μ' h
  cases ss with
  | nil =>
    rw [SStmt.toLangs, evalB_nil] at h
    cases h
    refine ⟨rfl, fun _ _ K N E P hc hKN hP hl => ?_⟩
    simp only [compileB] at hc
    subst hc
    exact ⟨Ran.normal (fun x hx => by simp [SStmt.defsL] at hx) fun x _ => rfl,
      fun ρ hA => Sim.nil (by simpa [SStmt.mentionL] using hA)⟩
  | cons s ss =>
    rw [SStmt.toLangs, evalB_cons] at h
    obtain ⟨⟨o1, μ1⟩, h1, h⟩ := bind_ok h
    dsimp only at h
    obtain ⟨rfl, hstmt⟩ := hS s σ _ C o1 _ h1
    have hμ : μ' = μ1 := by
      cases o1 with
      | ret v => cases h; rfl
      | normal σ1 => exact (hB ss σ1 _ C o μ' h).1
    subst hμ
    refine ⟨rfl, fun hwfN hwfD K N E P hc hKN hP hl => ?_⟩
    have hwfs : ∀ x, x ∈ s.names → isTmp x = false := fun x hx => hwfN x (List.mem_append_left _ hx)
    have hwfd : ∀ x, x ∈ s.defs → isTmp x = false := fun x hx => hwfD x (List.mem_append_left _ hx)
    rcases compileB_cons_inv hc hl with ⟨rfl, rfl, hcs, hls⟩ | ⟨K', hcK', hcs, hls, hlss⟩
    · cases hKN rfl
      obtain ⟨hran, hsim⟩ := hstmt hwfs hwfd none [] E P hcs (fun _ => rfl) hP hls
      obtain ⟨v, rfl⟩ := hran.of_none
      cases h
      exact ⟨hran, fun ρ hA => hsim ρ (by simpa [SStmt.mentionL] using hA)⟩
    · obtain ⟨hran1, hsim1⟩ := hstmt hwfs hwfd (some K') (SStmt.mentionL ss N) E P hcs (fun hh => by cases hh) hP hls
      obtain ⟨σ1, rfl, hdef1, hkeep1⟩ := hran1.of_some
      obtain ⟨hran2, hsim2⟩ := (hB ss σ1 _ C o _ h).2 (fun x hx => hwfN x (List.mem_append_right _ hx))
        (fun x hx => hwfD x (List.mem_append_right _ hx)) K N K' P hcK' hKN hP hlss
      refine ⟨?_, fun ρ hA => (hsim1 ρ hA).seq hsim2⟩
      · cases o with
        | ret v => exact hran2
        | normal σ' =>
          obtain ⟨hk2, hdef2, hkeep2⟩ := hran2
          refine ⟨hk2, fun x hx => ?_, fun x hx => ?_⟩
          · by_cases hx2 : x ∈ SStmt.defsL ss
            · exact hdef2 x hx2
            · obtain ⟨w, hw⟩ := hdef1 x ((List.mem_append.1 hx).resolve_right hx2)
              exact ⟨w, by rw [hkeep2 x hx2]; exact hw⟩
          · simp only [SStmt.defsL, List.mem_append, not_or] at hx
            rw [hkeep2 x hx.2, hkeep1 x hx.1]

/-- what the branch taken reads, writes and mentions, the `if` does -/
theorem ite_branch (c : SExpr) (t e : List SStmt) (N : List String) (b : Bool) (x : String) :
    (x ∈ SStmt.namesL (if b then t else e) → x ∈ (SStmt.ifte c t e).names) ∧
    (x ∈ SStmt.defsL (if b then t else e) → x ∈ (SStmt.ifte c t e).defs) ∧
    (x ∈ SStmt.mentionL (if b then t else e) [] → x ∈ (SStmt.ifte c t e).mention N) := by
  simp only [SStmt.names, SStmt.defs, SStmt.mention, List.mem_append]
  cases b
  · exact ⟨Or.inr, Or.inr, Or.inr⟩
  · exact ⟨fun h => Or.inl (Or.inr h), Or.inl, fun h => Or.inl (Or.inr h)⟩

theorem stmt_step (Φ : Funs) (f : Nat) (hB : BlockOK Φ f) : StmtOK Φ (f + 1) := by
  intro s σ μ C o μ' h
  cases s with
  | assign x e =>
    rw [SStmt.toLang] at h
    obtain ⟨v, h1, rfl⟩ := evalS_assign_var_inv h
    obtain ⟨rfl, ce⟩ := expr_sound h1
    refine ⟨rfl, fun hwfN hwfD K N E P hc hKN hP hl => ?_⟩
    cases K with
    | none => cases hc
    | some k =>
      simp only [compileS] at hc
      cases hc
      refine ⟨Ran.normal (fun y hy => ?_) fun y hy => ?_, fun ρ hA => Sim.normal_intro fun w hw => ?_⟩
      · simp only [SStmt.defs, List.mem_singleton] at hy; subst hy; exact ⟨v, get?_set_self _ _ _⟩
      · simp only [SStmt.defs, List.mem_singleton] at hy; exact get?_set_ne hy
      · have hAe : Agree e.vars ρ σ := hA.mono (fun z hz => by simp [SStmt.mention, hz])
        have hTe : ∀ z, z ∈ e.vars → isTmp z = false := fun z hz => hwfN z (by simp [SStmt.names, hz])
        exact conv_let1 (ce ρ P hP hAe hTe)
          (hw _ (Agree.set x v (fun y hy hne ht => hA y (by simp [SStmt.mention, hy]) ht)))
  | ret e =>
    rw [SStmt.toLang] at h
    obtain ⟨v, h1, rfl⟩ := evalS_ret_inv h
    obtain ⟨rfl, ce⟩ := expr_sound h1
    refine ⟨rfl, fun hwfN hwfD K N E P hc hKN hP hl => ?_⟩
    cases K with
    | some k => cases hc
    | none =>
      simp only [compileS] at hc
      cases hc
      exact ⟨rfl, fun ρ hA => ce ρ P hP (hA.mono (fun z hz => by simp [SStmt.mention, hz]))
        (fun z hz => hwfN z (by simp [SStmt.names, hz]))⟩
  | with_ d body =>
    rw [SStmt.toLang] at h
    replace h := evalS_with_inv h
    obtain ⟨hm, hbody⟩ := hB body σ _ _ o _ h
    subst hm
    refine ⟨rfl, fun hwfN hwfD K N E P hc hKN hP hl => ?_⟩
    have hwfN' : ∀ x, x ∈ SStmt.namesL body → isTmp x = false := hwfN
    have hwfD' : ∀ x, x ∈ SStmt.defsL body → isTmp x = false := hwfD
    simp only [compileS] at hc
    cases hfd : fromDesc d with
    | none => rw [hfd] at hc; cases hc
    | some p =>
      rw [hfd] at hc
      simp only at hc
      obtain ⟨C', hC', hPu⟩ := fromDesc_ctx hfd P
      have hC0 : d.toCtx.getD .real = C' := by rw [hC']; rfl
      rw [hC0] at hbody
      simp only [SStmt.litsOK, hC'] at hl
      cases K with
      | none =>
        have hN : N = [] := hKN rfl
        subst hN
        simp only [Option.isSome, Bool.false_eq_true, if_false] at hl
        obtain ⟨I, hcb, rfl⟩ := Option.map_eq_some_iff.1 hc
        obtain ⟨hran, hsim⟩ := hbody hwfN' hwfD' none [] I (P.update p) hcb (fun _ => rfl) hPu hl
        obtain ⟨v, rfl⟩ := hran.of_none
        refine ⟨rfl, fun ρ hA => conv_ann (hsim ρ (hA.mono (fun z hz => ?_)))⟩
        have hf : (SStmt.defsL body).filter (fun x => ([] : List String).contains x) = [] := by simp
        simp only [SStmt.mention, hf, sortNames, List.foldr_nil, List.append_nil]
        exact hz
      | some k =>
        simp only [Option.isSome, if_true] at hl
        have hmem : ∀ y, y ∈ sortNames ((SStmt.defsL body).filter (N.contains ·)) ↔ y ∈ SStmt.defsL body ∧ y ∈ N :=
          fun y => mem_passed y body N
        have hAm : ∀ z, z ∈ SStmt.mentionL body (sortNames ((SStmt.defsL body).filter (N.contains ·))) ∨ z ∈ N →
            z ∈ (SStmt.with_ d body).mention N := by
          intro z hz
          simp only [SStmt.mention, List.mem_append]
          rcases hz with hz | hz
          · exact Or.inl (Or.inl hz)
          · exact Or.inr hz
        generalize sortNames ((SStmt.defsL body).filter (N.contains ·)) = D at hc hl hmem hAm
        obtain ⟨I, hcb, rfl⟩ := Option.map_eq_some_iff.1 hc
        obtain ⟨hran, hsim⟩ := hbody hwfN' hwfD' (some (retOf D)) D I (P.update p) hcb (fun hh => by cases hh) hPu hl.2.2
        obtain ⟨σb, rfl, hdefs, hkeep⟩ := hran.of_some
        refine ⟨Ran.normal hdefs hkeep,
          fun ρ hA => Sim.normal_intro fun w hw => ?_⟩
        have hDT : ∀ x, x ∈ D → isTmp x = false := fun x hx => hwfD' x ((hmem x).1 hx).1
        have hDb : Bound D σb := fun x hx => hdefs x ((hmem x).1 hx).1
        -- the rounded `0` an empty `D` stands for
        obtain ⟨r0, hr0⟩ : ∃ r0, D = [] → opEval C' .round [cvtReal (.q 0 1)] = .ok r0 := by
          by_cases hD : D = []
          · obtain ⟨r0, hr0, _⟩ := hl.1 hD 0 (by omega)
            exact ⟨r0, fun _ => hr0⟩
          · exact ⟨default, fun h => absurd h hD⟩
        have cI := (hsim ρ (hA.mono (fun z hz => hAm z (Or.inl hz)))).normal_elim (v := carried D σb r0)
          (fun ρ' hA' => conv_retOf hPu hr0 (fun x hx => hA' x hx (hDT x hx)) hDb)
        refine conv_bundle hP hl.2.1 hDT hDb (conv_ann cI) (fun ρ' hρ' => hw ρ' (fun y hy ht => ?_))
        rw [hρ' y ht]
        by_cases hyD : y ∈ D
        · simp [hyD]
        · simp only [hyD, if_false]
          rw [hkeep y (fun hd => hyD ((hmem y).2 ⟨hd, hy⟩))]
          exact hA y (hAm y (Or.inr hy)) ht
  | ifte c t e =>
    rw [SStmt.toLang, evalS_ifte] at h
    obtain ⟨b, μ1, h1, h⟩ := evalE_cond_inv (X := fun μ1 => evalB Φ f σ μ1 C (SStmt.toLangs t))
      (Y := fun μ1 => evalB Φ f σ μ1 C (SStmt.toLangs e)) h
    obtain ⟨rfl, cc⟩ := expr_sound h1
    have hbr : evalB Φ f σ μ1 C (SStmt.toLangs (if b then t else e)) = .ok (o, μ') := by
      cases b <;> simpa using h
    obtain ⟨hm2, hbody⟩ := hB (if b then t else e) σ _ C o _ hbr
    subst hm2
    refine ⟨rfl, fun hwfN hwfD K N E P hc hKN hP hl => ?_⟩
    obtain ⟨rfl, T, F, hT, hF, rfl⟩ := compileS_ifte_inv hc
    simp only [SStmt.litsOK] at hl
    have hbranch : compileB (if b then t else e) none [] = some (if b then T else F) ∧
        SStmt.litsOKL (if b then t else e) C false [] := by
      cases b
      · exact ⟨hF, hl.2⟩
      · exact ⟨hT, hl.1⟩
    obtain ⟨hran, hsim⟩ := hbody (fun x hx => hwfN x ((ite_branch c t e N b x).1 hx))
      (fun x hx => hwfD x ((ite_branch c t e N b x).2.1 hx)) none [] (if b then T else F) P hbranch.1 (fun _ => rfl) hP hbranch.2
    obtain ⟨v, rfl⟩ := hran.of_none
    refine ⟨rfl, fun ρ hA => conv_ite ?_ (hsim ρ (hA.mono (fun z hz => (ite_branch c t e N b z).2.2 hz)))⟩
    exact cc ρ P hP (hA.mono (fun z hz => by simp [SStmt.mention, hz]))
      (fun z hz => hwfN z (by simp [SStmt.names, hz]))

theorem flat_sound_all (Φ : Funs) : ∀ fuel, StmtOK Φ fuel ∧ BlockOK Φ fuel := by
  intro fuel
  induction fuel with
  | zero =>
    exact ⟨fun s σ μ C o μ' h => by simp [evalS] at h, fun ss σ μ C o μ' h => by simp [evalB] at h⟩
  | succ n ih => exact ⟨stmt_step Φ n ih.2, block_step Φ n ih.1 ih.2⟩

end Fpy.C12
