/-
From the integer model (`Fpy/Proof/Fast2Sum.lean`) to the model of the library: on a grid `2^g` the scaled
significand of what `RealFloat._round_at` returns is `rndI` of the operand's; `FloatLike` contexts
(`MPFloatContext`, `MPSFloatContext` above its least digit); the operands of Fast2Sum on their common grid.
-/
import Fpy.Proof.Fast2Sum
import Fpy.Model.Lib
import Fpy.Proof.EngineLemmas
namespace Fpy.C20
open Fpy Fpy.Spec Fpy.Lib Fpy.Lang

theorem sc_sign (x : RF) (g : Int) (hc : x.c ≠ 0) : decide (x.sc g < 0) = x.s := by
  cases hs : x.s
  · have := RF.sc_pos x g hc hs; simp; omega
  · have := RF.sc_neg x g hc hs; simp; omega

theorem sc_of_mag (x : RF) (g : Int) : x.sc g = (if x.sc g < 0 then -1 else 1) * (x.mag g : Int) := by
  have := RF.natAbs_sc x g
  by_cases h : x.sc g < 0
  · simp only [h, if_true]; omega
  · simp only [h, if_false]; omega

/-- `RealFloat._round_at` with `p` digits at position `n` on the grid `2^g`; `hcase`: `n = e − p`, or a higher position
that still lies below every digit of `w` -/
theorem rf_roundAtCore_sc (p : Nat) (hp : 1 ≤ p) (rm : RM) (w : RF) (n : Int) (emin : Option Int) (g : Int)
    (hc : w.c ≠ 0) (hgw : g ≤ w.exp) (hn : w.e - p ≤ n) (hcase : n = w.e - p ∨ w.exp > n) :
    ∃ y fl, w.roundAtCore (some p) n emin rm false = .ok (y, fl) ∧ y.okAt g ∧ y.sc g = rndI p rm (w.sc g) := by
  -- either all digits are kept (`w` has at most `p`), or `n = e - p` and `k ≥ 1` digits of `w.c` are dropped
  have key : (w.exp > n ∧ bitLength w.c ≤ p) ∨
      (w.exp ≤ n ∧ w.exp ≤ n + 1 ∧ ∃ k, 1 ≤ k ∧ bitLength w.c = p + k ∧ n + 1 = k + w.exp) := by
    unfold RF.e RF.p at hn hcase
    by_cases hf : w.exp > n
    · exact Or.inl ⟨hf, by omega⟩
    · exact Or.inr ⟨by omega, by omega, bitLength w.c - p, by omega, by omega, by omega⟩
  obtain ⟨y, fl, hr, hys, _, hyn, hfast, hslow⟩ := roundAtCore_prec w p n emin rm hc hp hn
  refine ⟨y, fl, hr, ?_⟩
  have hmag : w.mag g = w.c * 2 ^ (w.exp - g).toNat := rfl
  have hblm : bitLength (w.mag g) = bitLength w.c + (w.exp - g).toNat := bitLength_shift _ _ hc
  rcases key with ⟨hf, hle⟩ | ⟨hf, hf1, k, hk1, hkd, hne⟩
  · obtain ⟨rfl, _⟩ := hfast hf
    refine ⟨Or.inr hgw, (rndI_exact p rm _ ?_).symm⟩
    rw [RF.natAbs_sc, hblm, hmag]
    exact mul_pow_mod _ _ _ (Nat.sub_le_of_le_add (by rw [Nat.add_comm]; exact Nat.add_le_add_left hle _))
  · -- `k + (w.exp − g)` digits of the scaled significand are dropped; `y.mag g = y.mag (n + 1) · 2^(n + 1 − g)`
    obtain ⟨hQ, _⟩ := hslow hf
    have hk : (n + 1 - w.exp).toNat = k := by rw [hne, Int.add_sub_cancel, Int.toNat_natCast]
    have hsg : (w.sc g < 0) ↔ w.s = true := (RF.sc_neg_iff w g).trans (and_iff_left hc)
    refine ⟨Or.inr (Int.le_trans hgw (Int.le_trans hf (Int.le_of_lt hyn))), ?_⟩
    rw [rndI_binade p rm _ _ (by rw [RF.natAbs_sc, hblm, hkd, Nat.add_assoc]) (Nat.le_add_right_of_le hk1),
      RF.natAbs_sc, sc_sign w g hc, hmag, roundQuot_scale, ← hk, ← hQ, RF.sc_eq_mag,
      RF.mag_shift y (n + 1) g hyn (Int.le_trans hgw hf1), toNat_sub_split (n + 1) w.exp g hgw hf1, hys]
    simp only [hsg]
    rfl

/-- a deterministic floating-point context that, on the grid `2^g`, rounds finite values to `p` digits
under mode `rm` with nothing else happening (no subnormal flush above the grid, no overflow) -/
def FloatLike (C : Ctx) (p : Nat) (rm : RM) (g : Int) : Prop :=
  C.det ∧ ∀ w : RF, w.okAt g →
    ∃ y fl, C.roundAtCore (.fin w) none false 0 = .ok ⟨.fin y, fl⟩ ∧ y.okAt g ∧ y.sc g = rndI p rm (w.sc g)

theorem floatLike_of_round {C : Ctx} {p : Nat} (hp : 1 ≤ p) {rm : RM} {g : Int} (hdet : C.det) (minN : Option Int)
    (hmin : ∀ m, minN = some m → m < g)
    (hC : ∀ w : RF, C.roundAtCore (.fin w) none false 0 =
      if w.c = 0 then .ok ⟨.fin ⟨w.s, 0, 0⟩, {}⟩
      else match w.round (some p) minN rm (some 0) 0 false with
        | .error e => .error e
        | .ok (xr, fl) => .ok ⟨.fin xr, fl⟩) :
    FloatLike C p rm g := by
  refine ⟨hdet, fun w hw => ?_⟩
  rw [hC]
  by_cases hc : w.c = 0
  · have hP : 0 < 2 ^ p := Nat.pow_pos (by decide)
    exact ⟨_, _, if_pos hc, Or.inl rfl,
      by rw [RF.sc_zero _ _ rfl, RF.sc_zero _ _ hc, rndI_small p rm 0 (by simpa using hP)]⟩
  · have hgw : g ≤ w.exp := hw.resolve_left hc
    have hcase : roundPos w.e p minN = w.e - p ∨ w.exp > roundPos w.e p minN := by
      cases minN with
      | none => exact Or.inl rfl
      | some m => have := hmin m rfl; simp only [roundPos]; omega
    obtain ⟨y, fl, hr, h1, h2⟩ := rf_roundAtCore_sc p hp rm w _ (minN.map ((p : Int) + ·)) g hc hgw (roundPos_ge _ _ _) hcase
    exact ⟨y, fl, by rw [if_neg hc, RF.round_float, hr], h1, h2⟩

/-- `MPFloatContext(p, rm)`: every grid -/
theorem mp_floatLike (p : Nat) (hp : 1 ≤ p) (rm : RM) (o : Opts) (g : Int) :
    FloatLike (.mp p rm (some 0) o) p rm g :=
  floatLike_of_round hp ⟨rfl, hp⟩ none (fun _ h => nomatch h) (fun _ => rfl)

/-- `MPSFloatContext(p, emin, rm)` (subnormals, no overflow): every grid at or above the least digit
`2^(emin − p + 1)` of the format -/
theorem mps_floatLike (p : Nat) (hp : 1 ≤ p) (emin : Int) (rm : RM) (o : Opts) (g : Int) (hg : emin - p + 1 ≤ g) :
    FloatLike (.mps p emin rm (some 0) o) p rm g :=
  floatLike_of_round hp ⟨rfl, hp⟩ (some (emin - p)) (fun m h => by cases h; omega) (fun _ => rfl)

theorem ap_of_agree {C : Ctx} {op : Op} {args : List NV} {r : Except Err Res} (hcv : args.map cvtReal = args)
    (h : OpAgree (opEvalFl C op args) r) : ap C op args = r.map (fun res => NV.fv res.v) := by
  unfold ap opEval
  rw [hcv]
  cases ho : opEvalFl C op args <;> cases r <;> rw [ho] at h <;> simp only [OpAgree] at h
  · rw [h]; rfl
  · exact congrArg Except.ok h.1

theorem fl_ap {C : Ctx} {p : Nat} {rm : RM} {g : Int} (hC : FloatLike C p rm g) {op : Op} {args : List NV} {w : RF}
    (hcv : args.map cvtReal = args)
    (hag : OpAgree (opEvalFl C op args) (C.roundAtCore (.fin w) none false 0)) (hw : w.okAt g) :
    ∃ y : RF, ap C op args = .ok (.fv (.fin y)) ∧ y.okAt g ∧ y.sc g = rndI p rm (w.sc g) := by
  obtain ⟨y, fl, hr, hyok, hysc⟩ := hC.2 w hw
  rw [hr] at hag
  exact ⟨y, by rw [ap_of_agree hcv hag]; rfl, hyok, hysc⟩

/-- on the grid of the smaller exponent, `a` is a `p`-digit significand times a power of two and `|b| < 2^p`
(when `b` has the larger exponent this is where `|a| ≥ |b|` is needed) -/
theorem grid_operands (p : Nat) (a b : RF) (ha : bitLength a.c ≤ p) (hb : bitLength b.c ≤ p)
    (hab : a.abs.ge b.abs = true) (g : Int) (hg : min a.exp b.exp = g) :
    (∃ a0 : Int, a.sc g = a0 * ((2 ^ (a.exp - g).toNat : Nat) : Int) ∧ a0.natAbs < 2 ^ p) ∧
      (b.sc g).natAbs < 2 ^ p := by
  have hPa : a.c < 2 ^ p := (bitLength_le_iff _ _).1 ha
  have hPb : b.c < 2 ^ p := (bitLength_le_iff _ _).1 hb
  refine ⟨⟨(if a.s = true then -1 else 1) * (a.c : Int), ?_, ?_⟩, ?_⟩
  · unfold RF.sc; rw [Int.natCast_pow, Int.mul_assoc]; rfl
  · rw [Int.natAbs_mul, Int.natAbs_natCast]; split <;> simpa using hPa
  · rw [RF.natAbs_sc]; unfold RF.mag
    by_cases hle : b.exp ≤ a.exp
    · have : (b.exp - g).toNat = 0 := by omega
      rw [this]; simpa using hPb
    · -- `b` sits above the grid: `|b| ≤ |a| = a.c`
      have ha' : a.okAt g := hg ▸ RF.okAt_min_left a b
      have hb' : b.okAt g := hg ▸ RF.okAt_min_right a b
      have h := (RF.ge_iff a.abs b.abs g (RF.abs_okAt ha') (RF.abs_okAt hb')).1 hab
      rw [RF.abs_sc, RF.abs_sc, RF.natAbs_sc, RF.natAbs_sc] at h
      unfold RF.mag at h
      rw [show (a.exp - g).toNat = 0 by omega, Nat.pow_zero, Nat.mul_one] at h
      omega

end Fpy.C20
