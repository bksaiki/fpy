/-
The front end against the definition/use pre-pass of the byte-code interpreter (property C15):
what the front end accepts the pre-pass accepts, in every mode without loop-target leaks
(`check_du`, which carries the checker's `terminated` flag along), and the pre-pass before F21 is
exactly the strict discipline (`du_strict`, `prepassLegacy_iff_strict`).
-/
import Fpy.Proof.Check
namespace Fpy.Skel

/-- simultaneous induction over statements and blocks: the two recursors as one conjunction, so that each
induction below is a single `apply Stmt.induct` (the obvious mutual structural recursion is slow to check) -/
theorem Stmt.induct {P : Stmt → Prop} {Q : Block → Prop}
    (assign : ∀ ts e, P (.assign ts e))
    (ite : ∀ c t e, Q t → Q e → P (.ite c t e))
    (if1 : ∀ c t, Q t → P (.if1 c t))
    («while» : ∀ c b, Q b → P (.while c b))
    («for» : ∀ ts it b, Q b → P (.for ts it b))
    («with» : ∀ e a b, Q b → P (.with e a b))
    (ret : ∀ e, P (.ret e)) (eff : ∀ e, P (.eff e)) (pass : P .pass)
    (nil : Q .nil) (cons : ∀ s b, P s → Q b → Q (.cons s b)) : (∀ {s}, P s) ∧ (∀ {b}, Q b) :=
  ⟨fun {s} => Stmt.rec (motive_1 := P) (motive_2 := Q) assign ite if1 «while» «for» «with» ret eff pass nil cons s,
   fun {b} => Block.rec (motive_1 := P) (motive_2 := Q) assign ite if1 «while» «for» «with» ret eff pass nil cons b⟩

theorem Scope.addAll_get (c : Scope) (ts : List Name) (x : Name) :
    (c.addAll ts) x = true ↔ x ∈ ts ∨ c x = true := by
  induction ts generalizing c with
  | nil => simp [Scope.addAll]
  | cons t ts ih =>
    simp only [Scope.addAll, ih, Scope.add, List.mem_cons, Bool.or_eq_true, beq_iff_eq]
    rw [or_left_comm, or_assoc]

theorem Scope.addOpt_eq (c : Scope) (a : Option Name) : c.addOpt a = c.addAll (asList a) := by
  cases a <;> rfl

theorem duE_var {c : Scope} {x : Name} : duE c (.var x) = .ok () ↔ c x = true := by
  rw [duE]; split <;> simp_all

theorem duE_op {c : Scope} {a b : Expr} : duE c (.op a b) = .ok () ↔ duE c a = .ok () ∧ duE c b = .ok () := by
  simp only [duE, bind_eq_ok, exists_unit]

theorem duE_comp {c : Scope} {ts : List Name} {it body : Expr} :
    duE c (.comp ts it body) = .ok () ↔ duE c it = .ok () ∧ duE (c.addAll ts) body = .ok () := by
  simp only [duE, bind_eq_ok, exists_unit]

section
variable {ft : Bool} {c c' : Scope}

theorem duS_assign {ts : List Name} {e : Expr} :
    duS ft c (.assign ts e) = .ok c' ↔ duE c e = .ok () ∧ c.addAll ts = c' := by
  simp only [duS, bind_eq_ok, pure_eq_ok, exists_unit]

theorem duS_if1 {cnd : Expr} {t : Block} :
    duS ft c (.if1 cnd t) = .ok c' ↔ duE c cnd = .ok () ∧ (∃ o, duB ft c t = .ok o) ∧ c = c' := by
  simp only [duS, bind_eq_ok, pure_eq_ok, exists_unit, exists_and_right]

theorem duS_ite {cnd : Expr} {t e : Block} : duS ft c (.ite cnd t e) = .ok c' ↔
    duE c cnd = .ok () ∧ ∃ o1, duB ft c t = .ok o1 ∧ ∃ o2, duB ft c e = .ok o2 ∧
      (if ft && (fallsB t != fallsB e) then (if fallsB t then o1 else o2) else o1.inter o2) = c' := by
  simp only [duS, bind_eq_ok, pure_eq_ok, exists_unit]

theorem duS_while {cnd : Expr} {b : Block} :
    duS ft c (.while cnd b) = .ok c' ↔ duE c cnd = .ok () ∧ (∃ o, duB ft c b = .ok o) ∧ c = c' := by
  simp only [duS, bind_eq_ok, pure_eq_ok, exists_unit, exists_and_right]

theorem duS_for {ts : List Name} {it : Expr} {b : Block} : duS ft c (.for ts it b) = .ok c' ↔
    duE c it = .ok () ∧ (∃ o, duB ft (c.addAll ts) b = .ok o) ∧ c = c' := by
  simp only [duS, bind_eq_ok, pure_eq_ok, exists_unit, exists_and_right]

theorem duS_with {e : Expr} {a : Option Name} {b : Block} : duS ft c (.with e a b) = .ok c' ↔
    duE c e = .ok () ∧ duB ft (c.addAll (asList a)) b = .ok c' := by
  simp only [duS, bind_eq_ok, exists_unit, Scope.addOpt_eq]

theorem duS_ret {e : Expr} : duS ft c (.ret e) = .ok c' ↔ duE c e = .ok () ∧ c = c' := by
  simp only [duS, bind_eq_ok, pure_eq_ok, exists_unit]

theorem duS_eff {e : Expr} : duS ft c (.eff e) = .ok c' ↔ duE c e = .ok () ∧ c = c' := by
  simp only [duS, bind_eq_ok, pure_eq_ok, exists_unit]

theorem duS_pass : duS ft c .pass = .ok c' ↔ c = c' := by
  simp only [duS, pure_eq_ok]

theorem duB_nil : duB ft c .nil = .ok c' ↔ c = c' := by
  simp only [duB, pure_eq_ok]

theorem duB_cons {s : Stmt} {b : Block} : duB ft c (.cons s b) = .ok c' ↔
    ∃ c1, duS ft c s = .ok c1 ∧ duB ft c1 b = .ok c' := by
  simp only [duB, bind_eq_ok]

end

theorem Env.merge_term_start {a b : Env} {t r : Bool} (ha : a.term = t) (hb : b.term = (t || r)) :
    (a.merge b).term = t := by
  rw [Env.merge_term, ha, hb]
  cases t <;> rfl

/-- the pre-pass context `c` covers the checker's environment: every name `env` marks as defined on all paths is a key
of `c`, whether `env` is terminated or not.  Unfolds to `env.Defs (c · = true)`, which is how `InvR.extendAll` uses
`Env.Defs.extendAll` -/
def InvR (env : Env) (c : Scope) : Prop := ∀ x, env.get x = some true → c x = true

theorem InvR.extendAll {env : Env} {c : Scope} (h : InvR env c) (ts : List Name) :
    InvR (env.extendAll ts) (c.addAll ts) :=
  fun x hx => (Scope.addAll_get c ts x).2 (Env.Defs.extendAll h ts x hx)

theorem duE_of_checkE : ∀ {e : Expr} {env : Env} {c : Scope}, checkE env e = .ok () →
    InvR env c → duE c e = .ok ()
  | .lit, _, _, _, _ => rfl
  | .var x, _, _, h, hs => duE_var.2 (hs x (checkE_var.1 h))
  | .op _ _, _, _, h, hs => duE_op.2 ((checkE_op.1 h).imp (duE_of_checkE · hs) (duE_of_checkE · hs))
  | .comp ts _ _, _, _, h, hs =>
    duE_comp.2 ((checkE_comp.1 h).imp (duE_of_checkE · hs) (duE_of_checkE · (hs.extendAll ts)))

theorem InvR.merge_start {a b : Env} {c : Scope} {r : Bool} (h : InvR a c) (hb : b.term = (a.term || r)) :
    InvR (a.merge b) c := by
  intro x hx
  obtain ⟨hl, h1, _⟩ := Env.merge_get.1 hx
  refine h x (h1 (hl.elim id fun hf => ?_))
  rw [hb] at hf
  exact (Bool.or_eq_false_iff.1 hf).1

/-- `_Env.merge` against `_visit_if`: which of the two branch environments are live (`dead0`: the environment
before the `if` was terminated, `ab`: returns are absorbed, `ft`/`fe`: the branch can fall through) decides which case
of `_visit_if` applies -/
theorem InvR.merge_ite {a b : Env} {c1 c2 : Scope} {dead0 ab ft fe : Bool} (h1 : InvR a c1) (h2 : InvR b c2)
    (ta : a.term = (dead0 || (ab && !ft))) (tb : b.term = (dead0 || (ab && !fe))) :
    InvR (a.merge b) (if ab && (ft != fe) then (if ft then c1 else c2) else c1.inter c2) := by
  intro x hx
  obtain ⟨hl, x1, x2⟩ := Env.merge_get.1 hx
  rw [ta] at x1
  rw [tb] at x2
  rw [ta, tb] at hl
  have y1 := fun h => h1 x (x1 h)
  have y2 := fun h => h2 x (x2 h)
  -- one operand is live, so the start was: `dead0 = false`
  obtain rfl : dead0 = false := hl.elim (fun h => (Bool.or_eq_false_iff.1 h).1) fun h => (Bool.or_eq_false_iff.1 h).1
  cases ab
  · -- nothing is absorbed: both are live
    exact Bool.and_eq_true_iff.2 ⟨y1 rfl, y2 rfl⟩
  · cases ft
    · cases fe
      · -- neither branch falls through: neither is live
        exact Bool.noConfusion (hl.elim id id)
      · exact y2 rfl
    · cases fe
      · exact y1 rfl
      · exact Bool.and_eq_true_iff.2 ⟨y1 rfl, y2 rfl⟩

/-- The `terminated` flag of what the checker returns; and, in every mode without loop-target leaks, what the checker
accepts passes the pre-pass whose `_visit_if` treats returning branches as the mode does, from any context that covers
the checker's.  One induction: the second conjunct needs the first of the sub-blocks, to tell which operand of an
`_Env.merge` is live. -/
theorem check_du (m : Mode) :
    (∀ {s : Stmt} {env env' : Env}, checkS m env s = .ok env' →
        env'.term = (env.term || (m.absorb && !fallsS s)) ∧
        (m.forLeak = false → ∀ c, InvR env c → ∃ c', duS m.absorb c s = .ok c' ∧ InvR env' c')) ∧
    (∀ {b : Block} {env env' : Env}, checkB m env b = .ok env' →
        env'.term = (env.term || (m.absorb && !fallsB b)) ∧
        (m.forLeak = false → ∀ c, InvR env c → ∃ c', duB m.absorb c b = .ok c' ∧ InvR env' c')) := by
  apply Stmt.induct
  case assign =>
    intro ts e env env' h
    obtain ⟨h1, rfl⟩ := checkS_assign.1 h
    exact ⟨by simp [fallsS], fun _ c hi => ⟨_, duS_assign.2 ⟨duE_of_checkE h1 hi, rfl⟩, hi.extendAll ts⟩⟩
  case if1 =>
    intro cnd t iht env env' h
    obtain ⟨h1, ift, h2, rfl⟩ := checkS_if1.1 h
    obtain ⟨ht, hd⟩ := iht h2
    refine ⟨by simp [Env.merge_term_start rfl ht, fallsS], fun hm c hi => ?_⟩
    obtain ⟨c1, hd, _⟩ := hd hm _ hi
    exact ⟨c, duS_if1.2 ⟨duE_of_checkE h1 hi, ⟨c1, hd⟩, rfl⟩, hi.merge_start ht⟩
  case ite =>
    intro cnd t e iht ihe env env' h
    obtain ⟨h1, ift, h2, iff, h3, rfl⟩ := checkS_ite.1 h
    obtain ⟨ht, hdt⟩ := iht h2
    obtain ⟨he, hde⟩ := ihe h3
    refine ⟨?_, fun hm c hi => ?_⟩
    · rw [Env.merge_term, ht, he, fallsS, ← Bool.or_and_distrib_left]
      cases m.absorb <;> simp
    · obtain ⟨c1, hd1, hi1⟩ := hdt hm _ hi
      obtain ⟨c2, hd2, hi2⟩ := hde hm _ hi
      exact ⟨_, duS_ite.2 ⟨duE_of_checkE h1 hi, c1, hd1, c2, hd2, rfl⟩, hi1.merge_ite hi2 ht he⟩
  case «while» =>
    intro cnd b ihb env env' h
    obtain ⟨body, h1, h2, rfl⟩ := checkS_while.1 h
    obtain ⟨hb, hd⟩ := ihb h1
    refine ⟨by simp [Env.merge_term_start rfl hb, fallsS], fun hm c hi => ?_⟩
    obtain ⟨c1, hd, _⟩ := hd hm _ hi
    have hi' : InvR (env.merge body) c := hi.merge_start hb
    exact ⟨c, duS_while.2 ⟨duE_of_checkE h2 hi', ⟨c1, hd⟩, rfl⟩, hi'⟩
  case «for» =>
    intro ts it b ihb env env' h
    obtain ⟨h1, body, h2, rfl⟩ := checkS_for.1 h
    obtain ⟨hb, hd⟩ := ihb h2
    rw [Env.extendAll_term] at hb
    have ha : (if m.forLeak then env.extendAll ts else env).term = env.term := by split <;> simp
    refine ⟨by simp [Env.merge_term_start ha hb, fallsS], fun hm c hi => ?_⟩
    obtain ⟨c1, hd, _⟩ := hd hm _ (hi.extendAll ts)
    refine ⟨c, duS_for.2 ⟨duE_of_checkE h1 hi, ⟨c1, hd⟩, rfl⟩, ?_⟩
    rw [hm]
    exact hi.merge_start hb
  case «with» =>
    intro e a b ihb env env' h
    obtain ⟨h1, h2⟩ := checkS_with.1 h
    obtain ⟨hb, hd⟩ := ihb h2
    refine ⟨by rw [hb, Env.extendAll_term, fallsS], fun hm c hi => ?_⟩
    obtain ⟨c1, hd, hi1⟩ := hd hm _ (hi.extendAll (asList a))
    exact ⟨c1, duS_with.2 ⟨duE_of_checkE h1 hi, hd⟩, hi1⟩
  case ret =>
    intro e env env' h
    obtain ⟨h1, rfl⟩ := checkS_ret.1 h
    refine ⟨by cases m.absorb <;> simp [Env.empty, fallsS], fun _ c hi => ⟨c, duS_ret.2 ⟨duE_of_checkE h1 hi, rfl⟩, ?_⟩⟩
    split
    · exact fun x hx => nomatch hx
    · exact hi
  case eff =>
    intro e env env' h
    obtain ⟨h1, rfl⟩ := checkS_eff.1 h
    exact ⟨by simp [fallsS], fun _ c hi => ⟨c, duS_eff.2 ⟨duE_of_checkE h1 hi, rfl⟩, hi⟩⟩
  case pass =>
    intro env env' h
    cases checkS_pass.1 h
    exact ⟨by simp [fallsS], fun _ c hi => ⟨c, duS_pass.2 rfl, hi⟩⟩
  case nil =>
    intro env env' h
    cases checkB_nil.1 h
    exact ⟨by simp [fallsB], fun _ c hi => ⟨c, duB_nil.2 rfl, hi⟩⟩
  case cons =>
    intro s b ihs ihb env env' h
    obtain ⟨env1, h1, h2⟩ := checkB_cons.1 h
    obtain ⟨hs, hds⟩ := ihs h1
    obtain ⟨hb, hdb⟩ := ihb h2
    refine ⟨by rw [hb, hs, fallsB, Bool.or_assoc, ← Bool.and_or_distrib_left, Bool.not_and], fun hm c hi => ?_⟩
    obtain ⟨c1, hd1, hi1⟩ := hds hm _ hi
    obtain ⟨c2, hd2, hi2⟩ := hdb hm _ hi1
    exact ⟨c2, duB_cons.2 ⟨c1, hd1, hd2⟩, hi2⟩

theorem term_preserved_S : ∀ (m : Mode) (s : Stmt) (env env' : Env),
    checkS m env s = .ok env' → env.term = true → env'.term = true :=
  fun m _ _ _ h ht => by rw [((check_du m).1 h).1, ht]; rfl

theorem term_iff_falls_S : ∀ (s : Stmt) (env env' : Env),
    checkS Mode.real env s = .ok env' → env.term = false → env'.term = !fallsS s :=
  fun _ _ _ h hl => by rw [((check_du _).1 h).1, hl]; rfl

/-- `InvR` of a live (not terminated) environment, the form it takes under `Mode.strict`, where nothing is ever
terminated -/
def InvC (env : Env) (c : Scope) : Prop :=
  env.term = false ∧ ∀ x, env.get x = some true → c x = true

/-- the strict discipline (loop targets do not leak, a `return` is not absorbed) implies the pre-pass
that intersects the two branches of an `if` whatever they do -/
theorem strict_duS : ∀ (s : Stmt) (env env' : Env) (c : Scope),
    checkS Mode.strict env s = .ok env' → InvC env c → ∃ c', duS false c s = .ok c' ∧ InvC env' c' :=
  fun _ _ _ _ h hi =>
    have ⟨ht, hd⟩ := (check_du Mode.strict).1 h
    (hd rfl _ hi.2).imp fun _ h' => ⟨h'.1, by rw [ht, hi.1]; rfl, h'.2⟩

theorem real_duS : ∀ (s : Stmt) (env env' : Env) (c : Scope),
    checkS Mode.real env s = .ok env' → InvR env c → ∃ c', duS true c s = .ok c' ∧ InvR env' c' :=
  fun _ _ _ c h => ((check_du Mode.real).1 h).2 rfl c

/-- the converse of `InvR`, for the direction pre-pass ⇒ strict checker: `env` is live and marks as defined on all
paths every key of the pre-pass context `c` -/
def InvD (env : Env) (c : Scope) : Prop :=
  env.term = false ∧ ∀ x, c x = true → env.get x = some true

theorem Scope.addAll_sub {env : Env} {c : Scope} (h : ∀ x, c x = true → env.get x = some true)
    (ts : List Name) (x : Name) (hx : (c.addAll ts) x = true) : (env.extendAll ts).get x = some true :=
  (Env.extendAll_get env ts x).2 (((Scope.addAll_get c ts x).1 hx).imp_right (h x))

theorem InvD.extendAll {env : Env} {c : Scope} (h : InvD env c) (ts : List Name) :
    InvD (env.extendAll ts) (c.addAll ts) :=
  ⟨by rw [Env.extendAll_term, h.1], Scope.addAll_sub h.2 ts⟩

theorem InvD.merge {a b : Env} {c c1 c2 : Scope} (ha : InvD a c1) (hb : InvD b c2)
    (hc : ∀ x, c x = true → c1 x = true ∧ c2 x = true) : InvD (a.merge b) c :=
  ⟨by rw [Env.merge_term, ha.1]; rfl,
    fun x hx => Env.merge_both ha.1 (ha.2 x (hc x hx).1) (hb.2 x (hc x hx).2)⟩

theorem checkE_of_duE : ∀ {e : Expr} {env : Env} {c : Scope}, duE c e = .ok () →
    (∀ x, c x = true → env.get x = some true) → checkE env e = .ok ()
  | .lit, _, _, _, _ => rfl
  | .var x, _, _, h, hs => checkE_var.2 (hs x (duE_var.1 h))
  | .op _ _, _, _, h, hs => checkE_op.2 ((duE_op.1 h).imp (checkE_of_duE · hs) (checkE_of_duE · hs))
  | .comp ts _ _, _, _, h, hs =>
    checkE_comp.2 ((duE_comp.1 h).imp (checkE_of_duE · hs) (checkE_of_duE · (Scope.addAll_sub hs ts)))

/-- The pre-pass's context only grows (whichever `_visit_if`); and when `_visit_if` intersects the two branches
whatever they do (`ft = false`), what the pre-pass accepts the strict checker accepts, from any live environment that
covers the context.  One induction: the second conjunct needs the first of the body of an `if` without `else` or of a
loop, where `_Env.merge` keeps what both the old environment and the body's define. -/
theorem du_strict (ft : Bool) :
    (∀ {s : Stmt} {c c' : Scope}, duS ft c s = .ok c' →
        (∀ x, c x = true → c' x = true) ∧
        (ft = false → ∀ env, InvD env c → ∃ env', checkS Mode.strict env s = .ok env' ∧ InvD env' c')) ∧
    (∀ {b : Block} {c c' : Scope}, duB ft c b = .ok c' →
        (∀ x, c x = true → c' x = true) ∧
        (ft = false → ∀ env, InvD env c → ∃ env', checkB Mode.strict env b = .ok env' ∧ InvD env' c')) := by
  apply Stmt.induct
  case assign =>
    intro ts e c c' h
    obtain ⟨h1, rfl⟩ := duS_assign.1 h
    exact ⟨fun x hx => (Scope.addAll_get c ts x).2 (.inr hx),
      fun _ env hi => ⟨_, checkS_assign.2 ⟨checkE_of_duE h1 hi.2, rfl⟩, hi.extendAll ts⟩⟩
  case if1 =>
    intro cnd t iht c c' h
    obtain ⟨h1, ⟨c1, h2⟩, rfl⟩ := duS_if1.1 h
    obtain ⟨hm, hs⟩ := iht h2
    refine ⟨fun _ hx => hx, fun hf env hi => ?_⟩
    obtain ⟨ift, hc, hi1⟩ := hs hf _ hi
    exact ⟨_, checkS_if1.2 ⟨checkE_of_duE h1 hi.2, ift, hc, rfl⟩, hi.merge hi1 fun x hx => ⟨hx, hm x hx⟩⟩
  case ite =>
    intro cnd t e iht ihe c c' h
    obtain ⟨h1, o1, h2, o2, h3, rfl⟩ := duS_ite.1 h
    obtain ⟨hm1, hs1⟩ := iht h2
    obtain ⟨hm2, hs2⟩ := ihe h3
    refine ⟨fun x hx => ?_, fun hf env hi => ?_⟩
    · split
      · split
        · exact hm1 x hx
        · exact hm2 x hx
      · exact Bool.and_eq_true_iff.2 ⟨hm1 x hx, hm2 x hx⟩
    · subst hf
      obtain ⟨ift, hc1, hi1⟩ := hs1 rfl _ hi
      obtain ⟨iff, hc2, hi2⟩ := hs2 rfl _ hi
      exact ⟨_, checkS_ite.2 ⟨checkE_of_duE h1 hi.2, ift, hc1, iff, hc2, rfl⟩,
        hi1.merge hi2 fun _ => Bool.and_eq_true_iff.1⟩
  case «while» =>
    intro cnd b ihb c c' h
    obtain ⟨h1, ⟨c1, h2⟩, rfl⟩ := duS_while.1 h
    obtain ⟨hm, hs⟩ := ihb h2
    refine ⟨fun _ hx => hx, fun hf env hi => ?_⟩
    obtain ⟨body, hc, hi1⟩ := hs hf _ hi
    have hi' : InvD (env.merge body) c := hi.merge hi1 fun x hx => ⟨hx, hm x hx⟩
    exact ⟨_, checkS_while.2 ⟨body, hc, checkE_of_duE h1 hi'.2, rfl⟩, hi'⟩
  case «for» =>
    intro ts it b ihb c c' h
    obtain ⟨h1, ⟨c1, h2⟩, rfl⟩ := duS_for.1 h
    obtain ⟨hm, hs⟩ := ihb h2
    refine ⟨fun _ hx => hx, fun hf env hi => ?_⟩
    obtain ⟨body, hc, hi1⟩ := hs hf _ (hi.extendAll ts)
    exact ⟨_, checkS_for.2 ⟨checkE_of_duE h1 hi.2, body, hc, rfl⟩,
      hi.merge hi1 fun x hx => ⟨hx, hm x ((Scope.addAll_get c ts x).2 (.inr hx))⟩⟩
  case «with» =>
    intro e a b ihb c c' h
    obtain ⟨h1, h2⟩ := duS_with.1 h
    obtain ⟨hm, hs⟩ := ihb h2
    refine ⟨fun x hx => hm x ((Scope.addAll_get c _ x).2 (.inr hx)), fun hf env hi => ?_⟩
    obtain ⟨env', hc, hi1⟩ := hs hf _ (hi.extendAll (asList a))
    exact ⟨env', checkS_with.2 ⟨checkE_of_duE h1 hi.2, hc⟩, hi1⟩
  case ret =>
    intro e c c' h
    obtain ⟨h1, rfl⟩ := duS_ret.1 h
    exact ⟨fun _ hx => hx, fun _ env hi => ⟨env, checkS_ret.2 ⟨checkE_of_duE h1 hi.2, rfl⟩, hi⟩⟩
  case eff =>
    intro e c c' h
    obtain ⟨h1, rfl⟩ := duS_eff.1 h
    exact ⟨fun _ hx => hx, fun _ env hi => ⟨env, checkS_eff.2 ⟨checkE_of_duE h1 hi.2, rfl⟩, hi⟩⟩
  case pass =>
    intro c c' h
    cases duS_pass.1 h
    exact ⟨fun _ hx => hx, fun _ env hi => ⟨env, checkS_pass.2 rfl, hi⟩⟩
  case nil =>
    intro c c' h
    cases duB_nil.1 h
    exact ⟨fun _ hx => hx, fun _ env hi => ⟨env, checkB_nil.2 rfl, hi⟩⟩
  case cons =>
    intro s b ihs ihb c c' h
    obtain ⟨c1, h1, h2⟩ := duB_cons.1 h
    obtain ⟨hm1, hs1⟩ := ihs h1
    obtain ⟨hm2, hs2⟩ := ihb h2
    refine ⟨fun x hx => hm2 x (hm1 x hx), fun hf env hi => ?_⟩
    obtain ⟨env1, hc1, hi1⟩ := hs1 hf _ hi
    obtain ⟨env', hc2, hi2⟩ := hs2 hf _ hi1
    exact ⟨env', checkB_cons.2 ⟨env1, hc1, hc2⟩, hi2⟩

theorem du_mono_S : ∀ (s : Stmt) (c c' : Scope), duS false c s = .ok c' → ∀ x, c x = true → c' x = true :=
  fun _ _ _ h => ((du_strict false).1 h).1

theorem du_strict_S : ∀ (s : Stmt) (env : Env) (c c' : Scope), duS false c s = .ok c' → InvD env c →
    ∃ env', checkS Mode.strict env s = .ok env' ∧ InvD env' c' :=
  fun _ env _ _ h => ((du_strict false).1 h).2 rfl env

theorem InvR_init (args : List Name) : InvR (Env.init args) (Scope.ofList args) :=
  InvR.extendAll (env := Env.empty false) (fun _ hx => nomatch hx) args

theorem InvD_init (args : List Name) : InvD (Env.init args) (Scope.ofList args) :=
  InvD.extendAll (env := Env.empty false) (c := fun _ => false) ⟨rfl, fun _ hx => nomatch hx⟩ args

theorem prepassWith_eq_ok {ft : Bool} {p : Func} :
    prepassWith ft p = .ok () ↔ ∃ c', duB ft (Scope.ofList p.args) p.body = .ok c' := by
  unfold prepassWith
  split <;> simp_all

theorem prepassLegacy_iff_strict (p : Func) :
    prepassLegacy p = .ok () ↔ ∃ env', checkB Mode.strict (Env.init p.args) p.body = .ok env' := by
  rw [prepassLegacy, prepassWith_eq_ok]
  exact ⟨fun ⟨c', hd⟩ => (((du_strict false).2 hd).2 rfl _ (InvD_init p.args)).imp fun _ h => h.1,
    fun ⟨env', hc⟩ => (((check_du Mode.strict).2 hc).2 rfl _ (InvR_init p.args)).imp fun _ h => h.1⟩

theorem frontend_strict_iff (p : Func) :
    frontend Mode.strict p = .ok () ↔ prepassLegacy p = .ok () ∧ reachCheck p = .ok () := by
  rw [prepassLegacy_iff_strict, frontend_eq_ok]

theorem runWith_ok {ft z : Bool} {fuel : Nat} {p : Func} {ch : List Nat} (h : prepassWith ft p = .ok ()) :
    runWith ft z fuel p ch = call z fuel p ch := by
  rw [runWith, h]

theorem runWith_error {ft z : Bool} {fuel : Nat} {p : Func} {ch : List Nat} {x : Name}
    (h : prepassWith ft p = .error x) : runWith ft z fuel p ch = .unbound x := by
  rw [runWith, h]

end Fpy.Skel
