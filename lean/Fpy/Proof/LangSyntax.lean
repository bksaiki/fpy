/-
Syntactic facts about the simulation checker: renaming the reads of a program by `ρ` yields a program the checker
accepts against the original under any correspondence containing `(ρ z, z)` for the variables read; renaming by the
identity is the identity.  They turn the checker-style hypotheses of the rewrite schemas into the familiar syntactic
ones (`x ∉ readsB rest`, `x ∉ bvB ss`, …): a program run in two environments that agree on the names it reads
(`evalE_congr_env … returns_congr_env`), a block after the substitution of copy propagation (`simB_subst`).
-/
import Fpy.Proof.LangSim
namespace Fpy.Xform
open Fpy Fpy.Lang

/-- By the recursors of `Expr` and `Stmt`, as `simE_ren` below: `renE id` of a constructor is that constructor at the
renamed parts by computation, so each case is a congruence.  `(… :)` elaborates the congruence before it meets the goal,
against which `congr` would take `renE id` for the function. -/
theorem renE_id : ∀ (e : Expr), renE id e = e := by
  apply Expr.rec (motive_1 := fun e => renE id e = e) (motive_2 := fun es => renEs id es = es)
    (motive_3 := fun o => renO id o = o)
  case var | bool | num | ctxLit | nil | none => intros; rfl
  case op | pred | cmp | call => intro _ _ ih; exact congrArg _ ih
  case not | len | enumerate | sum | any | all | and | or | tuple | list | range | zip | min | max | some =>
    intro _ ih; exact congrArg _ ih
  case index | roundAt | cons => intro _ _ ih1 ih2; exact (congr (congrArg _ ih1) ih2 :)
  case comp => intro ps _ _ ih1 ih2; exact (congr (congrArg (Expr.comp ps) ih1) ih2 :)
  case ite | slice => intro _ _ _ ih1 ih2 ih3; exact (congr (congr (congrArg _ ih1) ih2) ih3 :)

theorem renEs_id : ∀ (es : List Expr), renEs id es = es
  | [] => rfl
  | e :: es => (congr (congrArg List.cons (renE_id e)) (renEs_id es) :)

theorem renO_id : ∀ (o : Option Expr), renO id o = o
  | none => rfl
  | some e => congrArg some (renE_id e)

theorem renS_id : ∀ (s : Stmt), renS id s = s := by
  apply Stmt.rec (motive_1 := fun s => renS id s = s) (motive_2 := fun ss => renB id ss = ss)
  case pass | nil => rfl
  case assign | assert | effect | ret => intros; exact congrArg _ (renE_id _)
  case iassign => intro x is e; exact (congr (congrArg _ (renEs_id is)) (renE_id e) :)
  case if1 | «while» | «for» => intros; rename_i ih; exact (congr (congrArg _ (renE_id _)) ih :)
  case «with» => intro ce nm _ ih; exact (congr (congrArg (Stmt.with · nm) (renE_id ce)) ih :)
  case ifte => intro c _ _ iht ihf; exact (congr (congr (congrArg _ (renE_id c)) iht) ihf :)
  case cons => intro _ _ ih1 ih2; exact (congr (congrArg _ ih1) ih2 :)

theorem renB_id : ∀ (ss : List Stmt), renB id ss = ss
  | [] => rfl
  | s :: ss => (congr (congrArg List.cons (renS_id s)) (renB_id ss) :)

theorem and_tt {a b : Bool} (ha : a = true) (hb : b = true) : (a && b) = true := by rw [ha, hb]; rfl

mutual
theorem simP_self (R : VRel) : ∀ (p : Pat), (∀ w ∈ bvP p, R.bindOK w w = true) → simP R p p = true
  | .var x, h => h x (List.mem_singleton.2 rfl)
  | .wild, _ => rfl
  | .tup ps, h => simPs_self R ps h
theorem simPs_self (R : VRel) : ∀ (ps : List Pat), (∀ w ∈ bvPs ps, R.bindOK w w = true) → simPs R ps ps = true
  | [], _ => rfl
  | p :: ps, h => and_tt (simP_self R p (memL h)) (simPs_self R ps (memR h))
end

/-- By the recursor of `Expr` (motives for expressions, lists and optional expressions): mutual structural recursion
on this nested type is slow to check. -/
theorem simE_ren (R : VRel) (ρ : String → String) (e : Expr) :
    (∀ z ∈ readsE e, R.has (ρ z) z = true) → (∀ w ∈ bvE e, R.bindOK w w = true) → simE R (renE ρ e) e = true := by
  apply Expr.rec
    (motive_1 := fun e => (∀ z ∈ readsE e, R.has (ρ z) z = true) → (∀ w ∈ bvE e, R.bindOK w w = true) →
      simE R (renE ρ e) e = true)
    (motive_2 := fun es => (∀ z ∈ readsEs es, R.has (ρ z) z = true) → (∀ w ∈ bvEs es, R.bindOK w w = true) →
      simEs R (renEs ρ es) es = true)
    (motive_3 := fun o => (∀ z ∈ readsO o, R.has (ρ z) z = true) → (∀ w ∈ bvO o, R.bindOK w w = true) →
      simO R (renO ρ o) o = true)
  case var => intro x h1 _; exact h1 x (List.mem_singleton.2 rfl)
  case bool => intro b _ _; exact beq_self_eq_true b
  case num | ctxLit => intro _ _ _; exact decide_eq_true rfl
  case op | cmp | call | pred => intro _ _ ih h1 h2; exact and_tt (decide_eq_true rfl) (ih h1 h2)
  case not | len | enumerate | sum | any | all | and | or | tuple | list | range | zip | min | max | some =>
    intro _ ih h1 h2; exact ih h1 h2
  case ite =>
    intro c t f ihc iht ihf h1 h2
    exact and_tt (and_tt (ihc (memL (memL h1)) (memL (memL h2))) (iht (memR (memL h1)) (memR (memL h2))))
      (ihf (memR h1) (memR h2))
  case index | roundAt => intro a i iha ihi h1 h2; exact and_tt (iha (memL h1) (memL h2)) (ihi (memR h1) (memR h2))
  case slice =>
    intro a s t iha ihs iht h1 h2
    exact and_tt (and_tt (iha (memL (memL h1)) (memL (memL h2))) (ihs (memR (memL h1)) (memR (memL h2))))
      (iht (memR h1) (memR h2))
  case comp =>
    intro ps its elt ihi ihe h1 h2
    exact and_tt (and_tt (simPs_self R ps (memL (memL h2))) (ihi (memL h1) (memR (memL h2)))) (ihe (memR h1) (memR h2))
  case nil | none => intro _ _; rfl
  case cons => intro e es ihe ihes h1 h2; exact and_tt (ihe (memL h1) (memL h2)) (ihes (memR h1) (memR h2))

theorem simEs_ren (R : VRel) (ρ : String → String) : ∀ (es : List Expr),
    (∀ z ∈ readsEs es, R.has (ρ z) z = true) → (∀ w ∈ bvEs es, R.bindOK w w = true) → simEs R (renEs ρ es) es = true
  | [], _, _ => rfl
  | e :: es, h1, h2 => and_tt (simE_ren R ρ e (memL h1) (memL h2)) (simEs_ren R ρ es (memR h1) (memR h2))

theorem simO_ren (R : VRel) (ρ : String → String) : ∀ (o : Option Expr),
    (∀ z ∈ readsO o, R.has (ρ z) z = true) → (∀ w ∈ bvO o, R.bindOK w w = true) → simO R (renO ρ o) o = true
  | none, _, _ => rfl
  | some e, h1, h2 => simE_ren R ρ e h1 h2

/-- the second hypothesis (`R.has z z` on the reads) is needed only for the target of `x[i] = e`, which `renS`
leaves unrenamed (as `copy_propagate.py` leaves it) and the checker compares by `R.has x x` -/
theorem simS_ren (R : VRel) (ρ : String → String) : ∀ (s : Stmt),
    (∀ z ∈ readsS s, R.has (ρ z) z = true) → (∀ z ∈ readsS s, R.has z z = true) →
    (∀ w ∈ bvS s, R.bindOK w w = true) → simS R (renS ρ s) s = true := by
  intro s
  apply Stmt.rec
    (motive_1 := fun s => (∀ z ∈ readsS s, R.has (ρ z) z = true) → (∀ z ∈ readsS s, R.has z z = true) →
      (∀ w ∈ bvS s, R.bindOK w w = true) → simS R (renS ρ s) s = true)
    (motive_2 := fun ss => (∀ z ∈ readsB ss, R.has (ρ z) z = true) → (∀ z ∈ readsB ss, R.has z z = true) →
      (∀ w ∈ bvB ss, R.bindOK w w = true) → simB R (renB ρ ss) ss = true)
  case assign => intro p e h1 _ h2; exact and_tt (simP_self R p (memL h2)) (simE_ren R ρ e h1 (memR h2))
  case iassign =>
    intro x is e h1 h1' h2
    have h1 : ∀ z ∈ readsEs is ++ readsE e, R.has (ρ z) z = true := fun z hz => h1 z (List.mem_cons_of_mem _ hz)
    exact and_tt (and_tt (h1' x List.mem_cons_self) (simEs_ren R ρ is (memL h1) (memL h2)))
      (simE_ren R ρ e (memR h1) (memR h2))
  case ifte =>
    intro c t f iht ihf h1 h1' h2
    exact and_tt (and_tt (simE_ren R ρ c (memL (memL h1)) (memL (memL h2)))
        (iht (memR (memL h1)) (memR (memL h1')) (memR (memL h2))))
      (ihf (memR h1) (memR h1') (memR h2))
  case if1 | «while» =>
    intro c b ih h1 h1' h2
    exact and_tt (simE_ren R ρ c (memL h1) (memL h2)) (ih (memR h1) (memR h1') (memR h2))
  case «for» =>
    intro p it b ih h1 h1' h2
    exact and_tt (and_tt (simP_self R p (memL (memL h2))) (simE_ren R ρ it (memL h1) (memR (memL h2))))
      (ih (memR h1) (memR h1') (memR h2))
  case «with» =>
    intro ce nm b ih h1 h1' h2
    have hn : simName R nm nm = true := by
      cases nm with
      | none => rfl
      | some x => exact h2 x (List.mem_append_left _ (List.mem_append_left _ (List.mem_singleton.2 rfl)))
    exact and_tt (and_tt (simE_ren R ρ ce (memL h1) (memR (memL h2))) hn) (ih (memR h1) (memR h1') (memR h2))
  case assert | effect | ret => intro e h1 _ h2; exact simE_ren R ρ e h1 h2
  case pass | nil => intro _ _ _; rfl
  case cons =>
    intro s ss ihs ihss h1 h1' h2
    exact and_tt (ihs (memL h1) (memL h1') (memL h2)) (ihss (memR h1) (memR h1') (memR h2))

theorem simB_ren (R : VRel) (ρ : String → String) : ∀ (ss : List Stmt),
    (∀ z ∈ readsB ss, R.has (ρ z) z = true) → (∀ z ∈ readsB ss, R.has z z = true) →
    (∀ w ∈ bvB ss, R.bindOK w w = true) → simB R (renB ρ ss) ss = true
  | [], _, _, _ => rfl
  | s :: ss, h1, h1', h2 =>
    and_tt (simS_ren R ρ s (memL h1) (memL h1') (memL h2)) (simB_ren R ρ ss (memR h1) (memR h1') (memR h2))

theorem idRel_bindOK (xs : List String) (w : String) : (idRel xs).bindOK w w = true := by
  unfold VRel.bindOK idRel
  rw [List.all_eq_true]
  intro p hp
  rw [List.mem_map] at hp
  obtain ⟨x, _, rfl⟩ := hp
  exact beq_self_eq_true _

theorem VRel.bindOK_append (R S : VRel) (a b : String) : VRel.bindOK (R ++ S) a b = (R.bindOK a b && S.bindOK a b) := by
  unfold VRel.bindOK; rw [List.all_append]

theorem idRel_has_self {xs l : List String} (h : ∀ z ∈ l, z ∈ xs) : ∀ z ∈ l, (idRel xs).has z z = true :=
  fun z hz => (idRel_has xs z z).2 ⟨rfl, h z hz⟩

theorem simB_idRel_of_reads {xs : List String} {ss : List Stmt} (h : ∀ z ∈ readsB ss, z ∈ xs) :
    simB (idRel xs) ss ss = true := by
  have := simB_ren (idRel xs) id ss (idRel_has_self h) (idRel_has_self h) (fun w _ => idRel_bindOK xs w)
  rwa [renB_id] at this

theorem simE_idRel_of_reads {xs : List String} {e : Expr} (h : ∀ z ∈ readsE e, z ∈ xs) :
    simE (idRel xs) e e = true := by
  have := simE_ren (idRel xs) id e (idRel_has_self h) (fun w _ => idRel_bindOK xs w)
  rwa [renE_id] at this

theorem simEs_idRel_of_reads {xs : List String} {es : List Expr} (h : ∀ z ∈ readsEs es, z ∈ xs) :
    simEs (idRel xs) es es = true := by
  have := simEs_ren (idRel xs) id es (idRel_has_self h) (fun w _ => idRel_bindOK xs w)
  rwa [renEs_id] at this

theorem evalE_congr_env (Φ : Funs) (n : Nat) {σ1 σ2 : Env} (μ : Heap) (C : Ctx) (e : Expr)
    (h : ∀ z ∈ readsE e, σ1.get? z = σ2.get? z) : evalE Φ n σ1 μ C e = evalE Φ n σ2 μ C e :=
  sim_evalE Φ _ n (inv_idRel.2 h) μ C (simE_idRel_of_reads (xs := readsE e) fun _ hz => hz)

theorem evalB_congr_env (Φ : Funs) (n : Nat) {σ1 σ2 : Env} (μ : Heap) (C : Ctx) (ss : List Stmt) (xs : List String)
    (hxs : ∀ z ∈ readsB ss, z ∈ xs) (h : ∀ z ∈ xs, σ1.get? z = σ2.get? z) :
    RelM (OutRel (idRel xs)) (evalB Φ n σ1 μ C ss) (evalB Φ n σ2 μ C ss) :=
  sim_evalB Φ _ n (inv_idRel.2 h) μ C (simB_idRel_of_reads hxs)

theorem returns_congr_env (Φ : Funs) {σ1 σ2 : Env} (μ : Heap) (C : Ctx) (ss : List Stmt)
    (h : ∀ z ∈ readsB ss, σ1.get? z = σ2.get? z) (v : Val) (μ' : Heap) :
    Returns Φ σ1 μ C ss v μ' ↔ Returns Φ σ2 μ C ss v μ' :=
  sim_returns (inv_idRel.2 h) (simB_idRel_of_reads (fun _ hz => hz)) μ C v μ'

theorem cpRel_has_sub1 {xs : List String} (x y : String) {z : String} (hz : z ∈ xs) :
    (cpRel xs x y).has (sub1 x y z) z = true := by
  unfold sub1
  by_cases hzx : z = x
  · rw [if_pos hzx, hzx]; exact cpRel_has.2 (.inr ⟨rfl, rfl⟩)
  · rw [if_neg hzx]; exact cpRel_has.2 (.inl ⟨rfl, hz⟩)

theorem cpRel_bindOK (xs : List String) {x y w : String} (hx : x ≠ w) (hy : y ≠ w) : (cpRel xs x y).bindOK w w = true := by
  unfold cpRel
  rw [VRel.bindOK_append, idRel_bindOK, Bool.true_and]
  unfold VRel.bindOK
  simp only [List.all_cons, List.all_nil, Bool.and_true, beq_eq_false_iff_ne.2 hx, beq_eq_false_iff_ne.2 hy]
  rfl

theorem simE_subst {x y : String} {e : Expr} (hx : x ∉ bvE e) (hy : y ∉ bvE e) :
    simE (cpRel (readsE e) x y) (renE (sub1 x y) e) e = true :=
  simE_ren _ _ e (fun _ hz => cpRel_has_sub1 x y hz)
    (fun _ hw => cpRel_bindOK _ (fun h => hx (h ▸ hw)) (fun h => hy (h ▸ hw)))

theorem simB_subst {x y : String} {ss : List Stmt} (hx : x ∉ bvB ss) (hy : y ∉ bvB ss) :
    simB (cpRel (readsB ss) x y) (substB x y ss) ss = true :=
  simB_ren _ _ ss (fun _ hz => cpRel_has_sub1 x y hz) (fun _ hz => cpRel_has.2 (.inl ⟨rfl, hz⟩))
    (fun _ hw => cpRel_bindOK _ (fun h => hx (h ▸ hw)) (fun h => hy (h ▸ hw)))

end Fpy.Xform
