/-
`for` unrolling: the three blocks `fpy2/transform/for_unroll.py` emits (PEEL with unknown length, statically known
length, STRICT with unknown length), and what their soundness theorems (Props/C08.lean) share.  `Covers … i K`: the
tail `K` of an emitted block answers the element loop from index `i` on; it is built from the end of the block by
`Covers.done` (the rest of the caller), `Covers.loop` (a main loop in front) and `Covers.copies` (peeled copies in
front).  Around it: the frame that evaluates the iterable on both sides (`for_unroll_frame`), the control preludes
(`prelude_eval`, `strict_prelude_eval`).
-/
import Fpy.Proof.LangIdx
namespace Fpy.Xform
open Fpy Fpy.Lang

/-- the freshness facts `Covers.loop` asks of `t`, the index names `I` of one loop and the control names `V`, from
those of the list `L` of all generated names -/
theorem fresh_of_sublist {L I V S B : List String} {t : String} (hnd : L.Nodup) (hfresh : ∀ z ∈ L, z ∉ S ∧ z ∉ B)
    (hsub : (t :: (V ++ I)).Sublist L) :
    (I.Nodup ∧ (∀ z ∈ I, z ∉ S ∧ z ≠ t) ∧ (∀ z ∈ t :: I, z ∉ B)) ∧ (∀ z ∈ V, z ∉ I ++ B) := by
  have h := List.nodup_cons.1 (hnd.sublist hsub)
  have h2 := List.nodup_append.1 h.2
  have hL : ∀ z ∈ t :: (V ++ I), z ∈ L := fun z hz => hsub.subset hz
  refine ⟨⟨h2.2.1, fun z hz => ⟨(hfresh z (hL z (by simp [hz]))).1, fun e => h.1 (e ▸ List.mem_append_right _ hz)⟩,
    fun z hz => (hfresh z (hL z ?_)).2⟩, fun z hz hin => ?_⟩
  · rcases List.mem_cons.1 hz with rfl | hz
    · exact List.mem_cons_self
    · exact List.mem_cons_of_mem _ (List.mem_append_right _ hz)
  · rcases List.mem_append.1 hin with hi | hb
    · exact h2.2.2 z hz z hi rfl
    · exact (hfresh z (hL z (by simp [hz]))).2 hb

/-- what a tail `K` of an emitted block has to do: started in ANY right state that stands in `Jinv` to a state of
the element loop at index `i`, and that still holds the control values of `σ0` on the names `V` (the length, the
split point: whatever the later `range` bounds read), it answers the rest of the loop followed by `rest`. -/
def Covers (Φ : Funs) (C : Ctx) (S : List String) (r N : Nat) (t : String) (p : Pat) (body rest : List Stmt)
    (V : List String) (σ0 : Env) (i : Nat) (K : List Stmt) : Prop :=
  ∀ π σ1 m1 σ2 m2, JinvK S π [] r N t V σ0 (fun _ _ => True) σ1 m1 σ2 m2 →
    FinRel S (forLoopω Φ σ1 m1 C r i p body >>= thenB Φ C rest) (evalBω Φ σ2 m2 C K)

section Covers
variable {Φ : Funs} {C : Ctx} {S : List String} {r N : Nat} {t : String} {p : Pat} {body rest : List Stmt}
  {V : List String} {σ0 : Env}

theorem Covers.run {π : RMap} {σ1 : Env} {m1 m2 : Heap} {i : Nat} {K : List Stmt}
    (J : Jinv S π [] r N t σ1 m1 σ0 m2) (h : Covers Φ C S r N t p body rest V σ0 i K) :
    FinRel S (forLoopω Φ σ1 m1 C r i p body >>= thenB Φ C rest) (evalBω Φ σ0 m2 C K) :=
  h π σ1 m1 σ0 m2 ⟨J, fun _ _ => rfl, trivial⟩

theorem Covers.done (hrest : ∀ z ∈ readsB rest, z ∈ S) : Covers Φ C S r N t p body rest V σ0 N rest := by
  intro π σ1 m1 σ2 m2 ⟨J, _, _⟩
  obtain ⟨l, hl, hlen⟩ := J.cell
  rw [forLoopω_end Φ σ1 m1 C r N p body hl (List.getElem?_eq_none (by omega)), ok_bind]
  exact FinRel.of_qss (par_on hrest (Nat.le_refl _) J.env J.heap C)

/-- `for idx in range(ea, eb, est): <offsets; k copies>` in front of a tail that covers from `base + k·q` covers
from `base`; the bounds are atoms read in `σ0`, over names in `V`, which the loop does not bind -/
theorem Covers.loop {CI : Ctx} (IA : IntArith CI) (hreads : ∀ z ∈ readsB body, z ∈ S)
    {idx : String} {offs : List String} {lits : List NV} (base k q : Nat)
    (hk : offs.length + 1 = k) (hlits : offs.length = lits.length)
    (hl : ∀ j (h : j < lits.length), nvInt? lits[j] = some ((1 + j : Nat) : Int))
    (hfr : (idx :: offs).Nodup ∧ (∀ z ∈ idx :: offs, z ∉ S ∧ z ≠ t) ∧ (∀ z ∈ t :: idx :: offs, z ∉ bvP p ++ bvB body))
    (hV : ∀ z ∈ V, z ∉ (idx :: offs) ++ (bvP p ++ bvB body)) (hN : base + k * q ≤ N)
    {ea eb est : Expr} (ha : CtlAtom Φ V σ0 ea (base : Int)) (hb : CtlAtom Φ V σ0 eb ((base + k * q : Nat) : Int))
    (hst : CtlAtom Φ V σ0 est (k : Int))
    {K : List Stmt} (h : Covers Φ C S r N t p body rest V σ0 (base + k * q) K) :
    Covers Φ C S r N t p body rest V σ0 base
      (.for (.var idx) (.range [ea, eb, est]) (mainBody CI p t idx offs lits body) :: K) := by
  intro π σ1 m1 σ2 m2 ⟨J, hσ, _⟩
  have hkpos : 0 < k := by omega
  rw [evalBω_cons', evalSω_for, range_eval (ha.on hσ) (hb.on hσ) (hst.on hσ) (by exact_mod_cast hkpos) m2 C]
  have hcount := range_count base k q hkpos
  rw [hcount]
  -- the range cell and the renaming that skips it
  generalize hRLdef : (List.range q).map (fun (i : Nat) => intVal ((base : Nat) + (k : Nat) * (i : Int))) = RL
  have hRLlen : RL.length = q := by rw [← hRLdef]; simp
  have hRL : ∀ j, j < q → RL[j]? = some (intVal ((base + k * j : Nat) : Int)) := by
    intro j hj
    rw [← hRLdef, List.getElem?_map, List.getElem?_range hj]
    simp
  let π' : RMap := fun r => if r < m1.length then π r else π r + 1
  have hh' : HR π' [] m1 (m2 ++ [RL]) := J.heap.alloc_right RL
  have hagree : ∀ r, r < m1.length → π r = π' r := fun r hr => by show π r = if _ then _ else _; rw [if_pos hr]
  have J' : Jinv S π' [] r N t σ1 m1 σ2 (m2 ++ [RL]) :=
    ⟨J.env.transfer (Nat.le_refl _) hagree (fun _ _ h => h), hh', J.rlive, J.cell,
      by rw [J.tbind, hagree r J.rlt]⟩
  have G : GCell π' [] m2.length RL m1 (m2 ++ [RL]) := by
    refine ⟨by rw [List.getElem?_append_right (Nat.le_refl _)]; simp, fun r hrd hr => ?_⟩
    show (if _ then _ else _) ≠ _
    rw [if_pos hr]
    have := J.heap.low r hrd hr; omega
  show FinRel S _ (forLoopω Φ σ2 (m2 ++ [RL]) C m2.length 0 (.var idx) _ >>= thenB Φ C K)
  have h0 : base = base + k * 0 := by simp
  rw [h0]
  exact mainloop_cont (Ans := fun a b => FinRel S (a >>= thenB Φ C rest) b) (FinRel.ansOK_then Φ C S rest) hreads
    (hfr.2.2 t List.mem_cons_self) (fun z hz => not_mem_of_not_mem_append_right (hV z hz)) IA base k q hk hlits hl hfr.1 hfr.2.1
    (fun z hz => hfr.2.2 z (List.mem_cons_of_mem _ hz)) (fun z hz => not_mem_of_not_mem_append_left (hV z hz)) hRLlen hRL hN _
    (thenB_ret Φ C K) (fun σ1' m1' σ2' m2' J'' => h π' σ1' m1' σ2' m2' ⟨J''.toJinv, J''.keep, trivial⟩) q 0 (by omega) ⟨J', hσ, G⟩

theorem Covers.copies (hreads : ∀ z ∈ readsB body, z ∈ S) (htp : t ∉ bvP p ++ bvB body)
    (hV : ∀ z ∈ V, z ∉ bvP p ++ bvB body) (ies : List Expr) (i : Nat)
    (hat : ∀ j (h : j < ies.length), CtlAtom Φ V σ0 ies[j] ((i + j : Nat) : Int)) (hN : i + ies.length ≤ N)
    {K : List Stmt} (h : Covers Φ C S r N t p body rest V σ0 (i + ies.length) K) :
    Covers Φ C S r N t p body rest V σ0 i (ies.flatMap (fun ie => copyStmt p t ie body) ++ K) := by
  intro π σ1 m1 σ2 m2 J
  rw [evalBω_append]
  exact copies_cont (Ans := fun a b => FinRel S (a >>= thenB Φ C rest) b) (FinRel.ansOK_then Φ C S rest) hreads htp hV
    (fun _ _ => trivial) ies i J hat hN _ (thenB_ret Φ C K) (h π)

end Covers

/-- the frame the three unrolling theorems share: both sides evaluate the iterable, in a well-formed state by
parametricity at the identity renaming, and the emitted code binds the value to `t` -/
theorem for_unroll_frame {Φ : Funs} {C : Ctx} {S : List String} {p : Pat} {it : Expr} {body rest K : List Stmt} {t : String}
    {σ : Env} {μ : Heap} (hwfh : WFH μ) (hwfe : WFE σ μ)
    (hK : ∀ v μ0, evalEω Φ σ μ C it = .ok (v, μ0) → VR (fun r => r) [] μ0.length v v → WFH μ0 → WFE σ μ0 →
      FinRel S ((match v with
          | .list r => forLoopω Φ σ μ0 C r 0 p body
          | _ => (.error .typeError : M (Outcome × Heap))) >>= thenB Φ C rest)
        (evalBω Φ (σ.set t v) μ0 C K)) :
    FinRel S (evalBω Φ σ μ C (.for p it body :: rest)) (evalBω Φ σ μ C (.assign (.var t) it :: K)) := by
  rw [evalBω_cons', evalSω_for, evalBω_assign_var]
  have hpar := par_evalEω (Φ := Φ) (Nat.le_refl _) hwfe hwfh C it
  cases hit : evalEω Φ σ μ C it with
  | error e => exact rfl
  | ok x =>
    obtain ⟨v, μ0⟩ := x
    rw [hit] at hpar
    exact hK v μ0 hit hpar.val hpar.heap (hwfe.mono hpar.ext.e1.le)

/-- the control prelude `with CI: n = len(t); …` of the PEEL and STRICT blocks -/
theorem len_prelude (Φ : Funs) (C CI : Ctx) {σt : Env} (μ0 : Heap) {t : String} (n : String) {v : Val}
    (ht : σt.get? t = some v) (more : List Stmt) :
    evalSω Φ σt μ0 C (.with (.ctxLit CI) none (.assign (.var n) (.len (.var t)) :: more)) =
      asList μ0 v >>= fun l => evalBω Φ (σt.set n (.num (.q (l.length : Int) 1))) μ0 CI more := by
  rw [with_ctx_wrap, evalBω_assign_var, evalEω_len, evalEω_var, ht]
  show ((asList μ0 v >>= _) >>= _) = _
  cases asList μ0 v <;> rfl

/-- the frame for the PEEL and STRICT blocks, which begin `t = it; with CI: (n = len(t); …)`: an iterable that is not a
list is the same type error on both sides, so only a list is left to consider -/
theorem for_unroll_frame_len {Φ : Funs} {C CI : Ctx} {S : List String} {p : Pat} {it : Expr} {body rest more K : List Stmt}
    {t n : String} {σ : Env} {μ : Heap} (hwfh : WFH μ) (hwfe : WFE σ μ)
    (hK : ∀ r l μ0, evalEω Φ σ μ C it = .ok (.list r, μ0) → μ0[r]? = some l → WFH μ0 → WFE σ μ0 →
      FinRel S (forLoopω Φ σ μ0 C r 0 p body >>= thenB Φ C rest)
        (evalSω Φ (σ.set t (.list r)) μ0 C (.with (.ctxLit CI) none (.assign (.var n) (.len (.var t)) :: more)) >>=
          thenB Φ C K)) :
    FinRel S (evalBω Φ σ μ C (.for p it body :: rest))
      (evalBω Φ σ μ C (.assign (.var t) it :: .with (.ctxLit CI) none (.assign (.var n) (.len (.var t)) :: more) :: K)) := by
  refine for_unroll_frame hwfh hwfe fun v μ0 hit hv hh0 he0 => ?_
  rw [evalBω_cons']
  rcases VR.inv hv with ⟨hf, _⟩ | ⟨vs, _, rfl, _, _⟩ | ⟨r, rfl, _, hr, _⟩
  · rw [len_prelude Φ C CI μ0 n (Env.get?_set_self σ t v)]
    cases v <;> first | exact rfl | cases hf
  · rw [len_prelude Φ C CI μ0 n (Env.get?_set_self σ t _)]; exact rfl
  · exact hK r μ0[r] μ0 hit (List.getElem?_eq_getElem hr) hh0 he0

/-- the PEEL / unknown-length output of `_ForUnroll._build_peel` for `for p in it: body`:
`t, n, m` the temporaries, `idx :: offs` the index variables of the main loop (`offs.length + 1 = k`),
`ridx` the index of the residual loop; `z0, zk, z1` and `lits` the integer literals `0, k, 1` and `1 … k-1` -/
def forUnrollPeel (CI : Ctx) (p : Pat) (it : Expr) (body : List Stmt) (t n m idx ridx : String) (offs : List String)
    (lits : List NV) (z0 zk z1 : NV) : List Stmt :=
  [ .assign (.var t) it,
    .with (.ctxLit CI) none
      [ .assign (.var n) (.len (.var t)),
        .assign (.var m) (.op .sub [.var n, .op .fmod [.var n, .num zk]]) ],
    .for (.var idx) (.range [.num z0, .var m, .num zk]) (mainBody CI p t idx offs lits body),
    .for (.var ridx) (.range [.var m, .var n, .num z1]) (mainBody CI p t ridx [] [] body) ]

theorem mainBody_nil (CI : Ctx) (p : Pat) (t x : String) (body : List Stmt) :
    mainBody CI p t x [] [] body = copyStmt p t (.var x) body := by
  simp [mainBody, List.flatMap]

theorem nvInt_q (N : Nat) : nvInt? (.q (N : Int) 1) = some (N : Int) := by simp [nvInt?]

/-- the control prelude `with INTEGER: n = len(t); m = n - fmod(n, k)`: `m = k·⌊N/k⌋` -/
theorem prelude_eval (Φ : Funs) {CI : Ctx} (IA : IntArith CI) (C : Ctx) {σt : Env} {μ0 : Heap} {t n m : String} {r : Nat}
    {l : List Val} (ht : σt.get? t = some (.list r)) (hl : μ0[r]? = some l) {zk : NV} {k : Nat}
    (hzk : nvInt? zk = some (k : Int)) (hk : 0 < k) (hnm : n ≠ m) :
    ∃ σm wm, nvInt? wm = some ((k * (l.length / k) : Nat) : Int) ∧
      evalSω Φ σt μ0 C (.with (.ctxLit CI) none
        [ .assign (.var n) (.len (.var t)),
          .assign (.var m) (.op .sub [.var n, .op .fmod [.var n, .num zk]]) ]) = .ok (.normal σm, μ0) ∧
      σm.get? n = some (.num (.q (l.length : Int) 1)) ∧ σm.get? m = some (.num wm) ∧
      ∀ z, z ≠ n → z ≠ m → σm.get? z = σt.get? z := by
  obtain ⟨w1, hf1, hf2⟩ := IA.fmod (.q (l.length : Int) 1) zk l.length k (nvInt_q _) hzk hk
  obtain ⟨wm, hs1, hs2⟩ := IA.sub (.q (l.length : Int) 1) w1 _ _ (nvInt_q _) hf2
  refine ⟨(σt.set n (.num (.q (l.length : Int) 1))).set m (.num wm), wm, ?_, ?_,
    by rw [Env.get?_set_ne _ _ (Ne.symm hnm), Env.get?_set_self], Env.get?_set_self ..,
    fun z h1 h2 => by rw [Env.get?_set_ne _ _ (Ne.symm h2), Env.get?_set_ne _ _ (Ne.symm h1)]⟩
  · rw [hs2]; congr 1
    have := Nat.div_add_mod l.length k
    have h2 : l.length % k ≤ l.length := Nat.mod_le _ _
    omega
  · rw [len_prelude Φ C CI μ0 n ht, show asList μ0 (.list r) = .ok l from heapGet_ok_iff.2 hl, ok_bind, evalBω_assign_var]
    have hn : evalEω Φ (σt.set n (.num (.q (l.length : Int) 1))) μ0 CI (.var n) = .ok (.num (.q (l.length : Int) 1), μ0) := by
      rw [evalEω_var, Env.get?_set_self]
    have hfm := evalEω_binop Φ _ μ0 CI .fmod hn (evalEω_num Φ _ μ0 CI zk)
    rw [hf1] at hfm
    rw [evalEω_binop Φ _ μ0 CI .sub hn hfm, hs1]
    exact evalBω_nil Φ _ μ0 CI

/-- `_build_peel` / `_build_strict` with a statically known length: `zm` the literal `m`, `zps` the literal
indices `m, m+1, …, size-1` of the peeled copies; `withMain = false` when `m = 0` (no main loop emitted) -/
def forUnrollStatic (CI : Ctx) (p : Pat) (it : Expr) (body : List Stmt) (t idx : String) (offs : List String)
    (lits : List NV) (z0 zm zk : NV) (zps : List NV) (withMain : Bool) : List Stmt :=
  [.assign (.var t) it] ++
  (if withMain then [.for (.var idx) (.range [.num z0, .num zm, .num zk]) (mainBody CI p t idx offs lits body)] else []) ++
  (zps.map Expr.num).flatMap (fun ie => copyStmt p t ie body)

/-- comparing integer-valued numbers for equality (a fact about `nvCompare`, whatever the context).  It is a
hypothesis here and not a lemma only because the number layer is imported later; it is proved as
`Props.C08.intEq` (Props/C08Int.lean), from `nvCompare_int` (Proof/IntCtx.lean). -/
structure IntEq : Prop where
  eq : ∀ (x y : NV) (a b : Int) (μ : Heap) (n : Nat), nvInt? x = some a → nvInt? y = some b →
    valEq μ (n + 1) (.num x) (.num y) = .ok (decide (a = b))

theorem valEqω_int (IE : IntEq) {x y : NV} {a b : Int} (μ : Heap) (hx : nvInt? x = some a) (hy : nvInt? y = some b) :
    valEqω μ (.num x) (.num y) = .ok (decide (a = b)) :=
  (tends_valEq μ (.num x) (.num y)).definite (IE.eq x y a b μ 0 hx hy) (by intro h; cases h)

theorem evalEω_eq_int (Φ : Funs) (IE : IntEq) (σ : Env) (μ : Heap) (C : Ctx) {e1 e2 : Expr} {x y : NV} {a b : Int}
    (h1 : evalEω Φ σ μ C e1 = .ok (.num x, μ)) (h2 : evalEω Φ σ μ C e2 = .ok (.num y, μ))
    (hx : nvInt? x = some a) (hy : nvInt? y = some b) :
    evalEω Φ σ μ C (.cmp [.eq] [e1, e2]) = .ok (.bool (decide (a = b)), μ) := by
  rw [evalEω_cmp_cons, h1]
  show evalChainω Φ σ μ C (.num x) [.eq] [e2] = _
  rw [evalChainω_cons, h2]
  show (valEqω μ (.num x) (.num y) >>= _) = _
  rw [valEqω_int IE μ hx hy]
  cases decide (a = b)
  · rfl
  · exact evalChainω_nil ..

/-- `_build_strict`, length not statically known -/
def forUnrollStrict (CI : Ctx) (p : Pat) (it : Expr) (body : List Stmt) (t n idx : String) (offs : List String)
    (lits : List NV) (z0 zk : NV) : List Stmt :=
  [ .assign (.var t) it,
    .with (.ctxLit CI) none
      [ .assign (.var n) (.len (.var t)),
        .assert (.cmp [.eq] [.op .fmod [.var n, .num zk], .num z0]) ],
    .for (.var idx) (.range [.num z0, .var n, .num zk]) (mainBody CI p t idx offs lits body) ]

theorem strict_prelude_eval (Φ : Funs) {CI : Ctx} (IA : IntArith CI) (IE : IntEq) (C : Ctx) {σt : Env} {μ0 : Heap}
    {t n : String} {r : Nat} {l : List Val} (ht : σt.get? t = some (.list r)) (hl : μ0[r]? = some l) {z0 zk : NV} {k : Nat}
    (hz0 : nvInt? z0 = some 0) (hzk : nvInt? zk = some (k : Int)) (hk : 0 < k) :
    evalSω Φ σt μ0 C (.with (.ctxLit CI) none
        [ .assign (.var n) (.len (.var t)),
          .assert (.cmp [.eq] [.op .fmod [.var n, .num zk], .num z0]) ]) =
      if l.length % k = 0 then .ok (.normal (σt.set n (.num (.q (l.length : Int) 1))), μ0) else .error .assertion := by
  obtain ⟨w1, hf1, hf2⟩ := IA.fmod (.q (l.length : Int) 1) zk l.length k (nvInt_q _) hzk hk
  rw [len_prelude Φ C CI μ0 n ht, show asList μ0 (.list r) = .ok l from heapGet_ok_iff.2 hl, ok_bind, evalBω_single,
    evalSω_assert]
  have hn : evalEω Φ (σt.set n (.num (.q (l.length : Int) 1))) μ0 CI (.var n) = .ok (.num (.q (l.length : Int) 1), μ0) := by
    rw [evalEω_var, Env.get?_set_self]
  have hfm := evalEω_binop Φ _ μ0 CI .fmod hn (evalEω_num Φ _ μ0 CI zk)
  rw [hf1] at hfm
  rw [evalEω_eq_int Φ IE _ μ0 CI hfm (evalEω_num Φ _ μ0 CI z0) hf2 hz0]
  by_cases hdiv : l.length % k = 0
  · rw [if_pos hdiv]
    have : decide (((l.length % k : Nat) : Int) = 0) = true := decide_eq_true (by omega)
    rw [this]; rfl
  · rw [if_neg hdiv]
    have : decide (((l.length % k : Nat) : Int) = 0) = false := decide_eq_false (by omega)
    rw [this]; rfl

end Fpy.Xform
