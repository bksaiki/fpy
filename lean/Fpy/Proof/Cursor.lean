/-
Cursor forwarding against the specification (C19): `_forward_block` and `_forward_stmt` in closed
form, the block at a forwarded path is the old block edited in place, what `EditLog.forward`
returns for a statement and for a region.
-/
import Fpy.Proof.CursorBlock
namespace Fpy.Cursor.Proof
open Fpy.Cursor Fpy.Cursor.Spec

theorem applyStmt_tag (fresh : Edit → List Stmt) (E : List Edit) (here : BlockPath) (i : Nat) (s : Stmt) :
    (applyStmt fresh E here i s).tag = s.tag := by
  cases s <;> simp [applyStmt, Stmt.tag]

theorem applyStmt_child (fresh : Edit → List Stmt) (E : List Edit) (here : BlockPath) (i : Nat) (s : Stmt)
    (f : Field) (c : Block) (h : s.child f = some c) :
    (applyStmt fresh E here i s).child f = some (applyBlock fresh E (⟨i, f⟩ :: here) c 0) := by
  cases s <;> cases f <;> simp [Stmt.child] at h <;> subst h <;> simp [applyStmt, Stmt.child]

/-- some enclosing statement of the block lies in a replaced run -/
def touchedBlock (E : List Edit) : BlockPath → Bool
  | [] => false
  | s :: pp => coveredBy E pp s.idx || touchedBlock E pp

/-- where `_forward_block` sends a path none of whose statements was replaced -/
def fwdPath (E : List Edit) : BlockPath → BlockPath
  | [] => []
  | s :: pp => ⟨((s.idx : Int) + shiftAt E pp s.idx).toNat, s.field⟩ :: fwdPath E pp

theorem any_or {α} (l : List α) (f g : α → Bool) : l.any (fun x => f x || g x) = (l.any f || l.any g) := by
  induction l with
  | nil => rfl
  | cons a r ih => simp only [List.any_cons, ih, Bool.or_assoc, Bool.or_left_comm]

/-- `beneath` asks `block == path`, `covers` asks `path == block` -/
theorem coveredBy_eq_any (E : List Edit) (here : BlockPath) (i : Nat) :
    coveredBy E here i = E.any fun e => here == e.blockPath && e.index ≤ i && i < e.index + e.removed := by
  simp only [coveredBy, covers, BEq.comm (a := here)]

theorem any_beneathBlock (E : List Edit) (bp : BlockPath) :
    E.any (fun e => beneathBlock e.blockPath e.index (e.index + e.removed) bp) = touchedBlock E bp := by
  induction bp with
  | nil => simp [beneathBlock, touchedBlock]
  | cons s pp ih => simp only [beneathBlock, touchedBlock, any_or, ih, coveredBy_eq_any]

theorem touched_eq (E : List Edit) (p : StmtPath) :
    touched E p = (coveredBy E p.parent p.index || touchedBlock E p.parent) := by
  simp only [touched, beneathStmt, any_or, any_beneathBlock, coveredBy_eq_any]

theorem forwardBlock_eq (E : List Edit) (bp : BlockPath) :
    forwardBlock E bp = if touchedBlock E bp then .error .insideRewritten else .ok (fwdPath E bp) := by
  induction bp with
  | nil => rfl
  | cons s pp ih =>
    rw [forwardBlock, ih, scan_eq, touchedBlock, fwdPath]
    cases touchedBlock E pp with
    | true => simp
    | false =>
      cases hl : lastCover E pp s.idx with
      | none => simp [(lastCover_none_iff E pp s.idx).mp hl]
      | some c => simp [coveredBy_of_covers (lastCover_some hl).1 (lastCover_some hl).2]

theorem forwardStmt_eq (E : List Edit) (p : StmtPath) :
    forwardStmt E p =
      if touchedBlock E p.parent then .error .insideRewritten else
      match lastCover E p.parent p.index with
      | some c => .ok (fwdPath E p.parent, ((c.index : Int) + shiftAt E p.parent p.index).toNat, some c)
      | none => .ok (fwdPath E p.parent, ((p.index : Int) + shiftAt E p.parent p.index).toNat, none) := by
  rw [forwardStmt, forwardBlock_eq, scan_eq]
  cases touchedBlock E p.parent with
  | true => rfl
  | false => cases lastCover E p.parent p.index <;> rfl

theorem forwardStmt_none {E : List Edit} {p : StmtPath} {nb : BlockPath} {ni : Nat}
    (h : forwardStmt E p = .ok (nb, ni, none)) :
    touched E p = false ∧ nb = fwdPath E p.parent ∧ ni = ((p.index : Int) + shiftAt E p.parent p.index).toNat := by
  rw [forwardStmt_eq] at h
  rw [touched_eq]
  cases ht : touchedBlock E p.parent with
  | true => rw [ht] at h; cases h
  | false =>
    cases hl : lastCover E p.parent p.index with
    | some c => rw [ht, hl] at h; cases h
    | none => rw [ht, hl] at h; cases h; exact ⟨by rw [(lastCover_none_iff ..).mp hl]; rfl, rfl, rfl⟩

theorem resolveBlock_cons_ok {t : Block} {s : Step} {pp : BlockPath} {c : Block}
    (h : resolveBlock t (s :: pp) = .ok c) :
    ∃ b st, resolveBlock t pp = .ok b ∧ b[s.idx]? = some st ∧ st.child s.field = some c := by
  rw [resolveBlock] at h
  split at h
  · cases h
  · split at h
    · cases h
    · split at h
      · cases h
      · cases h; exact ⟨_, _, ‹_›, ‹_›, ‹_›⟩

theorem resolveStmt_ok {t : Block} {p : StmtPath} {s : Stmt} (h : resolveStmt t p = .ok s) :
    ∃ b, resolveBlock t p.parent = .ok b ∧ b[p.index]? = some s := by
  rw [resolveStmt] at h
  split at h
  · cases h
  · split at h
    · cases h
    · cases h; exact ⟨_, ‹_›, ‹_›⟩

theorem resolveStmt_of {t : Block} {p : StmtPath} {b : Block} {s : Stmt}
    (hb : resolveBlock t p.parent = .ok b) (hs : b[p.index]? = some s) : resolveStmt t p = .ok s := by
  simp only [resolveStmt, hb, hs]

/-- the invariant every forwarding theorem rests on: the block at the forwarded path of the edited
program is the old block, edited in place -/
theorem forwardBlock_resolve (fresh : Edit → List Stmt) (E : List Edit) (t : Block)
    (hf : ∀ e ∈ E, (fresh e).length = e.inserted) (hd : Disjoint E)
    (bp : BlockPath) (b : Block)
    (hr : resolveBlock t bp = .ok b) (ht : touchedBlock E bp = false) :
    resolveBlock (applyEdits fresh E t) (fwdPath E bp) = .ok (applyBlock fresh E bp b 0) := by
  induction bp generalizing b with
  | nil => cases hr; rfl
  | cons s pp ih =>
    obtain ⟨b0, st, hr0, hg, hch⟩ := resolveBlock_cons_ok hr
    rw [touchedBlock, Bool.or_eq_false_iff] at ht
    simp only [fwdPath, resolveBlock, ih b0 hr0 ht.2,
      applyBlock_get_fwd fresh E pp b0 s.idx st hf hd hg ht.1, applyStmt_child fresh E pp s.idx st s.field b hch]

theorem resolve_forward_untouched (fresh : Edit → List Stmt) (E : List Edit) (t : Block)
    (hf : ∀ e ∈ E, (fresh e).length = e.inserted) (hd : Disjoint E)
    (p : StmtPath) (s : Stmt) (hres : resolveStmt t p = .ok s) (hu : touched E p = false) :
    resolveStmt (applyEdits fresh E t) ⟨fwdPath E p.parent, ((p.index : Int) + shiftAt E p.parent p.index).toNat⟩
      = .ok (applyStmt fresh E p.parent p.index s) := by
  obtain ⟨b, hb, hg⟩ := resolveStmt_ok hres
  rw [touched_eq, Bool.or_eq_false_iff] at hu
  exact resolveStmt_of (forwardBlock_resolve fresh E t hf hd p.parent b hb hu.2)
    (applyBlock_get_fwd fresh E p.parent b p.index s hf hd hg hu.1)

theorem resolve_forward_run (fresh : Edit → List Stmt) (E : List Edit) (t : Block)
    (hf : ∀ e ∈ E, (fresh e).length = e.inserted) (hd : Disjoint E)
    (p : StmtPath) (s : Stmt) (c : Edit)
    (hres : resolveStmt t p = .ok s) (ht : touchedBlock E p.parent = false)
    (hc : c ∈ E) (hcov : covers c p.parent p.index = true) :
    ∃ l1 l2, resolveBlock (applyEdits fresh E t) (fwdPath E p.parent) = .ok (l1 ++ fresh c ++ l2) ∧
      l1.length = ((c.index : Int) + shiftAt E p.parent p.index).toNat := by
  obtain ⟨b, hb, hg⟩ := resolveStmt_ok hres
  obtain ⟨hbp, hlo, hhi⟩ := (covers_iff ..).mp hcov
  have hlt : p.index < b.length := (List.getElem?_eq_some_iff.mp hg).1
  obtain ⟨l1, l2, heq, hl1⟩ := applyBlock_run_fwd fresh E c b hf hd hc (by omega) (by omega)
  have hsi := shift_inside E c p.index hd hc ⟨hlo, hhi⟩
  rw [hbp] at heq hl1 hsi
  exact ⟨l1, l2, by rw [forwardBlock_resolve fresh E t hf hd p.parent b hb ht, heq], by rw [hsi]; exact hl1⟩

theorem mkStmtCursor_of {P : Prog} {p : StmtPath} {s : Stmt} (h : resolveStmt P.body p = .ok s) :
    mkStmtCursor P p = .ok (.stmt P.pid p) := by
  simp only [mkStmtCursor, h]

theorem mkExprCursor_of {P : Prog} {p : StmtPath} {s : Stmt} (h : resolveStmt P.body p = .ok s) :
    mkExprCursor P p = .ok (.expr P.pid p) := by
  simp only [mkExprCursor, h]

theorem mkRegion_of {P : Prog} {bp : BlockPath} {a b : Nat} {blk : Block}
    (h : resolveBlock P.body bp = .ok blk) (hb : b ≤ blk.length) :
    mkRegion P bp a b = .ok (.region P.pid bp a b) := by
  simp only [mkRegion, h, if_pos hb]

theorem forwardStmtCursor_eq (L : EditLog) (p : StmtPath) :
    L.forwardStmtCursor L.source.pid p =
      if touchedBlock L.edits p.parent then .error .insideRewritten else
      let nb := fwdPath L.edits p.parent
      match lastCover L.edits p.parent p.index with
      | none => mkStmtCursor L.result ⟨nb, ((p.index : Int) + shiftAt L.edits p.parent p.index).toNat⟩
      | some c =>
        let ni := ((c.index : Int) + shiftAt L.edits p.parent p.index).toNat
        if c.inserted == 1 then mkStmtCursor L.result ⟨nb, ni⟩
        else if c.inserted == 0 then .error .deleted
        else mkRegion L.result nb ni (ni + c.inserted) := by
  rw [EditLog.forwardStmtCursor, forwardStmt_eq, if_neg (by simp)]
  cases touchedBlock L.edits p.parent with
  | true => rfl
  | false => cases lastCover L.edits p.parent p.index <;> rfl

/-- the one case analysis behind every statement-forwarding theorem of C19: untouched, the image of
the statement; touched, an error or the run that replaced it (this arm is the conclusion of
`forward_replaced_or_error` as C19 states it) -/
theorem forwardStmtCursor_cases (fresh : Edit → List Stmt) (L : EditLog)
    (hf : ∀ e ∈ L.edits, (fresh e).length = e.inserted) (hd : Disjoint L.edits)
    (hres_eq : L.result.body = applyEdits fresh L.edits L.source.body)
    (p : StmtPath) (s : Stmt) (hres : resolveStmt L.source.body p = .ok s) :
    (touched L.edits p = false ∧
      ∃ q, L.forwardStmtCursor L.source.pid p = .ok (.stmt L.result.pid q) ∧
        resolveStmt L.result.body q = .ok (applyStmt fresh L.edits p.parent p.index s)) ∨
    (touched L.edits p = true ∧
      (L.forwardStmtCursor L.source.pid p = .error .insideRewritten ∨
      ∃ c ∈ L.edits, covers c p.parent p.index = true ∧
        ((c.inserted = 0 ∧ L.forwardStmtCursor L.source.pid p = .error .deleted) ∨
         (c.inserted = 1 ∧ ∃ q s', L.forwardStmtCursor L.source.pid p = .ok (.stmt L.result.pid q) ∧
            fresh c = [s'] ∧ resolveStmt L.result.body q = .ok s') ∨
         (c.inserted ≥ 2 ∧ ∃ nb a b', L.forwardStmtCursor L.source.pid p
              = .ok (.region L.result.pid nb a (a + c.inserted)) ∧
            resolveBlock L.result.body nb = .ok b' ∧ (b'.drop a).take c.inserted = fresh c)))) := by
  rw [forwardStmtCursor_eq, touched_eq]
  cases ht : touchedBlock L.edits p.parent with
  | true => exact Or.inr ⟨Bool.or_true _, Or.inl rfl⟩
  | false =>
    cases hl : lastCover L.edits p.parent p.index with
    | none =>
      have hc := (lastCover_none_iff ..).mp hl
      have hr := resolve_forward_untouched fresh L.edits L.source.body hf hd p s hres (by rw [touched_eq, hc, ht]; rfl)
      rw [← hres_eq] at hr
      exact Or.inl ⟨by rw [hc]; rfl, _, mkStmtCursor_of hr, hr⟩
    | some c =>
      obtain ⟨hcE, hcov⟩ := lastCover_some hl
      obtain ⟨l1, l2, hrb, hlen⟩ := resolve_forward_run fresh L.edits L.source.body hf hd p s c hres ht hcE hcov
      rw [← hres_eq] at hrb
      have hfc := hf c hcE
      refine Or.inr ⟨by rw [coveredBy_of_covers hcE hcov]; rfl, Or.inr ⟨c, hcE, hcov, ?_⟩⟩
      simp only [Bool.false_eq_true, if_false, ← hlen]
      by_cases h0 : c.inserted = 0
      · exact Or.inl ⟨h0, by simp [h0]⟩
      · by_cases h1 : c.inserted = 1
        · obtain ⟨s', hs'⟩ : ∃ s', fresh c = [s'] := List.length_eq_one_iff.mp (hfc.trans h1)
          have hrs : resolveStmt L.result.body ⟨fwdPath L.edits p.parent, l1.length⟩ = .ok s' :=
            resolveStmt_of hrb (by simp [hs'])
          exact Or.inr (Or.inl ⟨h1, _, s', by simp [h1, mkStmtCursor_of hrs], hs', hrs⟩)
        · have hle : l1.length + c.inserted ≤ (l1 ++ fresh c ++ l2).length := by
            simp only [List.length_append, hfc]; omega
          refine Or.inr (Or.inr ⟨by omega, _, l1.length, _, ?_, hrb, by rw [← hfc]; simp⟩)
          simp [h0, h1, mkRegion_of hrb hle]

mutual
/-- Paths are innermost first, so a block is `bp` or lies beneath it exactly when its path has `bp` as a suffix: the
hypothesis says that no edit is an edit of a block of statement `i` of `here` (in `applyBlock_id`: of `here`) or of
one nested in it. -/
theorem applyStmt_id (fresh : Edit → List Stmt) (E : List Edit) :
    ∀ (here : BlockPath) (i : Nat) (s : Stmt),
      (∀ e ∈ E, ∀ f, ¬ (⟨i, f⟩ :: here) <:+ e.blockPath) → applyStmt fresh E here i s = s
  | _, _, .leaf t, _ => by simp [applyStmt]
  | here, i, .one t b, h => by
      simp only [applyStmt]
      rw [applyBlock_id fresh E (⟨i, .body⟩ :: here) b 0 (fun e he => h e he .body)]
  | here, i, .two t a b, h => by
      simp only [applyStmt]
      rw [applyBlock_id fresh E (⟨i, .ift⟩ :: here) a 0 (fun e he => h e he .ift),
          applyBlock_id fresh E (⟨i, .iff⟩ :: here) b 0 (fun e he => h e he .iff)]
theorem applyBlock_id (fresh : Edit → List Stmt) (E : List Edit) :
    ∀ (here : BlockPath) (b : Block) (i : Nat),
      (∀ e ∈ E, ¬ here <:+ e.blockPath) → applyBlock fresh E here b i = b
  | here, [], i, h => by
      rw [applyBlock_nil]
      exact emitAt_eq_nil fun e he hb => h e he (by rw [hb.1]; exact List.suffix_refl _)
  | here, s :: r, i, h => by
      have hne : ∀ e ∈ E, e.blockPath ≠ here :=
        fun e he hb => h e he (by rw [hb]; exact List.suffix_refl _)
      have hcov : coveredBy E here i = false :=
        coveredBy_eq_false.mpr fun e he hb => absurd hb (hne e he)
      rw [applyBlock_cons, emitAt_eq_nil (fun e he hb => hne e he hb.1), hcov,
        applyStmt_id fresh E here i s (fun e he f hsuf => h e he (List.IsSuffix.trans (List.suffix_cons _ _) hsuf)),
        applyBlock_id fresh E here r (i + 1) h]
      rfl
end

theorem mem_slice_iff {α} {l : List α} {lo n : Nat} {x : α} :
    x ∈ (l.drop lo).take n ↔ ∃ j, lo ≤ j ∧ j < lo + n ∧ l[j]? = some x := by
  simp only [List.mem_iff_getElem?, List.getElem?_take, List.getElem?_drop]
  constructor
  · rintro ⟨k, hk⟩
    split at hk
    · exact ⟨lo + k, by omega, by omega, hk⟩
    · cases hk
  · rintro ⟨j, h1, h2, hj⟩
    refine ⟨j - lo, ?_⟩
    rw [if_pos (by omega), show lo + (j - lo) = j by omega, hj]

theorem resolveCursor_span (t : Block) (c : Cursor) (rb : Block)
    (hrb : resolveBlock t c.blockSpan.1 = .ok rb) (hle : c.blockSpan.2.2 ≤ rb.length) :
    resolveCursor t c = .ok ((rb.drop c.blockSpan.2.1).take (c.blockSpan.2.2 - c.blockSpan.2.1)) := by
  have one : ∀ p : StmtPath, resolveBlock t p.parent = .ok rb → p.index + 1 ≤ rb.length →
      (match resolveStmt t p with | .error e => .error e | .ok s => .ok [s])
        = (.ok ((rb.drop p.index).take (p.index + 1 - p.index)) : Except Err (List Stmt)) := by
    intro p hp (hi : p.index < rb.length)
    rw [resolveStmt_of hp (List.getElem?_eq_getElem hi), List.drop_eq_getElem_cons hi, Nat.add_sub_cancel_left]; rfl
  cases c with
  | region pid bp a b => simp only [Cursor.blockSpan] at hrb; simp only [resolveCursor, hrb, Cursor.blockSpan]
  | stmt pid p => exact one p hrb hle
  | expr pid p => exact one p hrb hle

theorem span_resolves {t : Block} {c : Cursor} {rb : Block} {P : Stmt → Prop}
    (hrb : resolveBlock t c.blockSpan.1 = .ok rb) (hle : c.blockSpan.2.2 ≤ rb.length)
    (hP : ∀ j s', c.blockSpan.2.1 ≤ j → j < c.blockSpan.2.2 → rb[j]? = some s' → P s') :
    ∃ ss, resolveCursor t c = .ok ss ∧ (c.blockSpan.2.1 < c.blockSpan.2.2 → ss ≠ []) ∧ ∀ s' ∈ ss, P s' := by
  refine ⟨_, resolveCursor_span t c rb hrb hle, fun hlt hnil => ?_, fun s' hs' => ?_⟩
  · have := congrArg List.length hnil
    simp only [List.length_take, List.length_drop, List.length_nil] at this
    omega
  · obtain ⟨j, hj1, hj2, hget⟩ := mem_slice_iff.mp hs'
    exact hP j s' hj1 (by omega) hget

theorem validIn_span {t : Block} {c : Cursor} (h : ValidIn t c) :
    ∃ rb, resolveBlock t c.blockSpan.1 = .ok rb ∧ c.blockSpan.2.2 ≤ rb.length := by
  cases c with
  | expr pid p => exact absurd h id
  | region pid bp a b => exact h
  | stmt pid p =>
    obtain ⟨s, hs⟩ := h
    obtain ⟨rb, hrb, hg⟩ := resolveStmt_ok hs
    exact ⟨rb, hrb, (List.getElem?_eq_some_iff.mp hg).1⟩

theorem stmt_span {t : Block} {q : StmtPath} {x : Stmt} {P : Stmt → Prop}
    (hr : resolveStmt t q = .ok x) (hx : P x) :
    ∃ rb, resolveBlock t q.parent = .ok rb ∧ q.index < q.index + 1 ∧ q.index + 1 ≤ rb.length ∧
      ∀ j s', q.index ≤ j → j < q.index + 1 → rb[j]? = some s' → P s' := by
  obtain ⟨rb, hrb, hg⟩ := resolveStmt_ok hr
  refine ⟨rb, hrb, Nat.lt_succ_self _, (List.getElem?_eq_some_iff.mp hg).1, fun j s' h1 h2 hj => ?_⟩
  obtain rfl : j = q.index := Nat.le_antisymm (Nat.le_of_lt_succ h2) h1
  cases hg.symm.trans hj
  exact hx

theorem image_span (fresh : Edit → List Stmt) (L : EditLog)
    (hf : ∀ e ∈ L.edits, (fresh e).length = e.inserted) (hd : Disjoint L.edits)
    (hres_eq : L.result.body = applyEdits fresh L.edits L.source.body)
    (p : StmtPath) (s : Stmt) (hres : resolveStmt L.source.body p = .ok s)
    (img : Cursor) (hfw : L.forwardStmtCursor L.source.pid p = .ok img) :
    img.pid = L.result.pid ∧
    ∃ rb, resolveBlock L.result.body img.blockSpan.1 = .ok rb ∧
      img.blockSpan.2.1 < img.blockSpan.2.2 ∧ img.blockSpan.2.2 ≤ rb.length ∧
      ∀ j s', img.blockSpan.2.1 ≤ j → j < img.blockSpan.2.2 → rb[j]? = some s' →
        Descends fresh L.edits p s s' := by
  rcases forwardStmtCursor_cases fresh L hf hd hres_eq p s hres with
    ⟨hu, q, hq, hr⟩ | ⟨_, h1 | ⟨c, hc, hcov, ⟨_, h0⟩ | ⟨_, q, s1, hq, hfr, hr⟩ | ⟨h2, nb, a, b', hq, hrb, htk⟩⟩⟩
  · cases hq.symm.trans hfw
    exact ⟨rfl, stmt_span hr (Or.inl ⟨hu, rfl⟩)⟩
  · cases h1.symm.trans hfw
  · cases h0.symm.trans hfw
  · cases hq.symm.trans hfw
    exact ⟨rfl, stmt_span hr (Or.inr ⟨c, hc, hcov, by rw [hfr]; exact List.mem_singleton_self _⟩)⟩
  · cases hq.symm.trans hfw
    have hlen : ((b'.drop a).take c.inserted).length = c.inserted := by rw [htk]; exact hf c hc
    simp only [List.length_take, List.length_drop] at hlen
    refine ⟨rfl, b', hrb, ?_, ?_, fun j s' h1 h2 hj => Or.inr ⟨c, hc, hcov, ?_⟩⟩
    · simp only [Cursor.blockSpan]; omega
    · simp only [Cursor.blockSpan]; omega
    · rw [← htk]; exact mem_slice_iff.mpr ⟨j, h1, h2, hj⟩

theorem imagesOf_mem (L : EditLog) (pid : Nat) (bp : BlockPath) (l : List Nat) (imgs : List Cursor)
    (h : imagesOf L pid bp l = .ok imgs) :
    ∀ img ∈ imgs, ∃ i ∈ l, L.forwardStmtCursor pid ⟨bp, i⟩ = .ok img := by
  induction l generalizing imgs with
  | nil => cases h; exact fun _ hm => nomatch hm
  | cons i r ih =>
    rw [imagesOf] at h
    split at h
    · cases h
    · split at h
      · cases h
      · cases h
        intro img hm
        rcases List.mem_cons.mp hm with rfl | hm
        · exact ⟨i, List.mem_cons_self, ‹_›⟩
        · obtain ⟨k, hk, hk2⟩ := ih _ ‹_› img hm
          exact ⟨k, List.mem_cons_of_mem _ hk, hk2⟩

/-- `hi` of `_forward_region`: the largest stop among the spans of the images -/
def maxStop : List (BlockPath × Nat × Nat) → Nat
  | [] => 0
  | s :: r => max s.2.2 (maxStop r)

theorem foldl_max (l : List (BlockPath × Nat × Nat)) (m : Nat) :
    l.foldl (fun m s => max m s.2.2) m = max m (maxStop l) := by
  induction l generalizing m with
  | nil => exact (Nat.max_zero m).symm
  | cons s r ih => rw [List.foldl_cons, ih, maxStop, Nat.max_assoc]

theorem maxStop_ge (l : List (BlockPath × Nat × Nat)) (s : BlockPath × Nat × Nat) (h : s ∈ l) :
    s.2.2 ≤ maxStop l := by
  induction l with
  | nil => cases h
  | cons a r ih =>
    rcases List.mem_cons.mp h with rfl | h
    · exact Nat.le_max_left ..
    · exact Nat.le_trans (ih h) (Nat.le_max_right ..)

theorem adjacent_cover (l : List (BlockPath × Nat × Nat)) (s0 : BlockPath × Nat × Nat)
    (hadj : adjacent (s0 :: l) = true) (hle : ∀ s ∈ s0 :: l, s.2.1 ≤ s.2.2)
    (j : Nat) (hj : s0.2.1 ≤ j ∧ j < maxStop (s0 :: l)) :
    ∃ s ∈ s0 :: l, s.2.1 ≤ j ∧ j < s.2.2 := by
  induction l generalizing s0 with
  | nil =>
    simp only [maxStop] at hj
    exact ⟨s0, List.mem_cons_self, hj.1, by omega⟩
  | cons b r ih =>
    simp only [adjacent, Bool.and_eq_true, Bool.or_eq_true, beq_iff_eq] at hadj
    by_cases hin : j < s0.2.2
    · exact ⟨s0, List.mem_cons_self, hj.1, hin⟩
    · have hs0 := hle s0 List.mem_cons_self
      have hb : b.2.1 ≤ j := by rcases hadj.1 with h | h <;> omega
      have hmax : j < maxStop (b :: r) := by
        simp only [maxStop] at hj ⊢; omega
      obtain ⟨s, hs, h1⟩ := ih b hadj.2 (fun s hs => hle s (List.mem_cons_of_mem _ hs)) ⟨hb, hmax⟩
      exact ⟨s, List.mem_cons_of_mem _ hs, h1⟩

theorem mkStmtCursor_ok {P : Prog} {p : StmtPath} {c : Cursor} (h : mkStmtCursor P p = .ok c) :
    c = .stmt P.pid p ∧ ∃ s, resolveStmt P.body p = .ok s := by
  unfold mkStmtCursor at h
  split at h
  · cases h
  · cases h; exact ⟨rfl, _, ‹_›⟩

theorem mkRegion_ok {P : Prog} {bp : BlockPath} {a b : Nat} {c : Cursor} (h : mkRegion P bp a b = .ok c) :
    c = .region P.pid bp a b ∧ ∃ blk, resolveBlock P.body bp = .ok blk ∧ b ≤ blk.length := by
  unfold mkRegion at h
  split at h
  · cases h
  · split at h
    · cases h; exact ⟨rfl, _, ‹_›, ‹_›⟩
    · cases h

/-- `_forward_region` read backwards -/
theorem forwardRegion_ok {L : EditLog} {pid : Nat} {bp : BlockPath} {a b : Nat} {cur : Cursor}
    (h : L.forwardRegion pid bp a b = .ok cur) :
    ∃ imgs s0 rest, imagesOf L pid bp (List.range' a (b - a)) = .ok imgs ∧
      imgs.map Cursor.blockSpan = s0 :: rest ∧
      (s0 :: rest).all (fun s => s.1 == s0.1) = true ∧ adjacent (s0 :: rest) = true ∧
      cur.blockSpan = (s0.1, s0.2.1, maxStop (s0 :: rest)) ∧
      cur.pid = L.result.pid ∧ ValidIn L.result.body cur := by
  unfold EditLog.forwardRegion at h
  split at h
  · cases h
  · split at h
    · cases h
    · rename_i imgs himg
      simp only at h
      split at h
      · cases h
      · rename_i s0 rest hsp
        rw [hsp, foldl_max, Nat.zero_max] at h
        split at h
        · cases h
        · rename_i hcond
          simp only [Bool.or_eq_true, Bool.not_eq_true', not_or, Bool.not_eq_false] at hcond
          refine ⟨imgs, s0, rest, himg, hsp, hcond.1, hcond.2, ?_⟩
          split at h
          · rename_i h1
            obtain ⟨rfl, hs⟩ := mkStmtCursor_ok h
            have : maxStop (s0 :: rest) = s0.2.1 + 1 := by
              have := beq_iff_eq.mp h1; omega
            exact ⟨by rw [this]; rfl, rfl, hs⟩
          · obtain ⟨rfl, hs⟩ := mkRegion_ok h
            exact ⟨rfl, rfl, hs⟩

theorem region_span (fresh : Edit → List Stmt) (L : EditLog) (h : SpecLog fresh L)
    (bp : BlockPath) (a b : Nat) (blk : Block) (hblk : resolveBlock L.source.body bp = .ok blk)
    (hb : b ≤ blk.length) (cur : Cursor) (hfw : L.forwardRegion L.source.pid bp a b = .ok cur) :
    cur.pid = L.result.pid ∧
    ∃ rb, resolveBlock L.result.body cur.blockSpan.1 = .ok rb ∧ cur.blockSpan.2.2 ≤ rb.length ∧
      ∀ j s', cur.blockSpan.2.1 ≤ j → j < cur.blockSpan.2.2 → rb[j]? = some s' →
        ∃ i s, a ≤ i ∧ i < b ∧ resolveStmt L.source.body ⟨bp, i⟩ = .ok s ∧
          Descends fresh L.edits ⟨bp, i⟩ s s' := by
  obtain ⟨imgs, s0, rest, himg, hsp, hsame, hadj, hspan, hpid, hv⟩ := forwardRegion_ok hfw
  obtain ⟨rb, hrb, hle⟩ := validIn_span hv
  refine ⟨hpid, rb, hrb, hle, fun j s' hj1 hj2 hget => ?_⟩
  rw [hspan] at hrb hj1 hj2
  -- every span is the span of the image of a member, with all that `image_span` says of it
  have hfrom : ∀ sp ∈ s0 :: rest, ∃ i s, a ≤ i ∧ i < b ∧ resolveStmt L.source.body ⟨bp, i⟩ = .ok s ∧
      ∃ rb', resolveBlock L.result.body sp.1 = .ok rb' ∧ sp.2.1 < sp.2.2 ∧ sp.2.2 ≤ rb'.length ∧
        ∀ j s', sp.2.1 ≤ j → j < sp.2.2 → rb'[j]? = some s' → Descends fresh L.edits ⟨bp, i⟩ s s' := by
    intro sp hspm
    rw [← hsp] at hspm
    obtain ⟨img, himgm, rfl⟩ := List.mem_map.mp hspm
    obtain ⟨i, hi, hfw⟩ := imagesOf_mem L L.source.pid bp _ imgs himg img himgm
    rw [List.mem_range'_1] at hi
    have hlt : i < blk.length := by omega
    have hres : resolveStmt L.source.body ⟨bp, i⟩ = .ok blk[i] :=
      resolveStmt_of hblk (List.getElem?_eq_getElem hlt)
    exact ⟨i, blk[i], hi.1, by omega, hres,
      (image_span fresh L h.fresh_len h.disjoint h.result_eq ⟨bp, i⟩ _ hres img hfw).2⟩
  -- adjacent spans leave no gap, so `j` lies in one of them
  obtain ⟨sp, hspm, hc1, hc2⟩ := adjacent_cover rest s0 hadj
    (fun sp hspm => by obtain ⟨_, _, _, _, _, _, _, h1, _⟩ := hfrom sp hspm; exact Nat.le_of_lt h1) j ⟨hj1, hj2⟩
  obtain ⟨i, s, hia, hib, hres, rb', hrb', _, _, hall⟩ := hfrom sp hspm
  have hp : sp.1 = s0.1 := by simpa using List.all_eq_true.mp hsame _ hspm
  rw [hp, hrb] at hrb'
  cases hrb'
  exact ⟨i, s, hia, hib, hres, hall j s' hc1 hc2 hget⟩

/-- holds for every log, by construction -/
theorem forward_valid (L : EditLog) (c cur : Cursor) (hne : ∀ pid p, c ≠ .expr pid p)
    (hfw : L.forward c = .ok cur) : cur.pid = L.result.pid ∧ ValidIn L.result.body cur := by
  cases c with
  | expr pid p => exact absurd rfl (hne pid p)
  | region pid bp a b =>
    obtain ⟨_, _, _, _, _, _, _, _, h⟩ := forwardRegion_ok hfw
    exact h
  | stmt pid p =>
    have h : L.forwardStmtCursor pid p = .ok cur := hfw
    unfold EditLog.forwardStmtCursor at h
    -- every successful exit is a `mkStmtCursor` or a `mkRegion`
    split at h
    · cases h
    · split at h
      · cases h
      · obtain ⟨rfl, hs⟩ := mkStmtCursor_ok h; exact ⟨rfl, hs⟩
      · split at h
        · obtain ⟨rfl, hs⟩ := mkStmtCursor_ok h; exact ⟨rfl, hs⟩
        · split at h
          · cases h
          · obtain ⟨rfl, hs⟩ := mkRegion_ok h; exact ⟨rfl, hs⟩

end Fpy.Cursor.Proof
