/-
C10 (rounding-lowering rewrites), number level: the rules of the relations "same result" of `Spec/Lower.lean`, and
the facts about `RealFloat` comparison and rounding behind `float_to_fixed`, `rescale_fixed`, `unfold_overflow` (and
its option `early_check`) and `elim_round`.
-/
import Fpy.Proof.RFOrder
import Fpy.Model.Lower
import Fpy.Spec.Lower
namespace Fpy.C10
open Fpy Fpy.Spec

theorem sameFV_refl (v : FV) : sameFV v v := by
  cases v <;> simp [sameFV, RF.eqV_refl]

theorem sameFV_fin (a b : RF) (hs : a.s = b.s) (h : a.eqV b) : sameFV (.fin a) (.fin b) := ⟨hs, h⟩

theorem sameFV_trans (a b c : FV) (h1 : sameFV a b) (h2 : sameFV b c) : sameFV a c := by
  cases a <;> cases b <;> try exact h1.elim
  all_goals cases c <;> try exact h2.elim
  · exact ⟨h1.1.trans h2.1, RF.eqV_trans _ _ _ h1.2 h2.2⟩
  · exact Eq.trans (α := Bool) h1 h2
  · trivial

theorem obsEq_refl (a : Except Err Res) : obsEq a a := by
  cases a <;> simp [obsEq, sameFV_refl]

theorem obsEq_ok (a b : FV) (f : Flags) (h : sameFV a b) : obsEq (.ok ⟨a, f⟩) (.ok ⟨b, f⟩) := ⟨h, rfl, rfl⟩

theorem obsEq_trans (a b c : Except Err Res) (h1 : obsEq a b) (h2 : obsEq b c) : obsEq a c := by
  cases a <;> cases b <;> try exact h1.elim
  all_goals cases c <;> try exact h2.elim
  · exact Eq.trans (α := Err) h1 h2
  · exact ⟨sameFV_trans _ _ _ h1.1 h2.1, h1.2.1.trans h2.2.1, h1.2.2.trans h2.2.2⟩

instance (a b : Except Err FV) : Decidable (obsEqV a b) := by
  cases a <;> cases b <;> unfold obsEqV <;> exact inferInstance

theorem obsEqV_refl (a : Except Err FV) : obsEqV a a := by
  cases a <;> simp [obsEqV, sameFV_refl]

theorem gt_false_of_signs (t b : RF) (ht : t.c = 0 ∨ t.s = true) (hb : b.c = 0 ∨ b.s = false) : t.gt b = false :=
  (RF.gt_eq_false_iff t b _ (RF.okAt_min_left t b) (RF.okAt_min_right t b)).2
    (Int.le_trans (RF.sc_nonpos_of_neg t _ ht) (RF.sc_nonneg_of_pos b _ hb))

theorem lt_false_of_signs (t b : RF) (ht : t.c = 0 ∨ t.s = false) (hb : b.c = 0 ∨ b.s = true) : t.lt b = false := by
  rw [RF.lt_eq_gt_swap]; exact gt_false_of_signs b t hb ht

theorem pos_of_gt (t b : RF) (hb : b.c = 0 ∨ b.s = false) (h : t.gt b = true) : t.c ≠ 0 ∧ t.s = false := by
  refine ⟨fun h0 => ?_, ?_⟩
  · rw [gt_false_of_signs t b (Or.inl h0) hb] at h; cases h
  · cases hs : t.s
    · rfl
    · rw [gt_false_of_signs t b (Or.inr hs) hb] at h; cases h

theorem neg_of_lt (t b : RF) (hb : b.c = 0 ∨ b.s = true) (h : t.lt b = true) : t.c ≠ 0 ∧ t.s = true := by
  refine ⟨fun h0 => ?_, ?_⟩
  · rw [lt_false_of_signs t b (Or.inl h0) hb] at h; cases h
  · cases hs : t.s
    · rw [lt_false_of_signs t b (Or.inr hs) hb] at h; cases h
    · rfl

/-- the test the emitted program makes (`t > maxval`, else `t < neg_maxval`) decides what the context's own
sign-split test decides, for bounds of the right signs -/
theorem emitted_test (t pos neg : RF) (hp : pos.c = 0 ∨ pos.s = false) (hn : neg.c = 0 ∨ neg.s = true) :
    (if t.s then t.lt neg else t.gt pos) = (t.gt pos || t.lt neg) := by
  cases hs : t.s
  · simp [lt_false_of_signs t neg (Or.inr hs) hn]
  · simp [gt_false_of_signs t pos (Or.inr hs) hp]

theorem compare_of_e_gt (a b : RF) (ha : a.c ≠ 0) (hb : b.c ≠ 0) (hs : a.s = b.s) (he : a.e > b.e) :
    a.compare b = if a.s then .lt else .gt := by
  unfold RF.compare
  simp only [ha, hb, if_false, hs, bne_self_eq_false, Bool.false_eq_true, he, if_true]
  cases b.s <;> rfl

theorem past_of_e_gt (t pos neg : RF) (htc : t.c ≠ 0) (hpc : pos.c ≠ 0) (hps : pos.s = false)
    (hnc : neg.c ≠ 0) (hns : neg.s = true) (he : if t.s then neg.e < t.e else pos.e < t.e) :
    t.gt pos = !t.s ∧ t.lt neg = t.s := by
  cases hts : t.s <;> rw [hts] at he <;> simp only [Bool.false_eq_true, if_false, if_true] at he
  · have hc1 := compare_of_e_gt t pos htc hpc (by rw [hts, hps]) he
    rw [hts] at hc1
    exact ⟨by unfold RF.gt; rw [hc1]; rfl, lt_false_of_signs t neg (Or.inr hts) (Or.inr hns)⟩
  · have hc1 := compare_of_e_gt t neg htc hnc (by rw [hts, hns]) he
    rw [hts] at hc1
    exact ⟨gt_false_of_signs t pos (Or.inr hts) (Or.inr hps), by unfold RF.lt; rw [hc1]; rfl⟩

/-- the digit position a float rounding with `p` digits and least position `minN` rounds `x` at
(`RealFloat._round_params`) -/
def floatPos (x : RF) (p : Nat) (minN : Option Int) : Int :=
  match minN with | none => x.e - p | some m => max m (x.e - p)

theorem round_fixed_spec (x : RF) (n : Int) (rm : RM) :
    x.round none (some n) rm =
      .ok (if x.exp > n then (x, {})
           else (⟨x.s, n + 1, roundQuot rm x.s x.c (n + 1 - x.exp).toNat⟩,
                 { inexact := decide (x.c % 2 ^ (n + 1 - x.exp).toNat ≠ 0) })) :=
  roundAtCore_none x n rm

theorem round_fixed_sign (x : RF) (n : Int) (rm : RM) (hc : x.c ≠ 0)
    (y : RF) (fl : Flags) (h : x.round none (some n) rm = .ok (y, fl)) : y.s = x.s := by
  rw [round_fixed_spec x n rm] at h
  split at h <;> cases h <;> rfl

/-- the float rounding is the fixed rounding at its position, re-normalised (`roundAtCore_some`, `carry_eqV`) -/
theorem float_fixed_round (x : RF) (p : Nat) (minN : Option Int) (rm : RM) (hc : x.c ≠ 0) (hp : 1 ≤ p) :
    ∃ y fl y' fl', x.round (some p) minN rm = .ok (y, fl) ∧
      x.round none (some (floatPos x p minN)) rm = .ok (y', fl') ∧
      y.s = x.s ∧ y'.s = x.s ∧ y.eqV y' ∧ fl.inexact = fl'.inexact ∧ fl.overflow = false ∧ fl'.overflow = false := by
  obtain ⟨y, fl, h1, ho, hy, fl', h2, hi, ho'⟩ :=
    roundAtCore_some x p (floatPos x p minN) (minN.map ((p : Int) + ·)) rm hc (roundPos_ge x.e p minN)
  have hs : y.s = x.s := round_fixed_sign x _ rm hc y fl h1
  rw [RF.round_float]
  exact ⟨_, fl', y, fl, h2, h1, (y.carry_spec p hp hy).1.trans hs, hs, RF.carry_eqV y p hp hy, hi, ho', ho⟩

theorem round_float_sign (x : RF) (p : Nat) (minN : Option Int) (rm : RM) (hc : x.c ≠ 0) (hp : 1 ≤ p)
    (y : RF) (fl : Flags) (h : x.round (some p) minN rm = .ok (y, fl)) : y.s = x.s := by
  obtain ⟨y', fl', _, _, h1, _, hs, _⟩ := float_fixed_round x p minN rm hc hp
  rw [h] at h1
  injection h1 with h1; injection h1 with h1 _
  rw [h1]; exact hs

theorem round_fixed_e_ge (x : RF) (n : Int) (rm : RM) (hc : x.c ≠ 0) (hn : n + 1 ≤ x.e)
    (y : RF) (fl : Flags) (h : x.round none (some n) rm = .ok (y, fl)) : y.c ≠ 0 ∧ x.e ≤ y.e := by
  rw [round_fixed_spec x n rm] at h
  split at h <;> cases h
  · exact ⟨hc, Int.le_refl _⟩
  · generalize hk : (n + 1 - x.exp).toNat = k
    have hbl := bitLength_pos hc
    obtain ⟨j, hj⟩ : ∃ j, bitLength x.c = j + k + 1 :=
      ⟨bitLength x.c - 1 - k, by unfold RF.e RF.p at hn; omega⟩
    -- the lower neighbour already has `j + 1 = bitLength x.c − k` digits (`bitLength_div_pow`), and the rounding is not below it
    have hq := bitLength_div_pow x.c k (j + 1) (by omega) (by omega)
    have hb := bitLength_le_of_le (a := x.c / 2 ^ k) (b := roundQuot rm x.s x.c k)
      (by rcases roundQuot_neighbour rm x.s x.c k with h | h <;> omega)
    have hne : roundQuot rm x.s x.c k ≠ 0 := fun h0 => by rw [h0, bitLength_zero] at hb; omega
    refine ⟨hne, ?_⟩
    unfold RF.e RF.p
    simp only
    omega

/-- an operand in a binade above the bound's on its side is past that bound however coarsely it is rounded
(below its leading digit): the early check's claim, and what an active clamp of `float_to_fixed` relies on -/
theorem round_fixed_past (x : RF) (n : Int) (rm : RM) (hc : x.c ≠ 0) (hn : n + 1 ≤ x.e) (pos neg : RF)
    (hpc : pos.c ≠ 0) (hps : pos.s = false) (hnc : neg.c ≠ 0) (hns : neg.s = true)
    (hbig : if x.s then neg.e < x.e else pos.e < x.e)
    (y : RF) (fl : Flags) (h : x.round none (some n) rm = .ok (y, fl)) :
    y.s = x.s ∧ y.gt pos = !x.s ∧ y.lt neg = x.s := by
  have hys := round_fixed_sign x n rm hc y fl h
  obtain ⟨hyc, he⟩ := round_fixed_e_ge x n rm hc hn y fl h
  rw [← hys] at hbig ⊢
  refine ⟨rfl, past_of_e_gt y pos neg hyc hpc hps hnc hns ?_⟩
  revert hbig
  cases y.s
  · exact fun hbig => Int.lt_of_lt_of_le hbig he
  · exact fun hbig => Int.lt_of_lt_of_le hbig he

theorem round_fixed_le_pow (x : RF) (n E : Int) (rm : RM) (hc : x.c ≠ 0) (hE : x.e < E) (hn : n + 1 ≤ E)
    (y : RF) (fl : Flags) (h : x.round none (some n) rm = .ok (y, fl)) :
    y.gt ⟨false, E, 1⟩ = false ∧ y.lt ⟨true, E, 1⟩ = false := by
  have key : y.okAt (n + 1) ∧ y.mag (n + 1) ≤ 2 ^ (E - (n + 1)).toNat := by
    rw [round_fixed_spec x n rm] at h
    split at h <;> cases h
    · have hb := RF.e_eq_bitLength_mag x (n + 1) hc (by omega)
      exact ⟨Or.inr (by omega), Nat.le_of_lt ((bitLength_le_iff _ _).1 (by omega))⟩
    · refine ⟨RF.okAt_self _, ?_⟩
      have e0 : (n + 1 - (n + 1)).toNat = 0 := by omega
      unfold RF.mag
      simp only [e0, Nat.pow_zero, Nat.mul_one]
      exact roundQuot_le_pow _ _ _ _ _ (quot_lt_pow x _ _ n (Int.toNat_of_nonneg (by omega)) (by omega))
  obtain ⟨hy, hm⟩ := key
  have hb : ∀ s, (⟨s, E, 1⟩ : RF).okAt (n + 1) := fun s => Or.inr hn
  have hbm : ∀ s, (⟨s, E, 1⟩ : RF).mag (n + 1) = 2 ^ (E - (n + 1)).toNat := fun s => Nat.one_mul _
  generalize (2 ^ (E - (n + 1)).toNat : Nat) = G at hm hbm
  have hsc : -(G : Int) ≤ y.sc (n + 1) ∧ y.sc (n + 1) ≤ G := by
    rw [RF.sc_eq_mag]; cases y.s <;> simp <;> omega
  refine ⟨(RF.gt_eq_false_iff y _ (n + 1) hy (hb false)).2 ?_, (RF.lt_eq_false_iff y _ (n + 1) hy (hb true)).2 ?_⟩
  · rw [RF.sc_eq_mag ⟨false, E, 1⟩, hbm, if_neg Bool.false_ne_true, Int.one_mul]; exact hsc.2
  · rw [RF.sc_eq_mag ⟨true, E, 1⟩, hbm, if_pos rfl, Int.neg_one_mul]; exact hsc.1

theorem shift_shift (x : RF) (k : Int) : shiftRF (shiftRF x k) (-k) = x := by
  cases x; simp [shiftRF, Int.add_neg_cancel_right]

theorem sc_shift_eq (x : RF) (g k : Int) : (shiftRF x k).sc (g + k) = x.sc g := by
  unfold RF.sc shiftRF
  have : (x.exp + k - (g + k)).toNat = (x.exp - g).toNat := by omega
  simp only [this]

theorem okAt_shift {x : RF} {g : Int} (h : x.okAt g) (k : Int) : (shiftRF x k).okAt (g + k) := by
  rcases h with h | h
  · exact Or.inl h
  · exact Or.inr (by show g + k ≤ x.exp + k; omega)

theorem compare_shift (x y : RF) (k : Int) : (shiftRF x k).compare (shiftRF y k) = x.compare y := by
  have hx : x.okAt (min x.exp y.exp) := RF.okAt_min_left x y
  have hy : y.okAt (min x.exp y.exp) := RF.okAt_min_right x y
  rw [RF.compare_spec x y _ hx hy, RF.compare_spec _ _ _ (okAt_shift hx k) (okAt_shift hy k), sc_shift_eq, sc_shift_eq]

theorem gt_shift (x y : RF) (k : Int) : (shiftRF x k).gt (shiftRF y k) = x.gt y := by
  unfold RF.gt; rw [compare_shift]

theorem lt_shift (x y : RF) (k : Int) : (shiftRF x k).lt (shiftRF y k) = x.lt y := by
  unfold RF.lt; rw [compare_shift]

theorem shift_past_self (b : RF) (k : Nat) (hk : 1 ≤ k) (hc : b.c ≠ 0) :
    (if b.s then (shiftRF b k).lt b else (shiftRF b k).gt b) = true := by
  have h1 : (shiftRF b k).okAt b.exp := Or.inr (by show b.exp ≤ b.exp + k; omega)
  have hsc : (shiftRF b k).sc b.exp = b.sc b.exp * 2 ^ k := by
    have := sc_shift_eq b (b.exp - k) k
    rw [Int.sub_add_cancel] at this
    rw [this, RF.sc_shift b b.exp (b.exp - k) (RF.okAt_self b) (by omega)]
    congr 2; omega
  have h2 : (1 : Int) < 2 ^ k := by
    have := Int.pow_lt_pow_of_lt (a := 2) (by decide) (show 0 < k from hk); simpa using this
  cases hs : b.s
  · have hp := RF.sc_pos b b.exp hc hs
    simp only [Bool.false_eq_true, if_false]
    rw [RF.gt_iff _ _ b.exp h1 (RF.okAt_self b), hsc]
    have := Int.mul_lt_mul_of_pos_left h2 hp; omega
  · have hn := RF.sc_neg b b.exp hc hs
    simp only [if_true]
    rw [RF.lt_iff _ _ b.exp h1 (RF.okAt_self b), hsc]
    have := Int.mul_lt_mul_of_neg_left h2 hn; omega

/-- a bound the float format represents: non-zero, at most `p` digits, all of them above `nmin` -/
def BoundOk (p : Nat) (nmin : Int) (b : RF) : Prop := b.c ≠ 0 ∧ bitLength b.c ≤ p ∧ nmin < b.exp

/-- a bound on the grid of the fixed-point format -/
def BoundOkFix (nmin : Int) (b : RF) : Prop := b.c ≠ 0 ∧ nmin < b.exp

theorem round_float_representable (x : RF) (p : Nat) (nmin : Int) (rm : RM) (hc : x.c ≠ 0) (hp : 1 ≤ p)
    (hd : bitLength x.c ≤ p) (hn : nmin < x.exp) :
    ∃ fl, x.round (some p) (some nmin) rm = .ok (x, fl) ∧ fl.inexact = false := by
  obtain ⟨y, fl, h1, _, _, _, h5, _⟩ :=
    roundAtCore_prec x p (max nmin (x.e - p)) (some ((p : Int) + nmin)) rm hc hp (by omega)
  have h0 : x.exp > max nmin (x.e - p) := by unfold RF.e RF.p; omega
  obtain ⟨hy, hi⟩ := h5 h0
  rw [hy] at h1
  exact ⟨fl, h1, hi⟩

theorem round_fixed_representable (x : RF) (n : Int) (rm : RM) (h : x.exp > n) :
    ∃ fl, x.round none (some n) rm = .ok (x, fl) ∧ fl.inexact = false :=
  ⟨_, roundAtCore_above x n rm false h, rfl⟩

end Fpy.C10
