/-
The front end of `Fpy.Model.Skel.Check` against the run-time semantics of `Fpy.Model.Skel.Skel`
(property C15): the invariant "every name the checker marks as defined on all paths is bound at run
time" is carried through the fuel-driven semantics together with "the reachability analysis calls the
exit of what has just ended normally reachable" (`sound`), hence `safe_of_frontend`.
`noZero_agrees`: restricting `for` loops with a named target to non-zero trip counts only removes runs.
The checker and the semantics are used through their equations per statement kind
(`checkS_*`, `exec_*`).
-/
import Fpy.Model.Skel.Check
import Fpy.Proof.Except
namespace Fpy.Skel

theorem exists_unit {p : Unit → Prop} : (∃ u, p u) ↔ p () := ⟨fun ⟨_, h⟩ => h, fun h => ⟨(), h⟩⟩

@[simp] theorem Env.extend_term (env : Env) (x : Name) : (env.extend x).term = env.term := rfl

@[simp] theorem Env.extendAll_term (env : Env) (ts : List Name) : (env.extendAll ts).term = env.term := by
  induction ts generalizing env with
  | nil => rfl
  | cons t ts ih => rw [Env.extendAll, ih, Env.extend_term]

theorem Env.extendAll_get (env : Env) (ts : List Name) (x : Name) :
    (env.extendAll ts).get x = some true ↔ x ∈ ts ∨ env.get x = some true := by
  induction ts generalizing env with
  | nil => simp [Env.extendAll]
  | cons t ts ih =>
    simp only [Env.extendAll, ih, Env.extend, List.mem_cons]
    by_cases h : x = t <;> simp [h]

theorem Env.extendAll_get_none (env : Env) (ts : List Name) (x : Name) (hx : x ∉ ts) :
    (env.extendAll ts).get x = env.get x := by
  induction ts generalizing env with
  | nil => rfl
  | cons t ts ih =>
    simp only [List.mem_cons, not_or] at hx
    rw [Env.extendAll, ih _ hx.2, Env.extend]
    exact if_neg hx.1

theorem Env.extendOpt_eq (env : Env) (a : Option Name) : env.extendOpt a = env.extendAll (asList a) := by
  cases a <;> rfl

theorem mergeGet_eq_true {a b : Name → Option Bool} {x : Name} :
    mergeGet a b x = some true ↔ a x = some true ∧ b x = some true := by
  unfold mergeGet
  cases a x <;> cases b x <;> simp

theorem Env.merge_term (a b : Env) : (a.merge b).term = (a.term && b.term) := by
  unfold Env.merge
  cases a.term <;> cases b.term <;> rfl

theorem Env.merge_get {a b : Env} {x : Name} : (a.merge b).get x = some true ↔
    (a.term = false ∨ b.term = false) ∧ (a.term = false → a.get x = some true) ∧
      (b.term = false → b.get x = some true) := by
  unfold Env.merge
  cases a.term <;> cases b.term <;> simp [Env.empty, mergeGet_eq_true]

theorem Env.merge_left {a b : Env} (ha : a.term = false) {x : Name}
    (h : (a.merge b).get x = some true) : a.get x = some true :=
  (Env.merge_get.1 h).2.1 ha

theorem Env.merge_right {a b : Env} (hb : b.term = false) {x : Name}
    (h : (a.merge b).get x = some true) : b.get x = some true :=
  (Env.merge_get.1 h).2.2 hb

theorem Env.merge_both {a b : Env} (ha : a.term = false) {x : Name}
    (h1 : a.get x = some true) (h2 : b.get x = some true) : (a.merge b).get x = some true :=
  Env.merge_get.2 ⟨Or.inl ha, fun _ => h1, fun _ => h2⟩

/-- every name `env` marks as defined on all paths satisfies `S` -/
def Env.Defs (env : Env) (S : Name → Prop) : Prop := ∀ x, env.get x = some true → S x

theorem Env.Defs.extendAll {env : Env} {S : Name → Prop} (h : env.Defs S) (ts : List Name) :
    (env.extendAll ts).Defs fun x => x ∈ ts ∨ S x :=
  fun x hx => ((Env.extendAll_get env ts x).1 hx).imp_right (h x)

/-- a live checker environment against the names bound at run time -/
def Inv (env : Env) (σ : List Name) : Prop := env.term = false ∧ env.Defs (· ∈ σ)

theorem Inv.mono {env : Env} {σ σ' : List Name} (h : Inv env σ) (hs : σ ⊆ σ') : Inv env σ' :=
  ⟨h.1, fun x hx => hs (h.2 x hx)⟩

theorem Inv.extendAll {env : Env} {σ : List Name} (h : Inv env σ) (ts : List Name) :
    Inv (env.extendAll ts) (ts ++ σ) :=
  ⟨by rw [Env.extendAll_term, h.1], fun x hx => List.mem_append.2 (h.2.extendAll ts x hx)⟩

theorem Inv.merge_left {a b : Env} {σ : List Name} (h : Inv a σ) : Inv (a.merge b) σ :=
  ⟨by rw [Env.merge_term, h.1]; rfl, fun _ hx => h.2 _ (Env.merge_left h.1 hx)⟩

theorem Inv.merge_right {a b : Env} {σ : List Name} (h : Inv b σ) : Inv (a.merge b) σ :=
  ⟨by rw [Env.merge_term, h.1, Bool.and_false], fun _ hx => h.2 _ (Env.merge_right h.1 hx)⟩

theorem checkE_var {env : Env} {x : Name} : checkE env (.var x) = .ok () ↔ env.get x = some true := by
  rw [checkE, useName]
  split <;> simp_all

theorem checkE_op {env : Env} {a b : Expr} :
    checkE env (.op a b) = .ok () ↔ checkE env a = .ok () ∧ checkE env b = .ok () := by
  simp only [checkE, bind_eq_ok, exists_unit]

theorem checkE_comp {env : Env} {ts : List Name} {it body : Expr} :
    checkE env (.comp ts it body) = .ok () ↔
      checkE env it = .ok () ∧ checkE (env.extendAll ts) body = .ok () := by
  simp only [checkE, bind_eq_ok, exists_unit]

theorem evalE_sound : ∀ f,
    (∀ {env : Env} {σ : List Name} {e : Expr} {ch : List Nat}, checkE env e = .ok () →
        env.Defs (· ∈ σ) → ∀ y, evalE f σ e ch ≠ .unbound y) ∧
    (∀ {env : Env} {σ : List Name} {e : Expr} {n : Nat} {ch : List Nat}, checkE env e = .ok () →
        env.Defs (· ∈ σ) → ∀ y, evalN f σ e n ch ≠ .unbound y) := by
  intro f
  induction f with
  | zero => exact ⟨fun _ _ _ => nofun, fun _ _ _ => nofun⟩
  | succ f ih =>
    obtain ⟨ihE, ihN⟩ := ih
    constructor
    · intro env σ e ch hc hs y
      cases e with
      | lit => nofun
      | var x => simp [evalE, hs x (checkE_var.1 hc)]
      | op a b =>
        obtain ⟨h1, h2⟩ := checkE_op.1 hc
        simp only [evalE]
        cases h : evalE f σ a ch with
        | ok ch' => exact ihE h2 hs y
        | unbound z => exact absurd h (ihE h1 hs z)
        | timeout => nofun
      | comp ts it body =>
        obtain ⟨h1, h2⟩ := checkE_comp.1 hc
        simp only [evalE]
        cases h : evalE f σ it ch with
        | ok ch' =>
          cases ch' with
          | nil => nofun
          | cons n ch'' =>
            exact ihN h2 (fun x hx => List.mem_append.2 (hs.extendAll ts x hx)) y
        | unbound z => exact absurd h (ihE h1 hs z)
        | timeout => nofun
    · intro env σ e n ch hc hs y
      cases n with
      | zero => nofun
      | succ n =>
        simp only [evalN]
        cases h : evalE f σ e ch with
        | ok ch' => exact ihN hc hs y
        | unbound z => exact absurd h (ihE hc hs z)
        | timeout => nofun

section
variable {m : Mode} {env env' : Env}

theorem checkS_assign {ts : List Name} {e : Expr} :
    checkS m env (.assign ts e) = .ok env' ↔ checkE env e = .ok () ∧ env.extendAll ts = env' := by
  simp only [checkS, bind_eq_ok, pure_eq_ok, exists_unit]

theorem checkS_if1 {cnd : Expr} {t : Block} : checkS m env (.if1 cnd t) = .ok env' ↔
    checkE env cnd = .ok () ∧ ∃ ift, checkB m env t = .ok ift ∧ env.merge ift = env' := by
  simp only [checkS, bind_eq_ok, pure_eq_ok, exists_unit]

theorem checkS_ite {cnd : Expr} {t e : Block} : checkS m env (.ite cnd t e) = .ok env' ↔
    checkE env cnd = .ok () ∧ ∃ ift, checkB m env t = .ok ift ∧
      ∃ iff, checkB m env e = .ok iff ∧ ift.merge iff = env' := by
  simp only [checkS, bind_eq_ok, pure_eq_ok, exists_unit]

theorem checkS_while {cnd : Expr} {b : Block} : checkS m env (.while cnd b) = .ok env' ↔
    ∃ body, checkB m env b = .ok body ∧ checkE (env.merge body) cnd = .ok () ∧ env.merge body = env' := by
  simp only [checkS, bind_eq_ok, pure_eq_ok, exists_unit]

theorem checkS_for {ts : List Name} {it : Expr} {b : Block} : checkS m env (.for ts it b) = .ok env' ↔
    checkE env it = .ok () ∧ ∃ body, checkB m (env.extendAll ts) b = .ok body ∧
      (if m.forLeak then env.extendAll ts else env).merge body = env' := by
  simp only [checkS, bind_eq_ok, pure_eq_ok, exists_unit]

theorem checkS_with {e : Expr} {a : Option Name} {b : Block} : checkS m env (.with e a b) = .ok env' ↔
    checkE env e = .ok () ∧ checkB m (env.extendAll (asList a)) b = .ok env' := by
  simp only [checkS, bind_eq_ok, exists_unit, Env.extendOpt_eq]

theorem checkS_ret {e : Expr} : checkS m env (.ret e) = .ok env' ↔
    checkE env e = .ok () ∧ (if m.absorb then Env.empty true else env) = env' := by
  simp only [checkS, bind_eq_ok, pure_eq_ok, exists_unit]

theorem checkS_eff {e : Expr} : checkS m env (.eff e) = .ok env' ↔ checkE env e = .ok () ∧ env = env' := by
  simp only [checkS, bind_eq_ok, pure_eq_ok, exists_unit]

theorem checkS_pass : checkS m env .pass = .ok env' ↔ env = env' := by
  simp only [checkS, pure_eq_ok]

theorem checkB_nil : checkB m env .nil = .ok env' ↔ env = env' := by
  simp only [checkB, pure_eq_ok]

theorem checkB_cons {s : Stmt} {b : Block} : checkB m env (.cons s b) = .ok env' ↔
    ∃ env1, checkS m env s = .ok env1 ∧ checkB m env1 b = .ok env' := by
  simp only [checkB, bind_eq_ok]

end

/-- the two continuation shapes of `exec`: `pop` draws the next choice (none left: `timeout`), `seq` goes on after a
normal outcome and hands any other on -/
def pop (ch : List Nat) (k : Nat → List Nat → Outcome) : Outcome :=
  match ch with
  | [] => .timeout
  | n :: ch' => k n ch'

def Outcome.seq (o : Outcome) (k : List Name → List Nat → Outcome) : Outcome :=
  match o with
  | .normal σ ch => k σ ch
  | r => r

section
variable {z : Bool} {f : Nat} {σ : List Name} {ch : List Nat}

theorem exec_assign {ts : List Name} {e : Expr} :
    exec z (f + 1) σ (.assign ts e) ch = onE (evalE f σ e ch) fun ch' => .normal (ts ++ σ) ch' := rfl

theorem exec_ite {c : Expr} {t e : Block} : exec z (f + 1) σ (.ite c t e) ch =
    onE (evalE f σ c ch) fun ch' => pop ch' fun k ch'' =>
      if k = 0 then execB z f σ e ch'' else execB z f σ t ch'' := rfl

theorem exec_if1 {c : Expr} {t : Block} : exec z (f + 1) σ (.if1 c t) ch =
    onE (evalE f σ c ch) fun ch' => pop ch' fun k ch'' =>
      if k = 0 then .normal σ ch'' else execB z f σ t ch'' := rfl

theorem exec_while {c : Expr} {b : Block} : exec z (f + 1) σ (.while c b) ch =
    onE (evalE f σ c ch) fun ch' => pop ch' fun k ch'' =>
      if k = 0 then .normal σ ch''
      else (execB z f σ b ch'').seq fun σ' ch3 => exec z f σ' (.while c b) ch3 := rfl

theorem exec_for {ts : List Name} {it : Expr} {b : Block} : exec z (f + 1) σ (.for ts it b) ch =
    onE (evalE f σ it ch) fun ch' => pop ch' fun n ch'' =>
      if z && n == 0 && !ts.isEmpty then .excluded else execFor z f σ ts b n ch'' := rfl

theorem exec_with {e : Expr} {a : Option Name} {b : Block} : exec z (f + 1) σ (.with e a b) ch =
    onE (evalE f σ e ch) fun ch' => execB z f (asList a ++ σ) b ch' := rfl

theorem exec_ret {e : Expr} : exec z (f + 1) σ (.ret e) ch = onE (evalE f σ e ch) fun _ => .returned := rfl

theorem exec_eff {e : Expr} : exec z (f + 1) σ (.eff e) ch = onE (evalE f σ e ch) fun ch' => .normal σ ch' := rfl

theorem exec_pass : exec z (f + 1) σ .pass ch = .normal σ ch := rfl

theorem execB_nil : execB z (f + 1) σ .nil ch = .normal σ ch := rfl

theorem execB_cons {s : Stmt} {b : Block} :
    execB z (f + 1) σ (.cons s b) ch = (exec z f σ s ch).seq fun σ' ch' => execB z f σ' b ch' := rfl

theorem execFor_zero {ts : List Name} {b : Block} : execFor z (f + 1) σ ts b 0 ch = .normal σ ch := rfl

theorem execFor_succ {ts : List Name} {b : Block} {n : Nat} : execFor z (f + 1) σ ts b (n + 1) ch =
    (execB z f (ts ++ σ) b ch).seq fun σ' ch' => execFor z f σ' ts b n ch' := rfl

end

/-- the outcome is not an unbound read, and if control reached the end the bound names satisfy `P` -/
def Good (P : List Name → Prop) : Outcome → Prop
  | .normal σ' _ => P σ'
  | .unbound _ => False
  | _ => True

@[simp] theorem Good_normal {P : List Name → Prop} {σ : List Name} {ch : List Nat} : Good P (.normal σ ch) = P σ := rfl
@[simp] theorem Good_timeout {P : List Name → Prop} : Good P .timeout = True := rfl
@[simp] theorem Good_returned {P : List Name → Prop} : Good P .returned = True := rfl
@[simp] theorem Good_excluded {P : List Name → Prop} : Good P .excluded = True := rfl
@[simp] theorem Good_unbound {P : List Name → Prop} {x : Name} : Good P (.unbound x) = False := rfl

theorem Good.seq {P Q : List Name → Prop} {o : Outcome} {k : List Name → List Nat → Outcome}
    (h : Good Q o) (hk : ∀ σ ch, Q σ → Good P (k σ ch)) : Good P (o.seq k) := by
  cases o with
  | normal σ ch => exact hk σ ch h
  | unbound x => exact h.elim
  | _ => trivial

theorem Good.imp {P Q : List Name → Prop} {o : Outcome} (h : Good P o) (hpq : ∀ σ, P σ → Q σ) : Good Q o := by
  cases o with
  | normal σ ch => exact hpq σ h
  | _ => exact h

theorem Good.pop {P : List Name → Prop} {k : Nat → List Nat → Outcome} (hk : ∀ n ch, Good P (k n ch))
    (ch : List Nat) : Good P (pop ch k) := by
  cases ch with
  | nil => trivial
  | cons n ch => exact hk n ch

theorem Good.onE {env : Env} {σ : List Name} {e : Expr} (hc : checkE env e = .ok ())
    (hs : env.Defs (· ∈ σ)) {f : Nat} {ch : List Nat}
    {k : List Nat → Outcome} {P : List Name → Prop} (hk : ∀ ch', Good P (k ch')) :
    Good P (onE (evalE f σ e ch) k) := by
  cases h : evalE f σ e ch with
  | ok ch' => exact hk ch'
  | unbound z => exact absurd h ((evalE_sound f).1 hc hs z)
  | timeout => trivial

/-- Soundness of the checker's environment, when loop targets do not leak (`forLeak = false`) or `for` loops with
a named target never run zero times (`z = true`), and of the reachability analysis: a statement or block that ends
normally has an exit the analysis calls reachable (this half uses nothing of the checker; it rides on the same
induction because `safe_of_frontend` needs both of the same run).  The loop conjunct promises the body environment
only if the body ran (`n ≠ 0`): after zero trips nothing but `σ ⊆ σ'` is known, which is what the code before the
repair of F6 overlooked. -/
theorem sound (m : Mode) (z : Bool) (hm : m.forLeak = false ∨ z = true) : ∀ f,
    (∀ {env env' : Env} {σ : List Name} {s : Stmt} {ch : List Nat}, checkS m env s = .ok env' → Inv env σ →
        Good (fun σ' => (Inv env' σ' ∧ σ ⊆ σ') ∧ (reachS true s).1 = true) (exec z f σ s ch)) ∧
    (∀ {env env' : Env} {σ : List Name} {b : Block} {ch : List Nat}, checkB m env b = .ok env' → Inv env σ →
        Good (fun σ' => (Inv env' σ' ∧ σ ⊆ σ') ∧ (reachB true b).1 = true) (execB z f σ b ch)) ∧
    (∀ {env body : Env} {σ ts : List Name} {b : Block} {n : Nat} {ch : List Nat},
        checkB m (env.extendAll ts) b = .ok body → Inv env σ →
        Good (fun σ' => σ ⊆ σ' ∧ (n ≠ 0 → Inv body σ')) (execFor z f σ ts b n ch)) := by
  intro f
  induction f with
  | zero => exact ⟨fun _ _ => trivial, fun _ _ => trivial, fun _ _ => trivial⟩
  | succ f ih =>
    obtain ⟨ihS, ihB, ihF⟩ := ih
    refine ⟨?_, ?_, ?_⟩
    · intro env env' σ s ch hc hi
      cases s with
      | assign ts e =>
        obtain ⟨h1, rfl⟩ := checkS_assign.1 hc
        rw [exec_assign]
        exact Good.onE h1 hi.2 fun ch' => ⟨⟨hi.extendAll ts, List.subset_append_right ts σ⟩, rfl⟩
      | ite c t e =>
        obtain ⟨h1, ift, h2, iff, h3, rfl⟩ := checkS_ite.1 hc
        rw [exec_ite]
        refine Good.onE h1 hi.2 (Good.pop fun k ch'' => ?_)
        simp only [reachS, Bool.or_eq_true]
        split
        · exact (ihB h3 hi).imp fun σ' h => ⟨⟨h.1.1.merge_right, h.1.2⟩, .inr h.2⟩
        · exact (ihB h2 hi).imp fun σ' h => ⟨⟨h.1.1.merge_left, h.1.2⟩, .inl h.2⟩
      | if1 c t =>
        obtain ⟨h1, ift, h2, rfl⟩ := checkS_if1.1 hc
        rw [exec_if1]
        refine Good.onE h1 hi.2 (Good.pop fun k ch'' => ?_)
        split
        · exact ⟨⟨hi.merge_left, List.Subset.refl σ⟩, rfl⟩
        · exact (ihB h2 hi).imp fun σ' h => ⟨⟨h.1.1.merge_right, h.1.2⟩, rfl⟩
      | «while» c b =>
        obtain ⟨body, h1, h2, rfl⟩ := checkS_while.1 hc
        have hi' : Inv (env.merge body) σ := hi.merge_left
        rw [exec_while]
        refine Good.onE h2 hi'.2 (Good.pop fun k ch'' => ?_)
        split
        · exact ⟨⟨hi', List.Subset.refl σ⟩, rfl⟩
        · exact (ihB h1 hi).seq fun σ1 ch1 hB =>
            (ihS hc (hi.mono hB.1.2)).imp fun σ' h' => ⟨⟨h'.1.1, hB.1.2.trans h'.1.2⟩, rfl⟩
      | «for» ts it b =>
        obtain ⟨h1, body, h2, rfl⟩ := checkS_for.1 hc
        rw [exec_for]
        refine Good.onE h1 hi.2 (Good.pop fun n ch'' => ?_)
        by_cases hex : (z && n == 0 && !ts.isEmpty) = true
        · rw [if_pos hex]; trivial
        · rw [if_neg hex]
          refine (ihF h2 hi).imp fun σ' h => ⟨⟨?_, h.1⟩, rfl⟩
          by_cases hn : n = 0
          · -- zero trips: the names before the loop must do, so a leaking target is sound only if there is none
            refine Inv.merge_left (Inv.mono ?_ h.1)
            cases hfl : m.forLeak with
            | false => exact hi
            | true =>
              cases ts with
              | nil => exact hi
              | cons t ts => simp [hm.resolve_left (by rw [hfl]; nofun), hn] at hex
          · exact (h.2 hn).merge_right
      | «with» e a b =>
        obtain ⟨h1, h2⟩ := checkS_with.1 hc
        rw [exec_with]
        exact Good.onE h1 hi.2 fun ch' =>
          (ihB h2 (hi.extendAll _)).imp fun σ' h =>
            ⟨⟨h.1.1, (List.append_subset.1 h.1.2).2⟩, h.2⟩
      | ret e =>
        rw [exec_ret]
        exact Good.onE (checkS_ret.1 hc).1 hi.2 fun _ => trivial
      | eff e =>
        obtain ⟨h1, rfl⟩ := checkS_eff.1 hc
        rw [exec_eff]
        exact Good.onE h1 hi.2 fun _ => ⟨⟨hi, List.Subset.refl σ⟩, rfl⟩
      | pass =>
        cases checkS_pass.1 hc
        rw [exec_pass]
        exact ⟨⟨hi, List.Subset.refl σ⟩, rfl⟩
    · intro env env' σ b ch hc hi
      cases b with
      | nil =>
        cases checkB_nil.1 hc
        rw [execB_nil]
        exact ⟨⟨hi, List.Subset.refl σ⟩, rfl⟩
      | cons s b =>
        obtain ⟨env1, h1, h2⟩ := checkB_cons.1 hc
        rw [execB_cons]
        exact (ihS h1 hi).seq fun σ1 ch1 hS =>
          (ihB h2 hS.1.1).imp fun σ' h' => ⟨⟨h'.1.1, hS.1.2.trans h'.1.2⟩, by rw [reachB, hS.2]; exact h'.2⟩
    · intro env body σ ts b n ch hc hi
      cases n with
      | zero =>
        rw [execFor_zero]
        exact ⟨List.Subset.refl σ, fun h => absurd rfl h⟩
      | succ n =>
        rw [execFor_succ]
        refine (ihB hc (hi.extendAll ts)).seq fun σ1 ch1 hB => ?_
        have hs1 := (List.append_subset.1 hB.1.2).2
        exact (ihF hc (hi.mono hs1)).imp fun σ' h' => ⟨hs1.trans h'.1, fun _ => hB.1.1.mono h'.1⟩

/-- `o'`: the run under the restriction (`noZero = true`); `o`: the unrestricted run -/
def Agree (o o' : Outcome) : Prop := o' ≠ .excluded → o = o'

theorem Agree.onE {r : ERes} {k k' : List Nat → Outcome} (h : ∀ ch, Agree (k ch) (k' ch)) :
    Agree (onE r k) (onE r k') := by
  cases r with
  | ok ch => exact h ch
  | _ => exact fun _ => rfl

theorem Agree.pop {k k' : Nat → List Nat → Outcome} (h : ∀ n ch, Agree (k n ch) (k' n ch))
    (ch : List Nat) : Agree (pop ch k) (pop ch k') := by
  cases ch with
  | nil => exact fun _ => rfl
  | cons n ch => exact h n ch

theorem Agree.seq {o o' : Outcome} {k k' : List Name → List Nat → Outcome} (h : Agree o o')
    (hk : ∀ σ ch, Agree (k σ ch) (k' σ ch)) : Agree (o.seq k) (o'.seq k') := by
  intro hne
  cases o' with
  | normal σ ch => rw [h nofun]; exact hk σ ch hne
  | excluded => exact absurd rfl hne
  | _ => rw [h nofun]; rfl

theorem noZero_agrees : ∀ f,
    (∀ (σ : List Name) (s : Stmt) (ch : List Nat), Agree (exec false f σ s ch) (exec true f σ s ch)) ∧
    (∀ (σ : List Name) (b : Block) (ch : List Nat), Agree (execB false f σ b ch) (execB true f σ b ch)) ∧
    (∀ (σ ts : List Name) (b : Block) (n : Nat) (ch : List Nat),
        Agree (execFor false f σ ts b n ch) (execFor true f σ ts b n ch)) := by
  intro f
  induction f with
  | zero => exact ⟨fun _ _ _ _ => rfl, fun _ _ _ _ => rfl, fun _ _ _ _ _ _ => rfl⟩
  | succ f ih =>
    obtain ⟨ihS, ihB, ihF⟩ := ih
    refine ⟨?_, ?_, ?_⟩
    · intro σ s ch
      cases s with
      | ite c t e =>
        rw [exec_ite, exec_ite]
        refine Agree.onE (Agree.pop fun k ch2 => ?_)
        split
        · exact ihB σ e ch2
        · exact ihB σ t ch2
      | if1 c t =>
        rw [exec_if1, exec_if1]
        refine Agree.onE (Agree.pop fun k ch2 => ?_)
        split
        · exact fun _ => rfl
        · exact ihB σ t ch2
      | «while» c b =>
        rw [exec_while, exec_while]
        refine Agree.onE (Agree.pop fun k ch2 => ?_)
        split
        · exact fun _ => rfl
        · exact (ihB σ b ch2).seq fun σ1 ch3 => ihS σ1 (.while c b) ch3
      | «for» ts it b =>
        rw [exec_for, exec_for]
        refine Agree.onE (Agree.pop fun n ch2 => ?_)
        rw [Bool.false_and, Bool.false_and, if_neg Bool.false_ne_true]
        split
        · exact fun h => absurd rfl h
        · exact ihF σ ts b n ch2
      | «with» e a b =>
        rw [exec_with, exec_with]
        exact Agree.onE fun ch1 => ihB _ b ch1
      | _ => exact fun _ => rfl
    · intro σ b ch
      cases b with
      | nil => exact fun _ => rfl
      | cons s b =>
        rw [execB_cons, execB_cons]
        exact (ihS σ s ch).seq fun σ1 ch1 => ihB σ1 b ch1
    · intro σ ts b n ch
      cases n with
      | zero => exact fun _ => rfl
      | succ n =>
        rw [execFor_succ, execFor_succ]
        exact (ihB _ b ch).seq fun σ1 ch1 => ihF σ1 ts b n ch1

theorem Inv_init (args : List Name) : Inv (Env.init args) args := by
  have h : Inv (Env.empty false) [] := ⟨rfl, fun _ hx => nomatch hx⟩
  simpa [Env.init] using h.extendAll args

theorem frontend_eq_ok {m : Mode} {p : Func} : frontend m p = .ok () ↔
    (∃ env', checkB m (Env.init p.args) p.body = .ok env') ∧ reachCheck p = .ok () := by
  simp only [frontend, bind_eq_ok, exists_and_right]

theorem reachCheck_exit {p : Func} (h : reachCheck p = .ok ()) : (reachB true p.body).1 = false := by
  cases h1 : (reachB true p.body).1 with
  | false => rfl
  | true =>
    simp only [reachCheck, h1, if_true] at h
    split at h <;> cases h

theorem safe_of_frontend (m : Mode) (z : Bool) (hm : m.forLeak = false ∨ z = true) (p : Func)
    (h : frontend m p = .ok ()) (fuel : Nat) (ch : List Nat) : (call z fuel p ch).bad = false := by
  obtain ⟨⟨env', h1⟩, h2⟩ := frontend_eq_ok.1 h
  have hs := (sound m z hm fuel).2.1 (ch := ch) h1 (Inv_init p.args)
  unfold call
  cases hr : execB z fuel p.args p.body ch with
  | normal σ' ch' =>
    rw [hr, Good_normal, reachCheck_exit h2] at hs
    cases hs.2
  | unbound x => rw [hr] at hs; exact hs.elim
  | _ => rfl

end Fpy.Skel
