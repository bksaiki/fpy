/-
Whole contexts at the value level, through the normal form of `Proof/CtxCore.lean`: every result of `_round_at`
is a member of the context's format (or the configured substitute of a special value); on a finite non-zero
operand the bounded families return the unbounded rounding when it is in range and raise `overflow` exactly
when it is not.
-/
import Fpy.Proof.RoundValRF
import Fpy.Proof.CtxCore
import Fpy.Proof.Enc
namespace Fpy.C01v
open Fpy Fpy.Spec

theorem lt_iff_val (x y : RF) : x.lt y = true ↔ x.val < y.val := by
  unfold RF.lt; rw [← RF.cmpRat_lt_iff, ← RF.compare_cmpRat]; simp

theorem gt_iff_val (x y : RF) : x.gt y = true ↔ y.val < x.val := by
  unfold RF.gt; rw [← RF.cmpRat_gt_iff, ← RF.compare_cmpRat]; simp

theorem val_nonpos_of_neg (y : RF) (h : y.s = true) : y.val ≤ 0 := by
  apply Rat.not_lt.1
  intro h'
  have := (RF.val_pos_iff y).1 h'
  rw [h] at this; exact absurd this.1 (by decide)

theorem val_nonneg_of_pos (y : RF) (h : y.s = false) : 0 ≤ y.val := by
  apply Rat.not_lt.1
  intro h'
  have := (RF.val_neg_iff y).1 h'
  rw [h] at this; exact absurd this.1 (by decide)

theorem repFloatSub_zero (p : Nat) (nmin : Int) : RepFloatSub p nmin 0 := ⟨Or.inl rfl, onGrid_zero _⟩

theorem special_shape (o : Opts) (v : FV) (res : Res)
    (h : floatSpecial o v = some (.ok res) ∨ fixedSpecial o v = some (.ok res)) :
    (o.enableNan = true ∧ ∃ s, res.v = .nan s) ∨ (o.enableInf = true ∧ ∃ s, res.v = .inf s) ∨
    (o.enableNan = false ∧ ∃ w, o.nanValue = some w ∧ res.v = w) ∨
    (o.enableInf = false ∧ ∃ w, o.infValue = some w ∧ (res.v = w ∨ ∃ s, res.v = w.withSign s)) := by
  cases v with
  | fin x => simp [floatSpecial, fixedSpecial] at h
  | nan s =>
    simp only [floatSpecial, fixedSpecial, Option.some.injEq] at h
    cases hen : o.enableNan with
    | true =>
      simp only [hen, if_true, Except.ok.injEq] at h
      exact Or.inl ⟨rfl, by rcases h with h | h <;> exact ⟨_, by rw [← h]⟩⟩
    | false =>
      simp only [hen, Bool.false_eq_true, if_false, or_self] at h
      cases hv : o.nanValue with
      | none => rw [hv] at h; cases h
      | some w => rw [hv] at h; cases h; exact Or.inr (Or.inr (Or.inl ⟨rfl, w, rfl, rfl⟩))
  | inf s =>
    simp only [floatSpecial, fixedSpecial, Option.some.injEq] at h
    cases hen : o.enableInf with
    | true =>
      simp only [hen, if_true, Except.ok.injEq, or_self] at h
      exact Or.inr (Or.inl ⟨rfl, s, by rw [← h]⟩)
    | false =>
      simp only [hen, Bool.false_eq_true, if_false] at h
      cases hv : o.infValue with
      | none => rw [hv] at h; simp at h
      | some w =>
        rw [hv] at h; simp only [Except.ok.injEq] at h
        refine Or.inr (Or.inr (Or.inr ⟨rfl, w, rfl, ?_⟩))
        rcases h with h | h
        · exact Or.inr ⟨s, by rw [← h]⟩
        · exact Or.inl (by rw [← h])

theorem special_mem (C : Ctx) (o : Opts) (hI : hasInf C = o.enableInf) (hN : hasNan C = o.enableNan)
    (hi : infSub C = o.infValue) (hn : nanSub C = o.nanValue) (v : FV) (res : Res)
    (h : floatSpecial o v = some (.ok res) ∨ fixedSpecial o v = some (.ok res)) :
    CtxMember C res.v ∨ CtxSubstitute C res.v := by
  rcases special_shape o v res h with ⟨hen, s, e⟩ | ⟨hen, s, e⟩ | ⟨hen, w, hw, e⟩ | ⟨hen, w, hw, e⟩
  · left; rw [e]; exact hN.trans hen
  · left; rw [e]; exact hI.trans hen
  · exact Or.inr (Or.inr ⟨hN.trans hen, w, hn.trans hw, Or.inl e⟩)
  · exact Or.inr (Or.inl ⟨hI.trans hen, w, hi.trans hw, e⟩)

theorem overflowing_iff (negMax posMax y : RF) (h1 : negMax.val ≤ 0) (h2 : 0 ≤ posMax.val) :
    (if y.s then y.lt negMax else y.gt posMax) = true ↔ (y.val < negMax.val ∨ posMax.val < y.val) := by
  cases hs : y.s
  · have := val_nonneg_of_pos y hs
    simp only [Bool.false_eq_true, if_false, gt_iff_val]
    exact ⟨Or.inr, fun h => h.elim (fun h => by grind) id⟩
  · have := val_nonpos_of_neg y hs
    simp only [if_true, lt_iff_val]
    exact ⟨Or.inl, fun h => h.elim id (fun h => by grind)⟩

theorem range_sides {C : Ctx} {lo hi : RF} (hrange : C.range = some (lo, hi)) (hwf : CtxWF C) :
    lo.val ≤ 0 ∧ 0 ≤ hi.val := by
  cases C <;> simp only [Ctx.range, Option.some.injEq, Prod.mk.injEq, reduceCtorEq] at hrange <;>
    obtain ⟨rfl, rfl⟩ := hrange
  case mpb => exact ⟨hwf.2.2.2.1, hwf.2.2.2.2⟩
  case efloat => exact ⟨hwf.2.2.2.1, hwf.2.2.2.2.1⟩
  case mpbfix => exact ⟨hwf.2.2.1, hwf.2.2.2.1⟩

theorem outRange_iff {C : Ctx} {lo hi : RF} (hrange : C.range = some (lo, hi)) (hwf : CtxWF C) (y : RF) :
    C.inRange y = false ↔ (y.val < lo.val ∨ hi.val < y.val) := by
  obtain ⟨h1, h2⟩ := range_sides hrange hwf
  rw [← overflowing_iff lo hi y h1 h2]
  simp only [Ctx.inRange, hrange, Bool.not_eq_false']

theorem inRange_iff {C : Ctx} {lo hi : RF} (hrange : C.range = some (lo, hi)) (hwf : CtxWF C) (y : RF) :
    C.inRange y = true ↔ (lo.val ≤ y.val ∧ y.val ≤ hi.val) := by
  have := outRange_iff hrange hwf y
  rw [← Rat.not_lt, ← Rat.not_lt, ← not_or, ← this]
  simp

theorem hasNegZero_core {C : Ctx} (h : C.core.isSome = true) : hasNegZero C = !C.dropsNegZero := by
  cases C <;> simp only [Ctx.core, Option.isSome, reduceCtorEq] at h
  case mp | mps | mpb | efloat => rfl
  case mpfix | mpbfix => simp only [hasNegZero, Ctx.dropsNegZero, Bool.not_not]

theorem wf_mpb_of_efloat (c : EFloatParams) (hwf : CtxWF (.efloat c)) : CtxWF (.mpb c.mpb) := by
  obtain ⟨a, b, c', d, e, _⟩ := hwf
  exact ⟨a, b, c', d, e⟩

theorem zero_finMember {C : Ctx} (h : C.core.isSome = true) (hwf : CtxWF C) : CtxFinMember C 0 := by
  cases C <;> simp only [Ctx.core, Option.isSome, reduceCtorEq] at h
  case mp => exact Or.inl rfl
  case mps => exact repFloatSub_zero _ _
  case mpb => exact ⟨repFloatSub_zero _ _, range_sides rfl hwf⟩
  case efloat => exact ⟨repFloatSub_zero _ _, range_sides rfl hwf⟩
  case mpfix => exact onGrid_zero _
  case mpbfix => exact ⟨onGrid_zero _, range_sides rfl hwf⟩

theorem finMember_of_shape {C : Ctx} {P : Option Nat} {N : Option Int} {rm : RM} {k : Option Nat}
    (hcore : C.core = some (P, N, rm, k)) (hwf : CtxWF C) {y : RF}
    (hP : ∀ p, P = some p → bitLength y.c ≤ p) (hN : ∀ n, N = some n → y.exp > n)
    (hin : C.inRange y = true) : CtxFinMember C y.val := by
  cases C <;> simp only [Ctx.core, Option.some.injEq, Prod.mk.injEq, reduceCtorEq] at hcore <;>
    obtain ⟨rfl, rfl, rfl, rfl⟩ := hcore
  case mp => exact repFloat_of_bitLength y _ (hP _ rfl)
  case mps => exact repFloatSub_of_shape y _ _ (hP _ rfl) (hN _ rfl)
  case mpb => exact ⟨repFloatSub_of_shape y _ _ (hP _ rfl) (hN _ rfl), (inRange_iff rfl hwf y).1 hin⟩
  case efloat => exact ⟨repFloatSub_of_shape y _ _ (hP _ rfl) (hN _ rfl), (inRange_iff rfl hwf y).1 hin⟩
  case mpfix => exact onGrid_of_le_exp y _ (by have := hN _ rfl; omega)
  case mpbfix => exact ⟨onGrid_of_le_exp y _ (by have := hN _ rfl; omega), (inRange_iff rfl hwf y).1 hin⟩

theorem mpbOverflowed_mem (c : MPBParams) (hwf : CtxWF (.mpb c)) {xs : Bool} {y : RF} {res : Res}
    (h : mpbOverflowed c xs y = .ok res) : CtxMember (.mpb c) res.v ∨ CtxSubstitute (.mpb c) res.v := by
  obtain ⟨hp, hpm, hnm, hn0, hp0⟩ := hwf
  rcases ovfResult_arms h with ⟨-, -, ⟨hen, e⟩ | ⟨hen, iv, hiv, e⟩⟩ | ⟨-, e⟩ | ⟨-, e⟩
  · rw [e]; exact Or.inl hen
  · rw [e]; exact Or.inr (Or.inl ⟨hen, iv, hiv, Or.inr ⟨y.s, rfl⟩⟩)
  · rw [e]; left
    cases y.s
    · exact ⟨⟨hpm, by grind, Rat.le_refl⟩, fun _ _ => rfl⟩
    · exact ⟨⟨hnm, Rat.le_refl, by grind⟩, fun _ _ => rfl⟩
  · cases e

theorem fixOrdinal_val (nmin : Int) (x : RF) (hg : OnGrid (nmin + 1) x.val) :
    x.val = ((fixOrdinal nmin x : Int) : Rat) * (2 : Rat) ^ (nmin + 1) := by
  -- both sides in units of the common scale `g = min x.exp (nmin + 1)`: `x.val = units x g · 2^g` and
  -- `units x g = fixOrdinal nmin x · 2^(nmin + 1 − g)`
  have hu := fixOrdinal_units nmin x ((RF.isMoreSignificant_iff x nmin).2 hg) (min x.exp (nmin + 1))
    (Int.min_le_left ..) (Int.min_le_right ..)
  rw [RF.val_sc x _ (.inr (Int.min_le_left ..)), ← units_eq_sc, hu, Rat.intCast_mul, Rat.mul_assoc,
    Rat.intCast_natCast, ← RF.two_zpow_nat, ← RF.two_zpow_add]
  congr 2; omega

theorem rangeEnd_mem (c : MPBFixParams) (hwf : CtxWF (.mpbfix c)) (s : Bool) :
    CtxMember (.mpbfix c) (c.rangeEnd s).v := by
  obtain ⟨hpm, hnm, hn0, hp0, hps⟩ := hwf
  unfold MPBFixParams.rangeEnd
  cases s
  · simp only [Bool.false_eq_true, if_false]
    exact ⟨⟨hpm, by grind, Rat.le_refl⟩, fun _ h => by rw [hps] at h; cases h⟩
  · simp only [if_true]
    by_cases hz : (!(c.negMax.c != 0 && c.negMax.s)) = true
    · simp only [hz, if_true]
      exact ⟨by rw [RF.val_mk_zero]; exact ⟨onGrid_zero _, hn0, hp0⟩, fun _ h => by cases h⟩
    · simp only [hz, Bool.false_eq_true, if_false]
      refine ⟨⟨hnm, Rat.le_refl, by grind⟩, ?_⟩
      intro h1 _
      exfalso; apply hz; simp [h1]

/-- WRAP lands inside the range: the ordinal is reduced modulo the number of members -/
theorem mpbfixWrapped_mem (c : MPBFixParams) (hwf : CtxWF (.mpbfix c)) (y : RF) :
    CtxMember (.mpbfix c) (mpbfixWrapped c y) := by
  obtain ⟨hpm, hnm, hn0, hp0, hps⟩ := hwf
  have hG := RF.two_zpow_pos (c.nmin + 1)
  have e1 := fixOrdinal_val c.nmin c.negMax hnm
  have e2 := fixOrdinal_val c.nmin c.posMax hpm
  have hle : fixOrdinal c.nmin c.negMax ≤ fixOrdinal c.nmin c.posMax := by
    apply Rat.intCast_le_intCast.1
    apply Rat.le_of_mul_le_mul_right _ hG
    rw [← e1, ← e2]; grind
  unfold mpbfixWrapped
  simp only
  generalize fixOrdinal c.nmin c.negMax = a at *
  generalize fixOrdinal c.nmin c.posMax = b at *
  generalize fixOrdinal c.nmin y - a = d
  have m1 := Int.emod_nonneg d (by omega : b - a + 1 ≠ 0)
  have m2 := Int.emod_lt_of_pos d (by omega : 0 < b - a + 1)
  generalize hm : d % (b - a + 1) + a = M at *
  by_cases hM0 : M = 0
  · simp only [hM0, if_true]
    exact ⟨by rw [RF.val_mk_zero]; exact ⟨onGrid_zero _, hn0, hp0⟩, fun _ h => by cases h⟩
  · simp only [hM0, if_false]
    refine ⟨?_, fun h _ => absurd h (by simp only; omega)⟩
    rw [RF.val_ofSigned]
    refine ⟨⟨M, rfl⟩, ?_, ?_⟩
    · rw [e1]; exact Rat.mul_le_mul_of_nonneg_right (Rat.intCast_le_intCast.2 (by omega)) (Rat.le_of_lt hG)
    · rw [e2]; exact Rat.mul_le_mul_of_nonneg_right (Rat.intCast_le_intCast.2 (by omega)) (Rat.le_of_lt hG)

theorem mpb_negMax_c (c : EFloatParams) : c.mpb.negMax.c = c.mpb.posMax.c := rfl
theorem mpb_negMax_s (c : EFloatParams) : c.mpb.negMax.s = true := rfl

theorem efloatFixup_mem (c : EFloatParams) (hwf : CtxWF (.efloat c)) (r : Res) (hmem : CtxMember (.mpb c.mpb) r.v)
    (res : Res) (h : efloatFixup c r = .ok res) : CtxMember (.efloat c) res.v ∨ CtxSubstitute (.efloat c) res.v := by
  obtain ⟨hp, hpm, hnm, hn0, hp0, hps⟩ := hwf
  have hmax : ∀ (s : Bool) (fl : Flags) (res : Res),
      (if c.maxvalOk s then (Except.ok (⟨.fin (if s then c.mpb.negMax else c.mpb.posMax), fl⟩ : Res) : Except Err Res)
        else Except.error Err.valueError) = Except.ok res → CtxMember (.efloat c) res.v := by
    intro s fl res hh
    by_cases hok : c.maxvalOk s = true
    · simp only [hok, if_true, Except.ok.injEq] at hh
      rw [← hh]
      cases s
      · exact ⟨⟨hpm, by grind, Rat.le_refl⟩, fun _ h => by simp only [Bool.false_eq_true, if_false] at h; rw [hps] at h; cases h⟩
      · refine ⟨⟨hnm, Rat.le_refl, by grind⟩, ?_⟩
        intro h1 _
        simp only [if_true] at h1
        rw [mpb_negMax_c] at h1
        unfold EFloatParams.maxvalOk at hok
        simp only [h1, if_true, Bool.true_and] at hok
        simpa [hasNegZero] using hok
    · simp only [hok, Bool.false_eq_true, if_false] at hh; cases hh
  obtain ⟨v, fl⟩ := r
  cases v with
  | nan s =>
    simp only [efloatFixup] at h
    by_cases hk : (c.kind == NanKind.none) = true
    · simp only [hk, if_true] at h
      cases hnv : c.nanValue with
      | none =>
        rw [hnv] at h; simp only at h
        by_cases hinf : c.inf = true
        · simp only [hinf, if_true, Except.ok.injEq] at h
          left; rw [← h]; exact hinf
        · simp only [hinf, Bool.false_eq_true, if_false] at h
          left; exact hmax s _ res h
      | some nv =>
        rw [hnv] at h; simp only [Except.ok.injEq] at h
        right; right
        exact ⟨by simp only [hasNan]; have := eq_of_beq hk; simp [this], nv, hnv, Or.inr ⟨s, by rw [← h]⟩⟩
    · simp only [hk, Bool.false_eq_true, if_false, Except.ok.injEq] at h
      left; rw [← h]; simp only [CtxMember, hasNan]; simpa using hk
  | inf s =>
    simp only [efloatFixup] at h
    by_cases hinf : c.inf = true
    · simp only [hinf, Bool.not_true, Bool.false_eq_true, if_false, Except.ok.injEq] at h
      left; rw [← h]; exact hinf
    · simp only [hinf, Bool.not_false, if_true] at h
      cases hiv : c.infValue with
      | none =>
        rw [hiv] at h; simp only at h
        by_cases hk : (c.kind != NanKind.none) = true
        · simp only [hk, if_true, Except.ok.injEq] at h
          left; rw [← h]; exact hk
        · simp only [hk, Bool.false_eq_true, if_false] at h
          left; exact hmax s _ res h
      | some iv =>
        rw [hiv] at h; simp only [Except.ok.injEq] at h
        right; left
        exact ⟨by simpa [hasInf] using hinf, iv, hiv, Or.inr ⟨s, by rw [← h]⟩⟩
  | fin x =>
    rw [efloatFixup_fin] at h; cases h
    obtain ⟨hfm, -⟩ := hmem
    obtain ⟨-, -, hz⟩ := x.dropNegZero_spec (c.kind == NanKind.negZero)
    left
    refine ⟨by simp only [RF.dropNegZero_val]; exact hfm, fun a b => ?_⟩
    simp only [hasNegZero, bne, hz a b, Bool.not_false]

theorem overflowed_mem {C : Ctx} (hwf : CtxWF C) {xs : Bool} {y : RF} {res : Res}
    (h : C.overflowed xs y = .ok res) : CtxMember C res.v ∨ CtxSubstitute C res.v := by
  cases C <;> simp only [Ctx.overflowed, reduceCtorEq] at h
  case mpb c => exact mpbOverflowed_mem c hwf h
  case efloat c =>
    cases hm : mpbOverflowed c.mpb xs y with
    | error e => rw [hm] at h; cases h
    | ok res' =>
      rw [hm] at h
      rcases mpbOverflowed_mem c.mpb (wf_mpb_of_efloat c hwf) hm with h' | ⟨h', -⟩ | ⟨h', -⟩
      · exact efloatFixup_mem c hwf res' h' res h
      · cases h'
      · cases h'
  case mpbfix c =>
    rcases ovfResult_arms h with ⟨-, -, ⟨hen, e⟩ | ⟨hen, iv, hiv, e⟩⟩ | ⟨-, e⟩ | ⟨-, e⟩
    · rw [e]; exact Or.inl hen
    · rw [e]; exact Or.inr (Or.inl ⟨hen, iv, hiv, Or.inl rfl⟩)
    · rw [e]; exact Or.inl (rangeEnd_mem c hwf y.s)
    · cases e; exact Or.inl (mpbfixWrapped_mem c hwf y)

theorem core_prec_pos {C : Ctx} {p : Nat} {N : Option Int} {rm : RM} {k : Option Nat}
    (hcore : C.core = some (some p, N, rm, k)) (hwf : CtxWF C) : 1 ≤ p := by
  cases C <;> simp only [Ctx.core, Option.some.injEq, Prod.mk.injEq, reduceCtorEq, false_and] at hcore <;>
    obtain ⟨rfl, -⟩ := hcore
  case mp | mps => exact hwf
  case mpb | efloat => exact hwf.1

theorem core_round_shape {C : Ctx} {P : Option Nat} {N : Option Int} {rm : RM} {k : Option Nat}
    (hcore : C.core = some (P, N, rm, k)) (hwf : CtxWF C) {x : RF} (hx : x.c ≠ 0) {r : Nat} {y : RF} {fl : Flags}
    (hr : x.round P N rm k r false = .ok (y, fl)) :
    (∀ p, P = some p → bitLength y.c ≤ p) ∧ (∀ n, N = some n → y.exp > n) ∧ fl.overflow = false := by
  cases P with
  | some p =>
    obtain ⟨-, hbl, hexp, hfo, -⟩ := float_round_any x p N rm k r y fl hx (core_prec_pos hcore hwf) hr
    refine ⟨fun _ e => by cases e; exact hbl, fun n e => ?_, hfo⟩
    subst e
    have := floatN_ge_nmin x p n
    omega
  | none =>
    obtain ⟨n, rfl⟩ : ∃ n, N = some n := by
      cases C <;> simp only [Ctx.core, Option.some.injEq, Prod.mk.injEq, reduceCtorEq, false_and, true_and] at hcore <;>
        exact ⟨_, hcore.1.symm⟩
    obtain ⟨-, hexp, hfo, -⟩ := fixed_round_any x n rm k r y fl hr
    exact ⟨fun _ e => (by cases e), fun _ e => (by cases e; exact hexp), hfo⟩

theorem fin_round_mem {C : Ctx} {P : Option Nat} {N : Option Int} {rm : RM} {k : Option Nat}
    (hcore : C.core = some (P, N, rm, k)) (hwf : CtxWF C) (x : RF) (r : Nat) (res : Res)
    (h : C.roundAtCore (.fin x) none false r = .ok res) : CtxMember C res.v ∨ CtxSubstitute C res.v := by
  have hsome : C.core.isSome = true := by rw [hcore]; rfl
  by_cases hx : x.c = 0
  · rw [Ctx.roundAtCore_zero hsome hx] at h
    cases h
    refine Or.inl ⟨by rw [RF.val_mk_zero]; exact zero_finMember hsome hwf, fun _ hs => ?_⟩
    rw [hasNegZero_core hsome]
    exact (Bool.and_eq_true _ _ ▸ hs).2
  · obtain ⟨y, fl, hr, ⟨hin, rfl⟩ | ⟨-, -, ho, -⟩⟩ := Ctx.roundAtCore_fin_inv hcore hx h
    · rw [Ctx.posAt_none] at hr
      obtain ⟨hP, hN, -⟩ := core_round_shape hcore hwf hx hr
      obtain ⟨-, -, hz⟩ := y.dropNegZero_spec C.dropsNegZero
      refine Or.inl ⟨by simp only [RF.dropNegZero_val]; exact finMember_of_shape hcore hwf hP hN hin, fun a b => ?_⟩
      rw [hasNegZero_core hsome, hz a b]; rfl
    · exact overflowed_mem hwf ho

/-- `ExpContext` (powers of two only; anything else becomes NaN, the extreme values or the substitute) -/
theorem exp_round_mem (c : ExpParams) (v : FV) (res : Res) (h : expRoundAt c v none false = .ok res) :
    CtxMember (.exp c) res.v ∨ CtxSubstitute (.exp c) res.v := by
  have hnan : CtxMember (.exp c) (.nan false) := rfl
  have hbm : c.emin ≤ c.emax := by unfold ExpParams.emin ExpParams.emax; omega
  have hpow : ∀ e, c.emin ≤ e → e ≤ c.emax → CtxMember (.exp c) (.fin ⟨false, e, 1⟩) := fun e h1 h2 =>
    ⟨⟨e, h1, h2, by rw [RF.val_mk]; simp [RF.sgn]⟩, fun h => by simp at h⟩
  cases v with
  | nan s => cases h; exact .inl hnan
  | inf s =>
    simp only [expRoundAt, floatSpecial] at h
    cases hiv : c.infValue with
    | none => rw [hiv] at h; cases h; exact .inl hnan
    | some iv => rw [hiv] at h; cases h; exact .inr (.inl ⟨rfl, iv, hiv, .inl rfl⟩)
  | fin x =>
    left
    rcases expRoundAt_fin h with e | e | e | ⟨y, fl, hc, hr, hy0, hys, h1, h2, rfl⟩
    · rw [e]; exact hnan
    · rw [e]; exact hpow _ (Int.le_refl _) hbm
    · rw [e]; exact hpow _ hbm (Int.le_refl _)
    · -- one digit: `y.c = 1`, so `y` is the power of two `2 ^ y.exp` and `y.e = y.exp`
      obtain ⟨-, hbl, -⟩ := float_round_any x 1 none c.rm (some 0) 0 y fl hc (by omega) hr
      have hc1 : y.c = 1 := by have := (bitLength_le_iff y.c 1).1 hbl; omega
      obtain ⟨s, e, m⟩ := y
      cases hys; cases hc1
      have he : (⟨false, e, 1⟩ : RF).e = e := by
        simp only [RF.e, RF.p, show bitLength 1 = 1 by decide]; omega
      rw [he] at h1 h2
      exact hpow e h1 h2

theorem inexact_iff_eq {rm : RM} {u : Int} {q yv : Rat} {b : Bool} (h1 : yv = roundVal rm u q)
    (h2 : b = false ↔ OnGrid u q) : b = false ↔ yv = q := by
  rw [h2, h1, roundVal_eq_iff]

/-- `(y, fl)` is the unbounded rounding; in range a `-0` is rewritten where the format has none -/
theorem round_fin {C : Ctx} {P : Option Nat} {N : Option Int} {rm : RM} {k : Option Nat}
    (hcore : C.core = some (P, N, rm, k)) (hwf : CtxWF C) {x : RF} (hx : x.c ≠ 0) {r : Nat} {y : RF} {fl : Flags}
    (hr : x.round P N rm k r false = .ok (y, fl)) :
    (C.inRange y = true →
      C.roundAtCore (.fin x) none false r = .ok ⟨.fin (y.dropNegZero C.dropsNegZero), fl⟩) ∧
    (∀ res, C.roundAtCore (.fin x) none false r = .ok res → (res.fl.overflow = true ↔ C.inRange y = false)) := by
  simp only [Ctx.roundAtCore_fin hcore hx, hr]
  refine ⟨fun hin => Ctx.post_in hin _ _, fun res h => ?_⟩
  cases hin : C.inRange y
  · obtain ⟨e, ho⟩ := Ctx.post_out hin x.s fl
    rw [e] at h
    simp only [(ho res h).1]
  · rw [Ctx.post_in hin] at h
    cases h
    simp only [(core_round_shape hcore hwf hx hr).2.2, Bool.false_eq_true, reduceCtorEq]

theorem round_fin_bounded {C : Ctx} {P : Option Nat} {N : Option Int} {rm : RM} {k : Option Nat} {lo hi : RF}
    (hcore : C.core = some (P, N, rm, k)) (hrange : C.range = some (lo, hi)) (hwf : CtxWF C)
    {x : RF} (hx : x.c ≠ 0) {r : Nat} {y : RF} {fl : Flags} (hr : x.round P N rm k r false = .ok (y, fl)) :
    ((lo.val ≤ y.val ∧ y.val ≤ hi.val) →
      C.roundAtCore (.fin x) none false r = .ok ⟨.fin (y.dropNegZero C.dropsNegZero), fl⟩) ∧
    (∀ res, C.roundAtCore (.fin x) none false r = .ok res →
      (res.fl.overflow = true ↔ (y.val < lo.val ∨ hi.val < y.val))) := by
  obtain ⟨h1, h2⟩ := round_fin hcore hwf hx hr
  exact ⟨fun hin => h1 ((inRange_iff hrange hwf y).2 hin), fun res h => (h2 res h).trans (outRange_iff hrange hwf y)⟩

end Fpy.C01v
