/-
Value classes (`Fpy.Model.VClass`): membership in joins, meets and single atoms; monotonicity of
`_exact_add` / `_exact_mul`, which reduces their soundness to the 16 pairs of atoms (`addAtoms`, `mulAtoms`: the
classes a sum or product can have given the classes of the operands).
-/
import Fpy.Model.VClass
namespace Fpy.C13
open Fpy VC

theorem has_of_le {a b : VC} {c : Cls} (h : a.le b = true) (hc : a.has c = true) : b.has c = true := by
  simp only [VC.le, Bool.and_eq_true] at h
  obtain ⟨⟨⟨h1, h2⟩, h3⟩, h4⟩ := h
  cases c <;> simp only [VC.has] at hc ⊢ <;> simp only [hc] at h1 h2 h3 h4 <;> assumption

theorem has_join {a b : VC} {c : Cls} : (a ||| b).has c = (a.has c || b.has c) := by
  cases c <;> rfl

theorem has_meet {a b : VC} {c : Cls} : (a &&& b).has c = (a.has c && b.has c) := by
  cases c <;> rfl

theorem has_join_left {a b : VC} {c : Cls} (h : a.has c = true) : (a ||| b).has c = true := by
  rw [has_join, h]; rfl

theorem has_join_right {a b : VC} {c : Cls} (h : b.has c = true) : (a ||| b).has c = true := by
  rw [has_join, h, Bool.or_true]

theorem has_single (c d : Cls) : (single c).has d = decide (c = d) := by
  cases c <;> cases d <;> rfl

theorem has_single_self (c : Cls) : (single c).has c = true := by
  rw [has_single]; exact decide_eq_true rfl

theorem has_top (c : Cls) : top.has c = true := by cases c <;> rfl

/-! `_exact_add` and `_exact_mul` are chains of `if cond: out |= X` whose conditions all ask whether an
operand (or the join of both) meets a constant; each such step is monotone in the operands, so the
functions are, and their soundness has only to be checked on single atoms. -/

/-- `a ⊆ b` member by member: `VC.le a b = true` in the form the steps below compose (`has_of_le` leads from it here) -/
def Incl (a b : VC) : Prop := ∀ e, a.has e = true → b.has e = true

theorem Incl.refl (a : VC) : Incl a a := fun _ h => h

theorem single_incl {a : VC} {c : Cls} (h : a.has c = true) : Incl (single c) a := by
  intro e he
  cases c <;> cases e <;> first | exact h | cases he

theorem Incl.join {a a' b b' : VC} (ha : Incl a a') (hb : Incl b b') : Incl (a ||| b) (a' ||| b') := fun e h => by
  rw [has_join, Bool.or_eq_true] at h ⊢; exact h.imp (ha e) (hb e)

theorem Incl.meet {a a' : VC} (h : Incl a a') (K : VC) : Incl (a &&& K) (a' &&& K) := fun e he => by
  rw [has_meet, Bool.and_eq_true] at he ⊢; exact ⟨h e he.1, he.2⟩

theorem Incl.truthy {a a' : VC} (h : Incl a a') (ht : a.truthy = true) : a'.truthy = true := by
  simp only [VC.truthy, Bool.or_eq_true] at ht ⊢
  exact ht.imp (Or.imp (Or.imp (h .nan) (h .inf)) (h .zero)) (h .fin)

theorem Incl.both {a a' b b' : VC} (ha : Incl a a') (hb : Incl b b') (K L : VC)
    (h : ((a &&& K).truthy && (b &&& L).truthy) = true) : ((a' &&& K).truthy && (b' &&& L).truthy) = true := by
  rw [Bool.and_eq_true] at h ⊢; exact ⟨(ha.meet K).truthy h.1, (hb.meet L).truthy h.2⟩

/-- one `if cond: out |= X` step -/
theorem Incl.addIf {p p' : Bool} {out out' X : VC} (hp : p = true → p' = true) (h : Incl out out') :
    Incl (if p then out ||| X else out) (if p' then out' ||| X else out') := by
  cases p
  · intro e he
    cases p'
    · exact h e he
    · exact has_join_left (h e he)
  · rw [hp (Eq.refl _)]; exact h.join (.refl X)

theorem exactAdd_mono {a a' b b' : VC} (ha : Incl a a') (hb : Incl b b') : Incl (exactAdd a b) (exactAdd a' b') := by
  unfold exactAdd
  cases ht : a.truthy && b.truthy
  · intro e he; cases e <;> cases he
  · rw [Bool.and_eq_true] at ht
    rw [ha.truthy ht.1, hb.truthy ht.2]
    refine Incl.addIf (ha.both hb _ _) (Incl.addIf ?_ (Incl.addIf (ha.both hb _ _) (Incl.addIf (ha.both hb _ _)
      (Incl.addIf ((ha.join hb).meet _).truthy (Incl.addIf ((ha.join hb).meet _).truthy (.refl _))))))
    -- the ZERO-with-FINITE step: its condition is a disjunction of two such pairs
    intro h
    rw [Bool.or_eq_true] at h ⊢
    exact h.imp (ha.both hb _ _) (ha.both hb _ _)

theorem exactMul_mono {a a' b b' : VC} (ha : Incl a a') (hb : Incl b b') : Incl (exactMul a b) (exactMul a' b') := by
  unfold exactMul exactMulPass
  cases ht : a.truthy && b.truthy
  · intro e he; cases e <;> cases he
  · rw [Bool.and_eq_true] at ht
    rw [ha.truthy ht.1, hb.truthy ht.2]
    exact Incl.addIf (ha.both hb _ _) (Incl.addIf (hb.both ha _ _) (Incl.addIf (hb.both ha _ _)
      (Incl.addIf (hb.both ha _ _) (Incl.addIf (ha.both hb _ _) (Incl.addIf (ha.both hb _ _)
      (Incl.addIf (ha.both hb _ _) (Incl.addIf ((ha.join hb).meet _).truthy (.refl _))))))))

theorem has_of_atoms {f : VC → VC → VC} {t : Cls → Cls → VC}
    (mono : ∀ {a a' b b'}, Incl a a' → Incl b b' → Incl (f a b) (f a' b'))
    (atoms : ∀ c d, (t c d).le (f (single c) (single d)) = true)
    {a b : VC} {c d e : Cls} (hc : a.has c = true) (hd : b.has d = true) (he : (t c d).has e = true) :
    (f a b).has e = true :=
  mono (single_incl hc) (single_incl hd) e (has_of_le (atoms c d) he)

@[simp] theorem classOf_nan (s : Bool) : classOf (.nan s) = .nan := rfl
@[simp] theorem classOf_inf (s : Bool) : classOf (.inf s) = .inf := rfl
theorem classOf_fin_zero {x : RF} (h : x.c = 0) : classOf (.fin x) = .zero := by simp [classOf, h]
theorem classOf_fin_nz {x : RF} (h : x.c ≠ 0) : classOf (.fin x) = .fin := by simp [classOf, h]

theorem c_of_class_zero {x : RF} (h : classOf (.fin x) = .zero) : x.c = 0 :=
  Decidable.byContradiction fun hn => by rw [classOf_fin_nz hn] at h; cases h

theorem c_of_class_fin {x : RF} (h : classOf (.fin x) = .fin) : x.c ≠ 0 :=
  fun h0 => by rw [classOf_fin_zero h0] at h; cases h

theorem classOf_fin_cases (x : RF) : classOf (.fin x) = .zero ∨ classOf (.fin x) = .fin := by
  by_cases h : x.c = 0
  · exact .inl (classOf_fin_zero h)
  · exact .inr (classOf_fin_nz h)

theorem has_of_zero_fin {K : VC} {c : Cls} {b : Bool} (h : c = .zero ∨ c = .fin) (hz : K.zero = b) (hf : K.fin = b) :
    K.has c = b := by
  rcases h with rfl | rfl
  · exact hz
  · exact hf

theorem has_of_eq {K : VC} {c d : Cls} (h : d = c) (hK : K.has c = true) : K.has d = true := h ▸ hK

theorem classOf_withSign (v : FV) (s : Bool) : classOf (v.withSign s) = classOf v := by
  cases v <;> rfl

theorem classOf_neg (v : FV) : classOf v.neg = classOf v := by
  cases v <;> rfl

theorem classOf_abs (v : FV) : classOf v.abs = classOf v := classOf_withSign v false

/-- the classes the exact sum of a value of class `c` and one of class `d` can have -/
def addAtoms : Cls → Cls → VC
  | .nan, _ => NAN
  | _, .nan => NAN
  | .inf, .inf => INF ||| NAN
  | .inf, _ => INF
  | _, .inf => INF
  | .zero, .zero => ZERO
  | .zero, .fin => FINITE
  | .fin, .zero => FINITE
  | .fin, .fin => ZERO ||| FINITE

theorem exactAdd_has {a b : VC} {c d e : Cls} (hc : a.has c = true) (hd : b.has d = true)
    (he : (addAtoms c d).has e = true) : (exactAdd a b).has e = true :=
  has_of_atoms exactAdd_mono (fun c d => by cases c <;> cases d <;> rfl) hc hd he

/-- the same for the exact product -/
def mulAtoms : Cls → Cls → VC
  | .nan, _ => NAN
  | _, .nan => NAN
  | .inf, .zero => NAN
  | .zero, .inf => NAN
  | .inf, _ => INF
  | _, .inf => INF
  | .zero, _ => ZERO
  | _, .zero => ZERO
  | .fin, .fin => FINITE

theorem exactMul_has {a b : VC} {c d e : Cls} (hc : a.has c = true) (hd : b.has d = true)
    (he : (mulAtoms c d).has e = true) : (exactMul a b).has e = true :=
  has_of_atoms exactMul_mono (fun c d => by cases c <;> cases d <;> rfl) hc hd he

end Fpy.C13
