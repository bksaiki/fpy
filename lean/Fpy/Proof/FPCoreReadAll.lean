/-
C12 — the reader is sound: the statements read from an FPCore expression run, and the result expression has
the value FPCore gives the expression.

The recursion is over the expression, as the reader's own, with the fuel of the FPCore evaluator quantified inside: an
`if` reads a branch that is not evaluated and a loop may run no round, so the bound on the counter of fresh names
cannot wait for an evaluation. For every form there is one rule, which says what the reader returns (the bound on
the counter, the names of bound variables) and, given an evaluation, that the statements run.
-/
import Fpy.Proof.FPCoreReadBase
namespace Fpy.C12
open Fpy Fpy.Lang

/-- a concrete supply of fresh names: `r`, `rr`, `rrr`, … (`fresh_names_injective` in Props/C12) -/
def nmR (k : Nat) : String := String.ofList (List.replicate (k + 1) 'r')

/-- the result expression `r` has the value `v` in `σ'` and in every later environment that keeps the names below `k'` -/
def RVal (Φ : Funs) (nm : Nat → String) (k' : Nat) (σ' : Env) (μ : Heap) (C : Ctx) (r : Expr) (v : Val) : Prop :=
  ∀ σ'', Ext nm k' σ' σ'' → Gives Φ σ'' μ C r v

section
variable {nm : Nat → String}

theorem readE_ite_inv {k : Nat} {m : RMap} {P : Props} {c t f : FExpr} {ss : List Stmt} {r : Expr} {k' : Nat}
    (h : readE nm k m P (.ite c t f) = some (ss, r, k')) :
    ∃ c' st rt k1 sf rf k2, readP m c = some c' ∧ readE nm k m P t = some (st, rt, k1) ∧
      readE nm k1 m P f = some (sf, rf, k2) ∧
      ss = [.ifte c' (st ++ [.assign (.var (nm k2)) rt]) (sf ++ [.assign (.var (nm k2)) rf])] ∧
      r = .var (nm k2) ∧ k' = k2 + 1 := by
  unfold readE at h
  split at h
  · split at h
    · cases h; exact ⟨_, _, _, _, _, _, _, ‹_›, ‹_›, ‹_›, rfl, rfl, rfl⟩
    · cases h
  · cases h

theorem readE_let_inv {k : Nat} {m : RMap} {P : Props} {star : Bool} {binds : List (String × FExpr)} {body : FExpr}
    {ss : List Stmt} {r : Expr} {k' : Nat} (h : readE nm k m P (.let_ star binds body) = some (ss, r, k')) :
    ∃ s1 m' k1 s2, readBinds nm star k m m P binds = some (s1, m', k1) ∧ readE nm k1 m' P body = some (s2, r, k') ∧
      ss = s1 ++ s2 := by
  unfold readE at h
  split at h
  · split at h
    · cases h; exact ⟨_, _, _, _, ‹_›, ‹_›, rfl⟩
    · cases h
  · cases h

theorem readE_ann_inv {k : Nat} {m : RMap} {P p : Props} {e : FExpr} {ss : List Stmt} {r : Expr} {k' : Nat}
    (h : readE nm k m P (.ann p e) = some (ss, r, k')) :
    ∃ s r1 k1 C', readE nm k m (P.update p) e = some (s, r1, k1) ∧ (P.update p).toCtx = .ok C' ∧
      ss = [.with (.ctxLit C') none (s ++ [.assign (.var (nm k1)) r1])] ∧ r = .var (nm k1) ∧ k' = k1 + 1 := by
  unfold readE at h
  split at h
  · cases h; exact ⟨_, _, _, _, ‹_›, ‹_›, rfl, rfl, rfl⟩
  · cases h

theorem readE_while_inv {k : Nat} {m : RMap} {P : Props} {star : Bool} {c : FExpr} {binds : List (String × FExpr × FExpr)}
    {body : FExpr} {ss : List Stmt} {r : Expr} {k' : Nat}
    (h : readE nm k m P (.while_ star c binds body) = some (ss, r, k')) :
    (star = true ∨ binds.length ≤ 1) ∧
    ∃ si m1 k1 c' su k2 sb, readInits nm star k m m P binds = some (si, m1, k1) ∧ readP m1 c = some c' ∧
      (if star then readUpdStar nm k1 m1 P binds
       else (readUpdTmpGo nm k1 m1 P binds).map fun r => (r.1 ++ r.2.1, r.2.2)) = some (su, k2) ∧
      readE nm k2 m1 P body = some (sb, r, k') ∧ ss = si ++ [.while c' su] ++ sb := by
  unfold readE at h
  split at h
  · cases h
  · next hlen =>
    refine ⟨?_, ?_⟩
    · cases star with
      | true => exact .inl rfl
      | false => exact .inr (Nat.le_of_lt_succ (Nat.lt_of_not_le fun h2 => hlen (by rw [decide_eq_true h2]; rfl)))
    split at h
    · split at h
      · split at h
        · split at h
          · cases h; exact ⟨_, _, _, _, _, _, _, ‹_›, ‹_›, ‹_›, ‹_›, rfl⟩
          · cases h
        · cases h
      · cases h
    · cases h

theorem readBinds_cons_inv {star : Bool} {k : Nat} {m0 acc : RMap} {P : Props} {x : String} {e : FExpr}
    {rest : List (String × FExpr)} {ss : List Stmt} {m' : RMap} {k' : Nat}
    (h : readBinds nm star k m0 acc P ((x, e) :: rest) = some (ss, m', k')) :
    ∃ s r k1 ss2, readE nm k (if star then acc else m0) P e = some (s, r, k1) ∧
      readBinds nm star (k1 + 1) m0 ((x, nm k1) :: acc) P rest = some (ss2, m', k') ∧
      ss = s ++ [.assign (.var (nm k1)) r] ++ ss2 := by
  unfold readBinds at h
  split at h
  · split at h
    · cases h; exact ⟨_, _, _, _, ‹_›, ‹_›, rfl⟩
    · cases h
  · cases h

theorem readUpdStar_cons_inv {k : Nat} {m1 : RMap} {P : Props} {x : String} {i u : FExpr}
    {rest : List (String × FExpr × FExpr)} {ss : List Stmt} {k' : Nat}
    (h : readUpdStar nm k m1 P ((x, i, u) :: rest) = some (ss, k')) :
    ∃ s r k1 y ss2, readE nm k m1 P u = some (s, r, k1) ∧ m1.get? x = some y ∧
      readUpdStar nm k1 m1 P rest = some (ss2, k') ∧ ss = s ++ [.assign (.var y) r] ++ ss2 := by
  unfold readUpdStar at h
  split at h
  · split at h
    · cases h; exact ⟨_, _, _, _, _, ‹_›, ‹_›, ‹_›, rfl⟩
    · cases h
  · cases h

theorem readUpdTmpGo_cons_inv {k : Nat} {m1 : RMap} {P : Props} {x : String} {i u : FExpr}
    {rest : List (String × FExpr × FExpr)} {ss rebinds : List Stmt} {k' : Nat}
    (h : readUpdTmpGo nm k m1 P ((x, i, u) :: rest) = some (ss, rebinds, k')) :
    ∃ s r k1 y ss2 rb2, readE nm k m1 P u = some (s, r, k1) ∧ m1.get? x = some y ∧
      readUpdTmpGo nm (k1 + 1) m1 P rest = some (ss2, rb2, k') ∧ ss = s ++ [.assign (.var (nm k1)) r] ++ ss2 ∧
      rebinds = .assign (.var y) (.var (nm k1)) :: rb2 := by
  unfold readUpdTmpGo at h
  split at h
  · split at h
    · cases h; exact ⟨_, _, _, _, _, _, ‹_›, ‹_›, ‹_›, rfl, rfl⟩
    · cases h
  · cases h

variable (nm)

theorem readInits_eq (star : Bool) (binds : List (String × FExpr × FExpr)) : ∀ (k : Nat) (m0 acc : RMap) (P : Props),
    readInits nm star k m0 acc P binds = readBinds nm star k m0 acc P (binds.map fun b => (b.1, b.2.1)) := by
  induction binds with
  | nil => intro k m0 acc P; rw [readInits, List.map_nil, readBinds]
  | cons b rest ih => intro k m0 acc P; simp only [readInits, List.map_cons, readBinds, ih]

theorem rval_var (Φ : Funs) (k : Nat) (σ : Env) (μ : Heap) (C : Ctx) (v : Val) :
    RVal Φ nm (k + 1) (σ.set (nm k) v) μ C (.var (nm k)) v :=
  fun σ'' he => gives_var Φ μ C (by rw [he k (Nat.lt_succ_self k), get?_set_self])

def ReadsOK (e : FExpr) : Prop :=
  ∀ (k : Nat) (m : RMap) (P : Props) (ss : List Stmt) (r : Expr) (k' : Nat), readE nm k m P e = some (ss, r, k') →
    k ≤ k' ∧ ∀ (Φ : Funs), (∀ i j, nm i = nm j → i = j) →
      ∀ (n : Nat) (C : Ctx) (ρ σ : Env) (μ : Heap) (v : Val), eval n ρ P e = .ok v → P.toCtx = .ok C → RInv nm k m ρ σ →
      ∃ σ', Runs Φ σ μ C ss σ' μ ∧ Ext nm k σ σ' ∧ RVal Φ nm k' σ' μ C r v

/-- `m0`, `ρ0`: the scope outside; `acc`, `ρa`: the scope extended so far. In the scope `m'` after the bindings a variable
is held by a name from `k` on, or is not among the bound ones and is held as in `acc`. -/
def BindsOK (binds : List (String × FExpr)) : Prop :=
  ∀ (star : Bool) (k : Nat) (m0 acc : RMap) (P : Props) (ss : List Stmt) (m' : RMap) (k' : Nat),
    readBinds nm star k m0 acc P binds = some (ss, m', k') →
    k ≤ k' ∧
    (∀ x, (∃ j, k ≤ j ∧ m'.get? x = some (nm j)) ∨ (m'.get? x = acc.get? x ∧ x ∉ binds.map (·.1))) ∧
    ∀ (Φ : Funs), (∀ i j, nm i = nm j → i = j) →
      ∀ (n : Nat) (C : Ctx) (ρ0 ρa σ : Env) (μ : Heap) (ρ' : Env), evalBinds n star ρ0 ρa P binds = .ok ρ' → P.toCtx = .ok C →
      RInv nm k m0 ρ0 σ → RInv nm k acc ρa σ →
      ∃ σ', Runs Φ σ μ C ss σ' μ ∧ Ext nm k σ σ' ∧ RInv nm k' m' ρ' σ'

/-- one round of updates: `ρa` is the environment of the iteration, and the loop variables are held by names from `k0` on -/
def RoundOK (Φ : Funs) (star : Bool) (binds : List (String × FExpr × FExpr)) (k : Nat) (m1 : RMap) (P : Props)
    (ss : List Stmt) : Prop :=
  ∀ (n k0 : Nat) (C : Ctx) (ρa σ : Env) (μ : Heap) (ρ' : Env),
    evalBinds n star ρa ρa P (binds.map fun b => (b.1, b.2.2)) = .ok ρ' → P.toCtx = .ok C → RInv nm k m1 ρa σ → k0 ≤ k →
    (∀ b, b ∈ binds → ∀ y, m1.get? b.1 = some y → ∃ j, k0 ≤ j ∧ y = nm j) →
    ∃ σ', Runs Φ σ μ C ss σ' μ ∧ Ext nm k0 σ σ' ∧ RInv nm k m1 ρ' σ'

/-- the updates of a `while*`: assigned in place, each seeing the ones before -/
def StarOK (binds : List (String × FExpr × FExpr)) : Prop :=
  ∀ (k : Nat) (m1 : RMap) (P : Props) (ss : List Stmt) (k' : Nat), readUpdStar nm k m1 P binds = some (ss, k') →
    k ≤ k' ∧ ∀ (Φ : Funs), (∀ i j, nm i = nm j → i = j) →
      ∀ (n k0 : Nat) (C : Ctx) (ρ0 ρa σ : Env) (μ : Heap) (ρ' : Env),
      evalBinds n true ρ0 ρa P (binds.map fun b => (b.1, b.2.2)) = .ok ρ' → P.toCtx = .ok C → RInv nm k m1 ρa σ → k0 ≤ k →
      (∀ b, b ∈ binds → ∀ y, m1.get? b.1 = some y → ∃ j, k0 ≤ j ∧ y = nm j) →
      ∃ σ', Runs Φ σ μ C ss σ' μ ∧ Ext nm k0 σ σ' ∧ RInv nm k m1 ρ' σ'

/-- the updates of a `while`, for at most ONE variable (`readE` refuses more): the new value goes through a temporary -/
def TmpOK (binds : List (String × FExpr × FExpr)) : Prop :=
  binds.length ≤ 1 → ∀ (k : Nat) (m1 : RMap) (P : Props) (ss rebinds : List Stmt) (k' : Nat),
    readUpdTmpGo nm k m1 P binds = some (ss, rebinds, k') →
    k ≤ k' ∧ ∀ (Φ : Funs), (∀ i j, nm i = nm j → i = j) → RoundOK nm Φ false binds k m1 P (ss ++ rebinds)

variable {nm} in
theorem runs_result (hnm : ∀ i j, nm i = nm j → i = j) {Φ : Funs} {σ σ1 : Env} {μ : Heap} {C : Ctx} {s : List Stmt} {r : Expr}
    {v : Val} {k k1 j : Nat} (hrun : Runs Φ σ μ C s σ1 μ) (hext : Ext nm k σ σ1) (hval : RVal Φ nm k1 σ1 μ C r v) (hk : k ≤ j) :
    Runs Φ σ μ C (s ++ [.assign (.var (nm j)) r]) (σ1.set (nm j) v) μ ∧ Ext nm k σ (σ1.set (nm j) v) :=
  ⟨runs_append hrun (runs_assign (hval σ1 (Ext.refl k1 σ1))), hext.trans (ext_set hnm σ1 v hk)⟩

theorem read_pure {e : FExpr} (he : ∀ k m P, readE nm k m P e = (readP m e).map fun r => ([], r, k)) : ReadsOK nm e := by
  intro k m P ss r k' hr
  rw [he] at hr
  simp only [Option.map_eq_some_iff, Prod.mk.injEq] at hr
  obtain ⟨r0, hr0, rfl, rfl, rfl⟩ := hr
  refine ⟨Nat.le_refl _, fun Φ _ n C ρ σ μ v h hP hI => ⟨σ, runs_nil Φ σ μ C, Ext.refl k σ, fun σ'' he => ?_⟩⟩
  exact readP_sound Φ h hr0 hP (rinv_penv (hI.mono (Nat.le_refl _) he))

theorem read_ite {c t f : FExpr} (ht : ReadsOK nm t) (hf : ReadsOK nm f) : ReadsOK nm (.ite c t f) := by
  intro k m P ss r k' hr
  obtain ⟨c', st, rt, k1, sf, rf, k2, hc, hrt, hrf, rfl, rfl, rfl⟩ := readE_ite_inv hr
  obtain ⟨hk1, ht⟩ := ht k m P st rt k1 hrt
  obtain ⟨hk2, hf⟩ := hf k1 m P sf rf k2 hrf
  refine ⟨Nat.le_succ_of_le (Nat.le_trans hk1 hk2), fun Φ hnm n C ρ σ μ v h hP hI => ?_⟩
  obtain ⟨n, rfl⟩ := eval_pos h
  rw [eval_ite] at h
  obtain ⟨cv, hcv, h1⟩ := bind_ok h
  obtain ⟨b, hcb, h2⟩ := bind_ok h1
  cases asBool_ok hcb
  have hgc : Gives Φ σ μ C c' (.bool b) := readP_sound Φ hcv hc hP (rinv_penv hI)
  -- the branch not taken is read all the same: the result of the other goes to a name that comes after both
  cases b with
  | true =>
    obtain ⟨σ1, hrun1, hext1, hval1⟩ := ht Φ hnm n C ρ σ μ v h2 hP hI
    obtain ⟨hrunb, hextb⟩ := runs_result hnm hrun1 hext1 hval1 (j := k2) (Nat.le_trans hk1 hk2)
    exact ⟨_, runs_ifte hgc hrunb, hextb, rval_var nm Φ k2 σ1 μ C v⟩
  | false =>
    obtain ⟨σ1, hrun1, hext1, hval1⟩ := hf Φ hnm n C ρ σ μ v h2 hP (hI.mono hk1 (Ext.refl k σ))
    obtain ⟨hrunb, hextb⟩ := runs_result hnm hrun1 (hext1.mono hk1) hval1 (j := k2) (Nat.le_trans hk1 hk2)
    exact ⟨_, runs_ifte hgc hrunb, hextb, rval_var nm Φ k2 σ1 μ C v⟩

theorem read_let {star : Bool} {binds : List (String × FExpr)} {body : FExpr} (hb : BindsOK nm binds) (he : ReadsOK nm body) :
    ReadsOK nm (.let_ star binds body) := by
  intro k m P ss r k' hr
  obtain ⟨s1, m', k1, s2, hrb, hre, rfl⟩ := readE_let_inv hr
  obtain ⟨hk1, _, hb⟩ := hb star k m m P s1 m' k1 hrb
  obtain ⟨hk2, he⟩ := he k1 m' P s2 r k' hre
  refine ⟨Nat.le_trans hk1 hk2, fun Φ hnm n C ρ σ μ v h hP hI => ?_⟩
  obtain ⟨n, rfl⟩ := eval_pos h
  rw [eval_let] at h
  obtain ⟨ρ1, hρ, h⟩ := bind_ok h
  obtain ⟨σ1, hrun1, hext1, hI1⟩ := hb Φ hnm n C ρ ρ σ μ ρ1 hρ hP hI hI
  obtain ⟨σ2, hrun2, hext2, hval2⟩ := he Φ hnm n C ρ1 σ1 μ v h hP hI1
  exact ⟨σ2, runs_append hrun1 hrun2, hext1.trans (hext2.mono hk1), hval2⟩

theorem read_ann {p : Props} {e : FExpr} (he : ReadsOK nm e) : ReadsOK nm (.ann p e) := by
  intro k m P ss r k' hr
  obtain ⟨s, r1, k1, C', hre, hC, rfl, rfl, rfl⟩ := readE_ann_inv hr
  obtain ⟨hk1, he⟩ := he k m (P.update p) s r1 k1 hre
  refine ⟨Nat.le_succ_of_le hk1, fun Φ hnm n C ρ σ μ v h hP hI => ?_⟩
  obtain ⟨n, rfl⟩ := eval_pos h
  rw [eval_ann] at h
  obtain ⟨σ1, hrun1, hext1, hval1⟩ := he Φ hnm n C' ρ σ μ v h hC hI
  obtain ⟨hrunb, hextb⟩ := runs_result hnm hrun1 hext1 hval1 hk1
  exact ⟨_, runs_with hrunb, hextb, rval_var nm Φ k1 σ1 μ C v⟩

theorem binds_nil : BindsOK nm [] := by
  intro star k m0 acc P ss m' k' hr
  simp only [readBinds, Option.some.injEq, Prod.mk.injEq] at hr
  obtain ⟨rfl, rfl, rfl⟩ := hr
  refine ⟨Nat.le_refl _, fun x => Or.inr ⟨rfl, List.not_mem_nil⟩, fun Φ _ n C ρ0 ρa σ μ ρ' h hP hI0 hIa => ?_⟩
  obtain ⟨n, rfl⟩ := evalBinds_pos h
  rw [evalBinds_nil] at h
  cases h
  exact ⟨σ, runs_nil Φ σ μ C, Ext.refl k σ, hIa⟩

theorem binds_cons {x : String} {e : FExpr} {rest : List (String × FExpr)} (he : ReadsOK nm e) (hrest : BindsOK nm rest) :
    BindsOK nm ((x, e) :: rest) := by
  intro star k m0 acc P ss m' k' hr
  obtain ⟨s, r, k1, ss2, hre, hrr, rfl⟩ := readBinds_cons_inv hr
  obtain ⟨hk1, he⟩ := he k _ P s r k1 hre
  obtain ⟨hk2, hfresh, hrest⟩ := hrest star (k1 + 1) m0 _ P ss2 m' k' hrr
  refine ⟨Nat.le_trans hk1 (Nat.le_of_succ_le hk2), fun x' => ?_, fun Φ hnm n C ρ0 ρa σ μ ρ' h hP hI0 hIa => ?_⟩
  · rcases hfresh x' with ⟨j, hj, hget⟩ | ⟨hget, hnot⟩
    · exact Or.inl ⟨j, Nat.le_trans hk1 (Nat.le_of_succ_le hj), hget⟩
    · rw [rmap_get_cons] at hget
      by_cases hx : x = x'
      · rw [if_pos hx] at hget
        exact Or.inl ⟨k1, hk1, hget⟩
      · rw [if_neg hx] at hget
        exact Or.inr ⟨hget, by simp only [List.map_cons, List.mem_cons, not_or]; exact ⟨fun e' => hx e'.symm, hnot⟩⟩
  · obtain ⟨n, rfl⟩ := evalBinds_pos h
    rw [evalBinds_cons] at h
    obtain ⟨v, hv, h⟩ := bind_ok h
    have hIe : RInv nm k (if star then acc else m0) (if star then ρa else ρ0) σ := by cases star <;> assumption
    obtain ⟨σ1, hrun1, hext1, hval1⟩ := he Φ hnm n C _ σ μ v hv hP hIe
    obtain ⟨hrun2, hext2⟩ := runs_result hnm hrun1 hext1 hval1 hk1
    have hI0' : RInv nm (k1 + 1) m0 ρ0 (σ1.set (nm k1) v) := hI0.mono (Nat.le_succ_of_le hk1) hext2
    have hIa' : RInv nm (k1 + 1) ((x, nm k1) :: acc) (ρa.set x v) (σ1.set (nm k1) v) :=
      rinv_bind hnm (hIa.mono hk1 hext1) (Nat.le_refl _) x v
    obtain ⟨σ3, hrun3, hext3, hI3⟩ := hrest Φ hnm n C ρ0 _ _ μ ρ' h hP hI0' hIa'
    exact ⟨σ3, runs_append hrun2 hrun3, hext2.trans (hext3.mono (Nat.le_succ_of_le hk1)), hI3⟩

theorem star_nil : StarOK nm [] := by
  intro k m1 P ss k' hr
  simp only [readUpdStar, Option.some.injEq, Prod.mk.injEq] at hr
  obtain ⟨rfl, rfl⟩ := hr
  refine ⟨Nat.le_refl _, fun Φ _ n k0 C ρ0 ρa σ μ ρ' h hP hI _ _ => ?_⟩
  obtain ⟨n, rfl⟩ := evalBinds_pos h
  rw [List.map_nil, evalBinds_nil] at h
  cases h
  exact ⟨σ, runs_nil Φ σ μ C, Ext.refl k0 σ, hI⟩

theorem star_cons {x : String} {i u : FExpr} {rest : List (String × FExpr × FExpr)} (hu : ReadsOK nm u) (hrest : StarOK nm rest) :
    StarOK nm ((x, i, u) :: rest) := by
  intro k m1 P ss k' hr
  obtain ⟨s, r, k1, y, ss2, hre, hy, hrr, rfl⟩ := readUpdStar_cons_inv hr
  obtain ⟨hk1, hu⟩ := hu k m1 P s r k1 hre
  obtain ⟨hk2, hrest⟩ := hrest k1 m1 P ss2 k' hrr
  refine ⟨Nat.le_trans hk1 hk2, fun Φ hnm n k0 C ρ0 ρa σ μ ρ' h hP hI hk0 hfresh => ?_⟩
  obtain ⟨n, rfl⟩ := evalBinds_pos h
  rw [List.map_cons, evalBinds_cons] at h
  obtain ⟨v, hv, h⟩ := bind_ok h
  obtain ⟨σ1, hrun1, hext1, hval1⟩ := hu Φ hnm n C ρa σ μ v hv hP hI
  obtain ⟨j, hj0, rfl⟩ := hfresh (x, i, u) List.mem_cons_self y hy
  obtain ⟨hrun2, hext2⟩ := runs_result hnm hrun1 (hext1.mono hk0) hval1 hj0
  have hI2 : RInv nm k1 m1 (ρa.set x v) (σ1.set (nm j) v) := rinv_update (hI.mono hk1 hext1) hy v
  obtain ⟨σ3, hrun3, hext3, hI3⟩ := hrest Φ hnm n k0 C ρ0 _ _ μ ρ' h hP hI2 (Nat.le_trans hk0 hk1)
    (fun b hb => hfresh b (List.mem_cons_of_mem _ hb))
  exact ⟨σ3, runs_append hrun2 hrun3, hext2.trans hext3, rinv_rebound hI hI3⟩

theorem tmp_nil : TmpOK nm [] := by
  intro _ k m1 P ss rebinds k' hr
  simp only [readUpdTmpGo, Option.some.injEq, Prod.mk.injEq] at hr
  obtain ⟨rfl, rfl, rfl⟩ := hr
  refine ⟨Nat.le_refl _, fun Φ _ n k0 C ρa σ μ ρ' h hP hI _ _ => ?_⟩
  obtain ⟨n, rfl⟩ := evalBinds_pos h
  rw [List.map_nil, evalBinds_nil] at h
  cases h
  exact ⟨σ, runs_nil Φ σ μ C, Ext.refl k0 σ, hI⟩

theorem tmp_one {x : String} {i u : FExpr} (hu : ReadsOK nm u) : TmpOK nm [(x, i, u)] := by
  intro _ k m1 P ss rebinds k' hr
  obtain ⟨s, r, k1, y, ss2, rb2, hre, hy, hrr, rfl, rfl⟩ := readUpdTmpGo_cons_inv hr
  simp only [readUpdTmpGo, Option.some.injEq, Prod.mk.injEq] at hrr
  obtain ⟨rfl, rfl, rfl⟩ := hrr
  obtain ⟨hk1, hu⟩ := hu k m1 P s r k1 hre
  refine ⟨Nat.le_succ_of_le hk1, fun Φ hnm n k0 C ρa σ μ ρ' h hP hI hk0 hfresh => ?_⟩
  obtain ⟨n, rfl⟩ := evalBinds_pos h
  rw [List.map_cons, evalBinds_cons] at h
  obtain ⟨v, hv, h⟩ := bind_ok h
  obtain ⟨n, rfl⟩ := evalBinds_pos h
  rw [List.map_nil, evalBinds_nil] at h
  cases h
  obtain ⟨σ1, hrun1, hext1, hval1⟩ := hu Φ hnm _ C ρa σ μ v hv hP hI
  -- `t = <new value>`, then `y = t`
  obtain ⟨hrun2, hext2⟩ := runs_result hnm hrun1 hext1 hval1 hk1
  obtain ⟨j, hj0, rfl⟩ := hfresh (x, i, u) List.mem_cons_self y hy
  have hrun3 := runs_assign (x := nm j) (gives_var Φ μ C (get?_set_self σ1 (nm k1) v))
  refine ⟨_, ?_, (hext2.mono hk0).trans (ext_set hnm _ v hj0), rinv_update (hI.mono (Nat.le_refl _) hext2) hy v⟩
  rw [List.append_nil]
  exact runs_append hrun2 hrun3

theorem read_while {star : Bool} {c : FExpr} {binds : List (String × FExpr × FExpr)} {body : FExpr}
    (hi : BindsOK nm (binds.map fun b => (b.1, b.2.1))) (hs : StarOK nm binds) (ht : TmpOK nm binds) (hb : ReadsOK nm body) :
    ReadsOK nm (.while_ star c binds body) := by
  intro k m P ss r k' hr
  obtain ⟨hlen, si, m1, k1, c', su, k2, sb, hri, hrc, hru, hrb, rfl⟩ := readE_while_inv hr
  rw [readInits_eq] at hri
  obtain ⟨hk1, hfresh, hi⟩ := hi star k m m P si m1 k1 hri
  obtain ⟨hk3, hb⟩ := hb k2 m1 P sb r k' hrb
  have hfr : ∀ b, b ∈ binds → ∀ y, m1.get? b.1 = some y → ∃ j, k ≤ j ∧ y = nm j := by
    intro b hbm y hy
    rcases hfresh b.1 with ⟨j, hj, hget⟩ | ⟨_, hnot⟩
    · exact ⟨j, hj, Option.some.inj (hy.symm.trans hget)⟩
    · exact absurd (List.mem_map.2 ⟨(b.1, b.2.1), List.mem_map.2 ⟨b, hbm, rfl⟩, rfl⟩) hnot
  have hupd : k1 ≤ k2 ∧ ∀ Φ, (∀ i j, nm i = nm j → i = j) → RoundOK nm Φ star binds k1 m1 P su := by
    cases star with
    | true =>
      obtain ⟨hk2, hs⟩ := hs k1 m1 P su k2 hru
      exact ⟨hk2, fun Φ hnm n k0 C ρa σa μ ρb => hs Φ hnm n k0 C ρa ρa σa μ ρb⟩
    | false =>
      simp only [Bool.false_eq_true, if_false, Option.map_eq_some_iff, Prod.mk.injEq] at hru
      obtain ⟨⟨a1, a2, a3⟩, ha, rfl, rfl⟩ := hru
      exact ht (hlen.resolve_left Bool.false_ne_true) k1 m1 P a1 a2 a3 ha
  obtain ⟨hk2, hupd⟩ := hupd
  refine ⟨Nat.le_trans hk1 (Nat.le_trans hk2 hk3), fun Φ hnm n C ρ σ μ v h hP hI => ?_⟩
  obtain ⟨n, rfl⟩ := eval_pos h
  rw [eval_while] at h
  obtain ⟨ρ1, hρ1, h⟩ := bind_ok h
  obtain ⟨σ1, hrun1, hext1, hI1⟩ := hi Φ hnm n C ρ ρ σ μ ρ1 hρ1 hP hI hI
  -- the loop: as many rounds as FPCore makes, then the body is evaluated where the loop ends
  have loop : ∀ n ρa σa, whileLoop n star ρa P c binds body = .ok v → RInv nm k1 m1 ρa σa →
      ∃ ρb σb n', eval n' ρb P body = .ok v ∧ Fpy.Xform.evalSω Φ σa μ C (.while c' su) = .ok (.normal σb, μ) ∧
        Ext nm k σa σb ∧ RInv nm k1 m1 ρb σb := by
    intro n
    induction n with
    | zero => intro ρa σa hw; simp [whileLoop] at hw
    | succ n ih =>
      intro ρa σa hw hIa
      rw [whileLoop_succ] at hw
      obtain ⟨cv, hcv, hw1⟩ := bind_ok hw
      obtain ⟨b, hcb, hw2⟩ := bind_ok hw1
      cases asBool_ok hcb
      have hgc : Gives Φ σa μ C c' (.bool b) := readP_sound Φ hcv hrc hP (rinv_penv hIa)
      cases b with
      | false => exact ⟨ρa, σa, n, hw2, while_false su hgc, Ext.refl k σa, hIa⟩
      | true =>
        rw [if_pos rfl] at hw2
        obtain ⟨ρb, hρb, hw⟩ := bind_ok hw2
        obtain ⟨σb, hrunu, hextu, hIb⟩ := hupd Φ hnm n k C ρa σa μ ρb hρb hP hIa hk1 hfr
        obtain ⟨ρc, σc, n', hbody, hwh, hext2, hIc⟩ := ih ρb σb hw hIb
        exact ⟨ρc, σc, n', hbody, while_true hgc hrunu hwh, hextu.trans hext2, hIc⟩
  obtain ⟨ρc, σc, n', hbody, hF, hextl, hIc⟩ := loop n ρ1 σ1 h hI1
  obtain ⟨σ4, hrun4, hext4, hval4⟩ := hb Φ hnm n' C ρc σc μ v hbody hP (hIc.mono hk2 (Ext.refl k1 σc))
  exact ⟨σ4, runs_append (runs_append hrun1 ((Fpy.Xform.evalBω_single Φ σ1 μ C _).trans hF)) hrun4,
    hext1.trans (hextl.trans (hext4.mono (Nat.le_trans hk1 hk2))), hval4⟩

mutual
theorem readE_ok : ∀ e : FExpr, ReadsOK nm e
  | .ite _ t f => read_ite nm (readE_ok t) (readE_ok f)
  | .let_ _ binds body => read_let nm (readBinds_ok binds) (readE_ok body)
  | .ann _ e => read_ann nm (readE_ok e)
  | .while_ _ _ binds body => read_while nm (readInits_ok binds) (readUpdStar_ok binds) (readUpdTmpGo_ok binds) (readE_ok body)
  | .var _ | .num _ | .const _ | .op _ _ | .pred _ _ | .cmp _ _ | .and _ | .or _ | .not _ | .for_ _ _ _ _ | .tensor _ _
  | .array _ | .ref _ _ | .size _ _ | .dim _ => read_pure nm fun _ _ _ => rfl
theorem readBinds_ok : ∀ binds : List (String × FExpr), BindsOK nm binds
  | [] => binds_nil nm
  | (_, e) :: rest => binds_cons nm (readE_ok e) (readBinds_ok rest)
/-- the initial values of a loop's variables are read like the bindings of a `let` (`readInits_eq`) -/
theorem readInits_ok : ∀ binds : List (String × FExpr × FExpr), BindsOK nm (binds.map fun b => (b.1, b.2.1))
  | [] => binds_nil nm
  | (_, i, _) :: rest => binds_cons nm (readE_ok i) (readInits_ok rest)
theorem readUpdStar_ok : ∀ binds : List (String × FExpr × FExpr), StarOK nm binds
  | [] => star_nil nm
  | (_, _, u) :: rest => star_cons nm (readE_ok u) (readUpdStar_ok rest)
theorem readUpdTmpGo_ok : ∀ binds : List (String × FExpr × FExpr), TmpOK nm binds
  | [] => tmp_nil nm
  | [(_, _, u)] => tmp_one nm (readE_ok u)
  | _ :: _ :: _ => fun h => absurd h (by simp)
end

theorem readBinds_mono : ∀ (binds : List (String × FExpr)) (star : Bool) (k : Nat) (m0 acc : RMap) (P : Props)
    (ss : List Stmt) (m' : RMap) (k' : Nat), readBinds nm star k m0 acc P binds = some (ss, m', k') → k ≤ k' :=
  fun binds star k m0 acc P ss m' k' h => (readBinds_ok nm binds star k m0 acc P ss m' k' h).1

theorem readInits_mono : ∀ (binds : List (String × FExpr × FExpr)) (star : Bool) (k : Nat) (m0 acc : RMap) (P : Props)
    (ss : List Stmt) (m' : RMap) (k' : Nat), readInits nm star k m0 acc P binds = some (ss, m', k') → k ≤ k' :=
  fun binds star k m0 acc P ss m' k' h => (readInits_ok nm binds star k m0 acc P ss m' k' (readInits_eq nm star binds k m0 acc P ▸ h)).1

end

end Fpy.C12
