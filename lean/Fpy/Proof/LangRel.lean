/-
The checker `simE … simB` (Model/Lang/Sim.lean) read as a relation: `SimE rd bd e1 e2` — the two expressions have the
same shape, a read of `a` stands where a read of `b` stands with `rd a b`, a binder `a` where a binder `b` stands with
`bd a b`.  `rd`, `bd` are arbitrary relations on names, which no finite `VRel` is: at `Eq` every program is related to
itself (`SimE.refl`, and `refl_on` for relations that hold of the names the program mentions); at `R.has`, `R.bindOK`
the relation contains what the checker accepts (`simE_sound`, LangSim).  Lists and blocks are related by `All2`
(`SimPs`, `SimEs`, `SimB` name no relation, only the reflexivity lemmas for lists), so the relations are nested
inductives: `cases` works on them, `induction` does not, and is not needed (the inductions are on the fuel).
-/
import Fpy.Model.Lang.Vars
import Fpy.Proof.LangBase
namespace Fpy.Xform
open Fpy Fpy.Lang

theorem memL {p : String → Prop} {a b : List String} (h : ∀ z ∈ a ++ b, p z) : ∀ z ∈ a, p z :=
  fun z hz => h z (List.mem_append_left _ hz)
theorem memR {p : String → Prop} {a b : List String} (h : ∀ z ∈ a ++ b, p z) : ∀ z ∈ b, p z :=
  fun z hz => h z (List.mem_append_right _ hz)
theorem not_mem_of_not_mem_append_left {α : Type} {z : α} {a b : List α} (h : z ∉ a ++ b) : z ∉ a :=
  fun h' => h (List.mem_append_left _ h')
theorem not_mem_of_not_mem_append_right {α : Type} {z : α} {a b : List α} (h : z ∉ a ++ b) : z ∉ b :=
  fun h' => h (List.mem_append_right _ h')

inductive SimP (bd : String → String → Prop) : Pat → Pat → Prop
  | var {a b : String} : bd a b → SimP bd (.var a) (.var b)
  | wild : SimP bd .wild .wild
  | tup {ps qs : List Pat} : All2 (SimP bd) ps qs → SimP bd (.tup ps) (.tup qs)

mutual
inductive SimE (rd bd : String → String → Prop) : Expr → Expr → Prop
  | var {a b : String} : rd a b → SimE rd bd (.var a) (.var b)
  | bool (b : Bool) : SimE rd bd (.bool b) (.bool b)
  | num (v : NV) : SimE rd bd (.num v) (.num v)
  | ctxLit (c : Ctx) : SimE rd bd (.ctxLit c) (.ctxLit c)
  | op (o : Op) {as bs : List Expr} : All2 (SimE rd bd) as bs → SimE rd bd (.op o as) (.op o bs)
  | pred (p : Pred) {a b : Expr} : SimE rd bd a b → SimE rd bd (.pred p a) (.pred p b)
  | cmp (ops : List CmpOp) {as bs : List Expr} : All2 (SimE rd bd) as bs → SimE rd bd (.cmp ops as) (.cmp ops bs)
  | not {a b : Expr} : SimE rd bd a b → SimE rd bd (.not a) (.not b)
  | and {as bs : List Expr} : All2 (SimE rd bd) as bs → SimE rd bd (.and as) (.and bs)
  | or {as bs : List Expr} : All2 (SimE rd bd) as bs → SimE rd bd (.or as) (.or bs)
  | ite {c c' t t' f f' : Expr} : SimE rd bd c c' → SimE rd bd t t' → SimE rd bd f f' →
      SimE rd bd (.ite c t f) (.ite c' t' f')
  | tuple {as bs : List Expr} : All2 (SimE rd bd) as bs → SimE rd bd (.tuple as) (.tuple bs)
  | list {as bs : List Expr} : All2 (SimE rd bd) as bs → SimE rd bd (.list as) (.list bs)
  | index {a b i j : Expr} : SimE rd bd a b → SimE rd bd i j → SimE rd bd (.index a i) (.index b j)
  | slice {a b : Expr} {s s' t t' : Option Expr} : SimE rd bd a b → SimO rd bd s s' → SimO rd bd t t' →
      SimE rd bd (.slice a s t) (.slice b s' t')
  | comp {ps qs : List Pat} {its its' : List Expr} {elt elt' : Expr} : All2 (SimP bd) ps qs →
      All2 (SimE rd bd) its its' → SimE rd bd elt elt' → SimE rd bd (.comp ps its elt) (.comp qs its' elt')
  | len {a b : Expr} : SimE rd bd a b → SimE rd bd (.len a) (.len b)
  | range {as bs : List Expr} : All2 (SimE rd bd) as bs → SimE rd bd (.range as) (.range bs)
  | zip {as bs : List Expr} : All2 (SimE rd bd) as bs → SimE rd bd (.zip as) (.zip bs)
  | enumerate {a b : Expr} : SimE rd bd a b → SimE rd bd (.enumerate a) (.enumerate b)
  | sum {a b : Expr} : SimE rd bd a b → SimE rd bd (.sum a) (.sum b)
  | min {as bs : List Expr} : All2 (SimE rd bd) as bs → SimE rd bd (.min as) (.min bs)
  | max {as bs : List Expr} : All2 (SimE rd bd) as bs → SimE rd bd (.max as) (.max bs)
  | any {a b : Expr} : SimE rd bd a b → SimE rd bd (.any a) (.any b)
  | all {a b : Expr} : SimE rd bd a b → SimE rd bd (.all a) (.all b)
  | roundAt {a b n m : Expr} : SimE rd bd a b → SimE rd bd n m → SimE rd bd (.roundAt a n) (.roundAt b m)
  | call (f : String) {as bs : List Expr} : All2 (SimE rd bd) as bs → SimE rd bd (.call f as) (.call f bs)
inductive SimO (rd bd : String → String → Prop) : Option Expr → Option Expr → Prop
  | none : SimO rd bd none none
  | some {a b : Expr} : SimE rd bd a b → SimO rd bd (some a) (some b)
end

inductive SimS (rd bd : String → String → Prop) : Stmt → Stmt → Prop
  | assign {p q : Pat} {e e' : Expr} : SimP bd p q → SimE rd bd e e' → SimS rd bd (.assign p e) (.assign q e')
  | iassign {x y : String} {is js : List Expr} {e e' : Expr} : rd x y → All2 (SimE rd bd) is js → SimE rd bd e e' →
      SimS rd bd (.iassign x is e) (.iassign y js e')
  | ifte {c c' : Expr} {t t' f f' : List Stmt} : SimE rd bd c c' → All2 (SimS rd bd) t t' → All2 (SimS rd bd) f f' →
      SimS rd bd (.ifte c t f) (.ifte c' t' f')
  | if1 {c c' : Expr} {t t' : List Stmt} : SimE rd bd c c' → All2 (SimS rd bd) t t' → SimS rd bd (.if1 c t) (.if1 c' t')
  | while {c c' : Expr} {b b' : List Stmt} : SimE rd bd c c' → All2 (SimS rd bd) b b' →
      SimS rd bd (.while c b) (.while c' b')
  | for {p q : Pat} {it it' : Expr} {b b' : List Stmt} : SimP bd p q → SimE rd bd it it' → All2 (SimS rd bd) b b' →
      SimS rd bd (.for p it b) (.for q it' b')
  | with {ce ce' : Expr} {nm nm' : Option String} {b b' : List Stmt} : SimE rd bd ce ce' → ORel bd nm nm' →
      All2 (SimS rd bd) b b' → SimS rd bd (.with ce nm b) (.with ce' nm' b')
  | assert {e e' : Expr} : SimE rd bd e e' → SimS rd bd (.assert e) (.assert e')
  | effect {e e' : Expr} : SimE rd bd e e' → SimS rd bd (.effect e) (.effect e')
  | ret {e e' : Expr} : SimE rd bd e e' → SimS rd bd (.ret e) (.ret e')
  | pass : SimS rd bd .pass .pass

theorem SimP.refl_on {bd : String → String → Prop} (p : Pat) : (∀ w ∈ bvP p, bd w w) → SimP bd p p := by
  apply Pat.rec (motive_1 := fun p => (∀ w ∈ bvP p, bd w w) → SimP bd p p)
    (motive_2 := fun ps => (∀ w ∈ bvPs ps, bd w w) → All2 (SimP bd) ps ps)
  case var => intro x h; exact .var (h x (List.mem_singleton.2 rfl))
  case wild => intro _; exact .wild
  case tup => intro ps ih h; exact .tup (ih h)
  case nil => intro _; exact .nil
  case cons => intro p ps h1 h2 h; exact .cons (h1 (memL h)) (h2 (memR h))

theorem SimPs.refl_on {bd : String → String → Prop} (ps : List Pat) (h : ∀ w ∈ bvPs ps, bd w w) : All2 (SimP bd) ps ps :=
  match SimP.refl_on (.tup ps) h with
  | .tup hps => hps

theorem SimE.refl_on {rd bd : String → String → Prop} (e : Expr) :
    (∀ z ∈ readsE e, rd z z) → (∀ w ∈ bvE e, bd w w) → SimE rd bd e e := by
  apply Expr.rec
    (motive_1 := fun e => (∀ z ∈ readsE e, rd z z) → (∀ w ∈ bvE e, bd w w) → SimE rd bd e e)
    (motive_2 := fun es => (∀ z ∈ readsEs es, rd z z) → (∀ w ∈ bvEs es, bd w w) → All2 (SimE rd bd) es es)
    (motive_3 := fun o => (∀ z ∈ readsO o, rd z z) → (∀ w ∈ bvO o, bd w w) → SimO rd bd o o)
  case var => intro x h1 _; exact .var (h1 x (List.mem_singleton.2 rfl))
  case bool | num | ctxLit | nil | none => intros; constructor
  case op | cmp | call | pred => intro _ _ ih h1 h2; constructor; exact ih h1 h2
  case not | len | enumerate | sum | any | all | and | or | tuple | list | range | zip | min | max | some =>
    intro _ ih h1 h2; constructor; exact ih h1 h2
  case ite | slice =>
    intro c t f ihc iht ihf h1 h2
    constructor
    · exact ihc (memL (memL h1)) (memL (memL h2))
    · exact iht (memR (memL h1)) (memR (memL h2))
    · exact ihf (memR h1) (memR h2)
  case index | roundAt | cons =>
    intro a i iha ihi h1 h2
    constructor
    · exact iha (memL h1) (memL h2)
    · exact ihi (memR h1) (memR h2)
  case comp =>
    intro ps its elt ihi ihe h1 h2
    exact .comp (SimPs.refl_on ps (memL (memL h2))) (ihi (memL h1) (memR (memL h2))) (ihe (memR h1) (memR h2))

theorem SimEs.refl_on {rd bd : String → String → Prop} (es : List Expr) (h1 : ∀ z ∈ readsEs es, rd z z)
    (h2 : ∀ w ∈ bvEs es, bd w w) : All2 (SimE rd bd) es es :=
  match SimE.refl_on (.tuple es) h1 h2 with
  | .tuple hes => hes

theorem SimB.refl_on {rd bd : String → String → Prop} (ss : List Stmt) :
    (∀ z ∈ readsB ss, rd z z) → (∀ w ∈ bvB ss, bd w w) → All2 (SimS rd bd) ss ss := by
  apply Stmt.rec_1
    (motive_1 := fun s => (∀ z ∈ readsS s, rd z z) → (∀ w ∈ bvS s, bd w w) → SimS rd bd s s)
    (motive_2 := fun ss => (∀ z ∈ readsB ss, rd z z) → (∀ w ∈ bvB ss, bd w w) → All2 (SimS rd bd) ss ss)
  case assign => intro p e h1 h2; exact .assign (.refl_on p (memL h2)) (.refl_on e h1 (memR h2))
  case iassign =>
    intro x is e h1 h2
    have h1' : ∀ z ∈ readsEs is ++ readsE e, rd z z := fun z hz => h1 z (List.mem_cons_of_mem _ hz)
    exact .iassign (h1 x List.mem_cons_self) (SimEs.refl_on is (memL h1') (memL h2)) (.refl_on e (memR h1') (memR h2))
  case ifte =>
    intro c t f iht ihf h1 h2
    exact .ifte (.refl_on c (memL (memL h1)) (memL (memL h2))) (iht (memR (memL h1)) (memR (memL h2))) (ihf (memR h1) (memR h2))
  case if1 | «while» =>
    intro c b ih h1 h2
    constructor
    · exact .refl_on c (memL h1) (memL h2)
    · exact ih (memR h1) (memR h2)
  case «for» =>
    intro p it b ih h1 h2
    exact .for (.refl_on p (memL (memL h2))) (.refl_on it (memL h1) (memR (memL h2))) (ih (memR h1) (memR h2))
  case «with» =>
    intro ce nm b ih h1 h2
    refine .with (.refl_on ce (memL h1) (memR (memL h2))) ?_ (ih (memR h1) (memR h2))
    cases nm with
    | none => exact trivial
    | some x => exact h2 x (List.mem_append_left _ (List.mem_append_left _ (List.mem_singleton.2 rfl)))
  case assert | effect | ret => intro e h1 h2; constructor; exact .refl_on e h1 h2
  case pass | nil => intros; constructor
  case cons => intro s ss ihs ihss h1 h2; exact .cons (ihs (memL h1) (memL h2)) (ihss (memR h1) (memR h2))

theorem SimP.refl (p : Pat) : SimP Eq p p := .refl_on p fun _ _ => rfl
theorem SimPs.refl (ps : List Pat) : All2 (SimP Eq) ps ps := SimPs.refl_on ps fun _ _ => rfl
theorem SimE.refl (e : Expr) : SimE Eq Eq e e := .refl_on e (fun _ _ => rfl) fun _ _ => rfl
theorem SimEs.refl (es : List Expr) : All2 (SimE Eq Eq) es es := SimEs.refl_on es (fun _ _ => rfl) fun _ _ => rfl
theorem SimB.refl (ss : List Stmt) : All2 (SimS Eq Eq) ss ss := SimB.refl_on ss (fun _ _ => rfl) fun _ _ => rfl
theorem SimS.refl (s : Stmt) : SimS Eq Eq s s := by
  have := SimB.refl [s]
  cases this with
  | cons h _ => exact h

end Fpy.Xform
