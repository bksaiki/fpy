/-
C12 — expressions.  An expression of the subset with tuples (`LExpr`), compiled with every variable `x`
written as an expression `sub x` that evaluates to the value of `x` (`LExpr.toFsub`), evaluates in FPCore,
under the property set that denotes the active context, to the value the core language gives.  The
expressions of the loop-free subset (`SExpr`) are the tuple-free ones, with `sub := FExpr.var`.
-/
import Fpy.Model.FPCoreLoops
import Fpy.Proof.FPCoreSound
import Fpy.Proof.LangMeta
namespace Fpy.C12
open Fpy Fpy.Lang

/-- the expression written for a variable of `S` evaluates to the value the variable has in `σ` -/
def SubOK (ρ : Env) (P : Props) (σ : Env) (sub : String → FExpr) (S : List String) : Prop :=
  ∀ x, x ∈ S → ∀ w, σ.get? x = some w → Conv ρ P (sub x) w

theorem SubOK.mono {ρ P σ sub} {S T : List String} (h : SubOK ρ P σ sub T) (hs : ∀ x, x ∈ S → x ∈ T) : SubOK ρ P σ sub S :=
  fun x hx w hw => h x (hs x hx) w hw

def LExprOK (Φ : Funs) (fuel : Nat) : Prop :=
  ∀ (e : LExpr) (σ : Env) (μ : Heap) (C : Ctx) (v : Val) (μ' : Heap),
    evalE Φ fuel σ μ C e.toLang = .ok (v, μ') →
    μ' = μ ∧ ∀ (ρ : Env) (P : Props) (sub : String → FExpr), P.toCtx = .ok C → SubOK ρ P σ sub e.vars →
      Conv ρ P (e.toFsub sub) v

def LExprsOK (Φ : Funs) (fuel : Nat) : Prop :=
  ∀ (es : List LExpr) (σ : Env) (μ : Heap) (C : Ctx) (vs : List Val) (μ' : Heap),
    evalEs Φ fuel σ μ C (LExpr.toLangs es) = .ok (vs, μ') →
    μ' = μ ∧ ∀ (ρ : Env) (P : Props) (sub : String → FExpr), P.toCtx = .ok C → SubOK ρ P σ sub (LExpr.varsL es) →
      ConvL ρ P (LExpr.toFsubs sub es) vs

theorem lexprs_step (Φ : Funs) (f : Nat) (hE : LExprOK Φ f) (hEs : LExprsOK Φ f) : LExprsOK Φ (f + 1) := by
  intro es σ μ C vs μ' h
  cases es with
  | nil =>
    rw [LExpr.toLangs, evalEs_nil] at h
    cases h
    exact ⟨rfl, fun ρ P sub _ _ => convL_nil⟩
  | cons e es =>
    rw [LExpr.toLangs, evalEs_cons] at h
    obtain ⟨⟨v, μ1⟩, h1, h⟩ := bind_ok h
    obtain ⟨⟨ws, μ2⟩, h2, h⟩ := bind_ok h
    cases h
    obtain ⟨rfl, c1⟩ := hE e σ _ C v _ h1
    obtain ⟨rfl, c2⟩ := hEs es σ _ C ws _ h2
    refine ⟨rfl, fun ρ P sub hP hS => ?_⟩
    exact convL_cons (c1 ρ P sub hP (hS.mono (fun x hx => by simp [LExpr.varsL, hx])))
      (c2 ρ P sub hP (hS.mono (fun x hx => by simp [LExpr.varsL, hx])))

theorem lexpr_step (Φ : Funs) (f : Nat) (hE : LExprOK Φ f) (hEs : LExprsOK Φ f) : LExprOK Φ (f + 1) := by
  intro e σ μ C v μ' h
  cases e with
  | var x =>
    rw [LExpr.toLang, evalE_var] at h
    cases hx : σ.get? x with
    | none => rw [hx] at h; cases h
    | some w =>
      rw [hx] at h
      cases h
      exact ⟨rfl, fun ρ P sub _ hS => hS x (by simp [LExpr.vars]) _ hx⟩
  | lit v0 =>
    rw [LExpr.toLang, evalE_op] at h
    obtain ⟨⟨vs, μ1⟩, h1, h⟩ := bind_ok h
    -- `[.num v0]` needs two more steps; with more fuel it gives `[.num v0]`, so it gave that
    have h1' := Fpy.Xform.evalEs_fuel_mono (Nat.le_add_right f 2) h1 (by simp)
    rw [evalEs_cons, evalE_num] at h1'
    simp only [bind, Except.bind, evalEs_nil] at h1'
    cases h1'
    simp only [List.mapM_cons, List.mapM_nil, asNum, bind, Except.bind, pure, Except.pure, List.map] at h
    obtain ⟨r, hr, h⟩ := bind_ok h
    cases h
    exact ⟨rfl, fun ρ P sub hP _ => conv_num hP hr⟩
  | op o args =>
    rw [LExpr.toLang, evalE_op] at h
    obtain ⟨⟨vs, μ1⟩, h1, h⟩ := bind_ok h
    obtain ⟨ns, h2, h⟩ := bind_ok h
    obtain ⟨r, h3, h⟩ := bind_ok h
    cases h
    obtain ⟨rfl, c⟩ := hEs args σ _ C vs _ h1
    exact ⟨rfl, fun ρ P sub hP hS => conv_op hP (c ρ P sub hP (by simpa [LExpr.vars] using hS)) h2 h3⟩
  | tuple es =>
    rw [LExpr.toLang, evalE_tuple] at h
    obtain ⟨⟨vs, μ1⟩, h1, h⟩ := bind_ok h
    cases h
    obtain ⟨rfl, c⟩ := hEs es σ _ C vs _ h1
    exact ⟨rfl, fun ρ P sub hP hS => conv_array (c ρ P sub hP (by simpa [LExpr.vars] using hS))⟩
  | cmp o a b =>
    rw [LExpr.toLang, evalE_cmp_cons] at h
    obtain ⟨⟨av, μ1⟩, h1, k1⟩ := bind_ok h
    cases f with
    | zero => cases k1
    | succ g =>
      dsimp only at k1
      rw [evalChain_order] at k1
      obtain ⟨⟨bv, μ2⟩, h2, k2⟩ := bind_ok k1
      obtain ⟨x, hx, k3⟩ := bind_ok k2
      obtain ⟨y, hy, k4⟩ := bind_ok k3
      clear h k1 k2 k3
      obtain ⟨rfl, c1⟩ := hE a σ _ C av _ h1
      obtain ⟨rfl, c2⟩ := hE b σ _ C bv _ (Fpy.Xform.evalE_fuel_mono (Nat.le_succ g) h2 (by simp))
      cases asNum_ok hx
      cases asNum_ok hy
      have hval : v = .bool (cmpHolds o.toCmp (Lang.nvCompare x y)) ∧ μ' = μ2 := by
        cases hc : cmpHolds o.toCmp (Lang.nvCompare x y) with
        | false => rw [hc] at k4; simp only [Bool.false_eq_true, if_false, pure, Except.pure] at k4; cases k4; exact ⟨rfl, rfl⟩
        | true =>
          rw [hc] at k4; simp only [if_true] at k4
          cases g with
          | zero => cases k4
          | succ k => rw [evalChain_nil] at k4; cases k4; exact ⟨rfl, rfl⟩
      obtain ⟨rfl, rfl⟩ := hval
      refine ⟨rfl, fun ρ P sub hP hS => ?_⟩
      have := conv_cmp (o := o.toCmp) (c1 ρ P sub hP (hS.mono (fun z hz => by simp [LExpr.vars, hz])))
        (c2 ρ P sub hP (hS.mono (fun z hz => by simp [LExpr.vars, hz])))
      rw [cmpNums_order] at this
      exact this

theorem lexpr_sound_all (Φ : Funs) : ∀ fuel, LExprOK Φ fuel ∧ LExprsOK Φ fuel := by
  intro fuel
  induction fuel with
  | zero => exact ⟨fun e σ μ C v μ' h => by simp [evalE] at h, fun es σ μ C vs μ' h => by simp [evalEs] at h⟩
  | succ n ih => exact ⟨lexpr_step Φ n ih.1 ih.2, lexprs_step Φ n ih.1 ih.2⟩

theorem lexpr_sound (Φ : Funs) (fuel : Nat) : LExprOK Φ fuel := (lexpr_sound_all Φ fuel).1

mutual
def SExpr.toL : SExpr → LExpr
  | .var x => .var x
  | .lit v => .lit v
  | .op o args => .op o (SExpr.toLs args)
  | .cmp o a b => .cmp o a.toL b.toL
def SExpr.toLs : List SExpr → List LExpr
  | [] => []
  | e :: es => e.toL :: SExpr.toLs es
end

mutual
theorem SExpr.toL_toLang : ∀ e : SExpr, e.toL.toLang = e.toLang
  | .var _ => rfl
  | .lit _ => rfl
  | .op o args => by simp only [SExpr.toL, LExpr.toLang, SExpr.toLang, SExpr.toLs_toLangs args]
  | .cmp o a b => by simp only [SExpr.toL, LExpr.toLang, SExpr.toLang, SExpr.toL_toLang a, SExpr.toL_toLang b]
theorem SExpr.toLs_toLangs : ∀ es : List SExpr, LExpr.toLangs (SExpr.toLs es) = SExpr.toLangs es
  | [] => rfl
  | e :: es => by simp only [SExpr.toLs, LExpr.toLangs, SExpr.toLangs, SExpr.toL_toLang e, SExpr.toLs_toLangs es]
end

mutual
theorem SExpr.toL_toF : ∀ e : SExpr, e.toL.toFsub FExpr.var = e.toF
  | .var _ => rfl
  | .lit _ => rfl
  | .op o args => by simp only [SExpr.toL, LExpr.toFsub, SExpr.toF, SExpr.toLs_toFs args]
  | .cmp o a b => by simp only [SExpr.toL, LExpr.toFsub, SExpr.toF, SExpr.toL_toF a, SExpr.toL_toF b]
theorem SExpr.toLs_toFs : ∀ es : List SExpr, LExpr.toFsubs FExpr.var (SExpr.toLs es) = SExpr.toFs es
  | [] => rfl
  | e :: es => by simp only [SExpr.toLs, LExpr.toFsubs, SExpr.toFs, SExpr.toL_toF e, SExpr.toLs_toFs es]
end

mutual
theorem SExpr.toL_vars : ∀ e : SExpr, e.toL.vars = e.vars
  | .var _ => rfl
  | .lit _ => rfl
  | .op o args => by simp only [SExpr.toL, LExpr.vars, SExpr.vars, SExpr.toLs_varsL args]
  | .cmp o a b => by simp only [SExpr.toL, LExpr.vars, SExpr.vars, SExpr.toL_vars a, SExpr.toL_vars b]
theorem SExpr.toLs_varsL : ∀ es : List SExpr, LExpr.varsL (SExpr.toLs es) = SExpr.varsL es
  | [] => rfl
  | e :: es => by simp only [SExpr.toLs, LExpr.varsL, SExpr.varsL, SExpr.toL_vars e, SExpr.toLs_varsL es]
end

theorem expr_sound {Φ : Funs} {fuel : Nat} {e : SExpr} {σ : Env} {μ : Heap} {C : Ctx} {v : Val} {μ' : Heap}
    (h : evalE Φ fuel σ μ C e.toLang = .ok (v, μ')) :
    μ' = μ ∧ ∀ (ρ : Env) (P : Props), P.toCtx = .ok C → Agree e.vars ρ σ →
      (∀ x, x ∈ e.vars → isTmp x = false) → Conv ρ P e.toF v := by
  rw [← SExpr.toL_toLang] at h
  obtain ⟨hm, c⟩ := lexpr_sound Φ fuel e.toL σ μ C v μ' h
  refine ⟨hm, fun ρ P hP hA hT => ?_⟩
  rw [← SExpr.toL_toF]
  refine c ρ P FExpr.var hP (fun x hx w hw => conv_var ?_)
  rw [SExpr.toL_vars] at hx
  rw [hA x hx (hT x hx)]; exact hw

end Fpy.C12
