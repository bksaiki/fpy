/-
Lemmas for property C20 (library decompositions are exact): arithmetic under the real context is the exact
`RealFloat` arithmetic; `ctx.round(x, exact=True)` returns the value of `x` or raises, in every context family
but `ExpContext` (`NotExp`); the mantissa of `frexp`, integrality of the high part of `split` / `modf`;
`ldexp(x, n)` is the single multiplication `x * 2^n`.
-/
import Fpy.Model.Lib
import Fpy.Proof.EngineLemmas
import Fpy.Proof.Exact
import Fpy.Proof.Except
namespace Fpy.C20
open Fpy Fpy.Lib Fpy.Lang

theorem real_add_fin (a b : RF) :
    ap .real .add [.fv (.fin a), .fv (.fin b)] = .ok (.fv (.fin (a.add b))) := rfl

theorem real_sub_fin (a b : RF) :
    ap .real .sub [.fv (.fin a), .fv (.fin b)] = .ok (.fv (.fin (a.sub b))) := rfl

theorem realMul_fin (a b : RF) : realMul (.fv (.fin a)) (.fv (.fin b)) = .fv (.fin (a.mul b)) := by
  unfold realMul RF.mul
  by_cases ha : a.c = 0 <;> by_cases hb : b.c = 0 <;>
    simp [nvIsNan, nvIsInf, nvIsZero, FV.isNan, FV.isInf, FV.isZero, nvSign, FV.sign, ha, hb]

theorem ap_real_exact (op : Op) (args : List NV) (v : FV)
    (hop : opEvalFl .real op (args.map cvtReal) = opEngines .real op (args.map cvtReal))
    (h : exactEngine op (args.map cvtReal) = some (.ok (.fv v))) : ap .real op args = .ok (.fv v) := by
  obtain ⟨fl, e⟩ := opEngines_real h
  unfold ap opEval
  rw [hop, e]; rfl

theorem real_mul_fin (a b : RF) :
    ap .real .mul [.fv (.fin a), .fv (.fin b)] = .ok (.fv (.fin (a.mul b))) :=
  ap_real_exact .mul _ _ rfl (by rw [← realMul_fin]; rfl)

theorem real_fma_fin (a b c : RF) :
    ap .real .fma [.fv (.fin a), .fv (.fin b), .fv (.fin c)] = .ok (.fv (.fin ((a.mul b).add c))) :=
  ap_real_exact .fma _ _ rfl (by
    show some (Except.ok (realAdd (realMul (.fv (.fin a)) (.fv (.fin b))) (.fv (.fin c)))) = _
    rw [realMul_fin]; rfl)

/-- shape of an "ideal" transformation: a rounded result `s`, then the exact value `u` of the same
operation and `t = u - s`, both under the real context -/
theorem ideal_shape (first : Except Err NV) (u s : RF) (tv : NV)
    (h : (do let s' ← first
             let u' ← (Except.ok (NV.fv (.fin u)) : Except Err NV)
             let t ← ap .real .sub [u', s']
             pure (s', t) : Except Err (NV × NV)) = .ok (.fv (.fin s), tv)) :
    first = .ok (.fv (.fin s)) ∧ ∃ t : RF, tv = .fv (.fin t) ∧ s.val + t.val = u.val := by
  obtain ⟨s', hf, h⟩ := bind_ok h
  obtain ⟨t, ht, h⟩ := bind_ok (x := ap .real .sub [.fv (.fin u), s']) h
  cases h
  rw [real_sub_fin] at ht
  cases ht
  exact ⟨hf, u.sub s, rfl, by rw [RF.val_sub, Rat.add_comm, Rat.sub_add_cancel]⟩

/-- every context family but the power-of-two `ExpContext` (where `round(x, exact=True)` RETURNS NaN for a zero
or negative `x` instead of raising — observed on the real code: `fp.MX_E8M0.round(-1.0, exact=True)`) -/
def NotExp : Ctx → Prop
  | .exp _ => False
  | _ => True

theorem ctx_roundAtCore_exact (C : Ctx) (hE : NotExp C) (x : RF) (r : Nat) (res : Res)
    (h : C.roundAtCore (.fin x) none true r = .ok res) : ∃ y : RF, res.v = .fin y ∧ y.val = x.val := by
  cases hcore : C.core with
  | none =>
    cases C <;> simp only [Ctx.core, reduceCtorEq] at hcore
    · cases h; exact ⟨x, rfl, rfl⟩
    · exact hE.elim
  | some q => exact Ctx.roundAtCore_kept (by rw [hcore]; rfl) x none true r h (Or.inl rfl)

theorem ctx_round_real_exact (C : Ctx) (hE : NotExp C) (x : RF) (res : Res) (h : C.round (.real x) true = .ok res) :
    ∃ y : RF, res.v = .fin y ∧ y.val = x.val :=
  ctx_roundAtCore_exact C hE x 0 res h

theorem round_flt_eq_real (C : Ctx) (y : RF) (ex : Bool) : C.round (.flt (.fin y)) ex = C.round (.real y) ex := rfl

theorem ctx_round_flt_exact (C : Ctx) (hE : NotExp C) (x : RF) (res : Res) (h : C.round (.flt (.fin x)) true = .ok res) :
    ∃ y : RF, res.v = .fin y ∧ y.val = x.val :=
  ctx_round_real_exact C hE x res h

theorem ctx_round_int_exact (C : Ctx) (hE : NotExp C) (i : Int) (res : Res) (h : C.round (.int i) true = .ok res) :
    ∃ y : RF, res.v = .fin y ∧ y.val = (i : Rat) := by
  obtain ⟨y, hy, hv⟩ := ctx_roundAtCore_exact C hE (RF.ofInt i) 0 res h
  exact ⟨y, hy, by rw [hv, RF.ofInt_val]⟩

/-- two exact roundings in a row, as `split` / `modf` / `frexp` perform them -/
theorem round_pair_exact (C : Ctx) (hE : NotExp C) (y1 y2 : RF) (hi lo : FV)
    (h : (do let a ← C.round (.real y1) true
             let b ← C.round (.real y2) true
             pure (a.v, b.v) : Except Err (FV × FV)) = .ok (hi, lo)) :
    ∃ h' l' : RF, hi = .fin h' ∧ lo = .fin l' ∧ h'.val = y1.val ∧ l'.val = y2.val := by
  obtain ⟨a, h1, h⟩ := bind_ok h
  obtain ⟨b, h2, h⟩ := bind_ok h
  cases h
  obtain ⟨ya, hya, hva⟩ := ctx_round_real_exact C hE y1 a h1
  obtain ⟨yb, hyb, hvb⟩ := ctx_round_real_exact C hE y2 b h2
  exact ⟨ya, yb, hya, hyb, hva, hvb⟩

theorem frexpMant_val (x : RF) : (frexpMant x).val * (2 : Rat) ^ x.e = x.val := by
  unfold frexpMant
  rw [RF.val_mk, RF.val_eq x, Rat.mul_assoc, ← RF.two_zpow_add]
  congr 2
  unfold RF.e RF.p
  omega

theorem split_hi_integer (x : RF) : ∃ k : Int, (x.split (-1)).1.val = (k : Rat) := by
  apply (RF.isInteger_iff _).1
  have h := (RF.split_ranges x (-1)).1
  exact isMoreSignificant_of_lt (by omega)

theorem modf_real_fin (x : RF) (hc : x.c ≠ 0) :
    modf .real (.fin x) = .ok (.fin (x.split (-1)).1, .fin (x.split (-1)).2) := by
  unfold modf
  simp only [hc, if_false]
  rfl

theorem isinteger_real_ofInt (i : Int) : isinteger .real (.fv (.fin (RF.ofInt i))) = .ok true := by
  by_cases h : i = 0
  · subst h; rfl
  · have hn : i.natAbs ≠ 0 := by omega
    have hc : (RF.ofInt i).c ≠ 0 := hn
    have hs : (RF.ofInt i).split (-1) = (RF.ofInt i, ⟨decide (i < 0), -1, 0⟩) := by
      rcases RF.split_cases (RF.ofInt i) (-1) with ⟨h0, -⟩ | ⟨-, -, e⟩ | ⟨-, hle, -⟩
      · exact absurd h0 hc
      · exact e
      · exact absurd hle (show ¬ (0 : Int) ≤ -1 by decide)
    have hm := modf_real_fin (RF.ofInt i) hc
    unfold isinteger asFloat
    simp only [bind, Except.bind, hm, hs]
    generalize decide (i < 0) = sg
    cases sg <;> rfl

theorem pow2_real_ofInt (i : Int) :
    ap .real .pow [lit 2, .fv (.fin (RF.ofInt i))] = .ok (.fv (.fin ⟨false, i, 1⟩)) := by
  refine ap_real_exact .pow _ _ rfl ?_
  have hx : cvtReal (lit 2) = .fv (.fin ⟨false, 0, 2⟩) := by decide
  have hl : nvLog2Exact (.fv (.fin ⟨false, 0, 2⟩)) = some 1 := by decide
  show (realPow (cvtReal (lit 2)) (.fv (.fin (RF.ofInt i)))).map Except.ok = _
  rw [hx]
  unfold realPow
  simp only [nvIntValue, toInt_ofInt, hl]
  simp [nvIsNan, nvIsInf, nvIsZero, nvSign, FV.isNan, FV.isInf, FV.isZero, FV.sign]

theorem ldexp_eq_mul (C : Ctx) (x : NV) (i : Int) :
    ldexp C x (.fv (.fin (RF.ofInt i))) = ap C .mul [x, .fv (.fin ⟨false, i, 1⟩)] := by
  unfold ldexp
  rw [isinteger_real_ofInt, pow2_real_ofInt]
  rfl

theorem pow2_val (i : Int) : (⟨false, i, 1⟩ : RF).val = (2 : Rat) ^ i := by
  rw [RF.val_mk]; simp [RF.sgn]

end Fpy.C20
