/-
The exact `RealFloat` operations of the model (`RF.compare`, `RF.add`, `RF.mul`, `RF.neg`, `RF.abs`, `RF.max2`,
`RF.isMoreSignificant`, `RF.normalize`) in terms of scaled integers `x.sc g = ±c · 2^(exp - g)`, at any scale `g` at
which both operands are whole (`okAt`): a user either fixes one `g` below every exponent in sight (`exists_scale`) or
takes `min x.exp y.exp` / `x.exp` on the spot.  `RF.sc` and the relations `RF.leV`, `RF.eqV` read through it are
defined in `Spec/AbsFmt.lean`; `Proof/Exact` carries these statements to the rational denotation (`val_sc`).
Core Lean only.
-/
import Fpy.Spec.AbsFmt
import Fpy.Proof.Round
namespace Fpy

theorem exists_scale (p q r s : Int) : ∃ g, g ≤ p ∧ g ≤ q ∧ g ≤ r ∧ g ≤ s :=
  ⟨min (min p q) (min r s), Int.le_trans (Int.min_le_left ..) (Int.min_le_left ..),
    Int.le_trans (Int.min_le_left ..) (Int.min_le_right ..), Int.le_trans (Int.min_le_right ..) (Int.min_le_left ..),
    Int.le_trans (Int.min_le_right ..) (Int.min_le_right ..)⟩

theorem toNat_sub_split (a b c : Int) (h1 : c ≤ b) (h2 : b ≤ a) :
    (a - c).toNat = (a - b).toNat + (b - c).toNat := by
  rw [← Int.toNat_add (Int.sub_nonneg.2 h2) (Int.sub_nonneg.2 h1)]
  congr 1
  omega

theorem two_pow_split {a b g : Int} (hg : g ≤ b) (hb : b ≤ a) :
    (2 : Nat) ^ (a - g).toNat = 2 ^ (a - b).toNat * 2 ^ (b - g).toNat := by
  rw [toNat_sub_split a b g hg hb, Nat.pow_add]

namespace RF

/-- `x.sc g` is meaningful -/
def okAt (x : RF) (g : Int) : Prop := x.c = 0 ∨ g ≤ x.exp

theorem okAt_mono {x : RF} {g g' : Int} (h : x.okAt g) (hg : g' ≤ g) : x.okAt g' := by
  rcases h with h | h
  · exact Or.inl h
  · exact Or.inr (Int.le_trans hg h)

theorem okAt_self (x : RF) : x.okAt x.exp := Or.inr (Int.le_refl _)
theorem okAt_min_left (x y : RF) : x.okAt (min x.exp y.exp) := Or.inr (Int.min_le_left ..)
theorem okAt_min_right (x y : RF) : y.okAt (min x.exp y.exp) := Or.inr (Int.min_le_right ..)

theorem pw_pos (k : Nat) : (0 : Int) < 2 ^ k := Int.pow_pos (by decide)

theorem sc_zero (x : RF) (g : Int) (h : x.c = 0) : x.sc g = 0 := by
  unfold sc; simp [h]

/-- `|x|` in units of `2^g` -/
def mag (x : RF) (g : Int) : Nat := x.c * 2 ^ (x.exp - g).toNat

theorem sc_eq_mag (x : RF) (g : Int) : x.sc g = (if x.s then -1 else 1) * (x.mag g : Int) := by
  unfold sc mag; simp [Int.natCast_pow]

theorem mag_shift (x : RF) (g g' : Int) (hx : g ≤ x.exp) (hg : g' ≤ g) :
    x.mag g' = x.mag g * 2 ^ (g - g').toNat := by
  unfold mag
  rw [two_pow_split hg hx, Nat.mul_assoc]

theorem sc_shift (x : RF) (g g' : Int) (hx : x.okAt g) (hg : g' ≤ g) :
    x.sc g' = x.sc g * 2 ^ (g - g').toNat := by
  rcases hx with h | h
  · simp [sc_zero _ _ h]
  · rw [sc_eq_mag, sc_eq_mag, mag_shift x g g' h hg, Int.mul_assoc]; simp [Int.natCast_pow]

theorem compare_mul_pos {a b k : Int} (hk : 0 < k) : Ord.compare (a * k) (b * k) = Ord.compare a b := by
  rcases Int.lt_trichotomy a b with h | h | h
  · rw [Int.compare_eq_lt.2 h, Int.compare_eq_lt.2 ((Int.mul_lt_mul_right hk).2 h)]
  · rw [h]; simp
  · rw [Int.compare_eq_gt.2 h, Int.compare_eq_gt.2 ((Int.mul_lt_mul_right hk).2 h)]

/-- **the order of two numbers does not depend on the scale they are read at**: both scales are refined to
`min g1 g2`, which multiplies both sides by a positive power of two -/
theorem cmp_level (x y : RF) (g1 g2 : Int) (hx1 : x.okAt g1) (hy1 : y.okAt g1) (hx2 : x.okAt g2) (hy2 : y.okAt g2) :
    Ord.compare (x.sc g1) (y.sc g1) = Ord.compare (x.sc g2) (y.sc g2) := by
  have h1 : min g1 g2 ≤ g1 := Int.min_le_left ..
  have h2 : min g1 g2 ≤ g2 := Int.min_le_right ..
  rw [← compare_mul_pos (pw_pos (g1 - min g1 g2).toNat), ← sc_shift x g1 _ hx1 h1, ← sc_shift y g1 _ hy1 h1,
    sc_shift x g2 _ hx2 h2, sc_shift y g2 _ hy2 h2, compare_mul_pos (pw_pos _)]

theorem lt_level (x y : RF) (g1 g2 : Int) (hx1 : x.okAt g1) (hy1 : y.okAt g1) (hx2 : x.okAt g2) (hy2 : y.okAt g2) :
    x.sc g1 < y.sc g1 ↔ x.sc g2 < y.sc g2 := by
  rw [← Int.compare_eq_lt, cmp_level x y g1 g2 hx1 hy1 hx2 hy2, Int.compare_eq_lt]

theorem leV_iff (x y : RF) (g : Int) (hx : x.okAt g) (hy : y.okAt g) : x.leV y ↔ x.sc g ≤ y.sc g := by
  unfold leV
  rw [← Int.compare_ne_gt, cmp_level x y _ g (okAt_min_left x y) (okAt_min_right x y) hx hy, Int.compare_ne_gt]

theorem eqV_iff (x y : RF) (g : Int) (hx : x.okAt g) (hy : y.okAt g) : x.eqV y ↔ x.sc g = y.sc g := by
  unfold eqV
  rw [← Int.compare_eq_eq, cmp_level x y _ g (okAt_min_left x y) (okAt_min_right x y) hx hy, Int.compare_eq_eq]

theorem eqV_refl (x : RF) : x.eqV x := by unfold RF.eqV; rfl

theorem mag_self (x : RF) : x.mag x.exp = x.c := by
  unfold mag; rw [Int.sub_self, Int.toNat_zero, Nat.pow_zero, Nat.mul_one]

/-- same sign, same magnitude at one scale -/
theorem eqV_of_mag {x y : RF} (g : Int) (hx : x.okAt g) (hy : y.okAt g) (hs : x.s = y.s) (hm : x.mag g = y.mag g) :
    x.eqV y := by
  rw [eqV_iff x y g hx hy, sc_eq_mag, sc_eq_mag, hs, hm]

/-- a carry into the next binade is the same number re-normalised -/
theorem carry_eqV (y : RF) (p : Nat) (hp : 1 ≤ p) (hy : y.c ≤ 2 ^ p) : (y.carry p).eqV y := by
  obtain ⟨c1, -, c3, c4⟩ := y.carry_spec p hp hy
  exact eqV_of_mag y.exp (.inr c3) (okAt_self y) c1 (c4.trans (mag_self y).symm)

theorem eqV_zero (a b : RF) (ha : a.c = 0) (hb : b.c = 0) : a.eqV b := by
  unfold RF.eqV; rw [sc_zero _ _ ha, sc_zero _ _ hb]

theorem eqV_trans (a b c : RF) (h1 : a.eqV b) (h2 : b.eqV c) : a.eqV c := by
  obtain ⟨g, ha, hb, hc, -⟩ := exists_scale a.exp b.exp c.exp c.exp
  rw [eqV_iff a c g (.inr ha) (.inr hc), (eqV_iff a b g (.inr ha) (.inr hb)).1 h1,
    (eqV_iff b c g (.inr hb) (.inr hc)).1 h2]

theorem mag_pos (x : RF) (g : Int) (h : x.c ≠ 0) : 0 < x.mag g := by
  unfold mag
  exact Nat.mul_pos (Nat.pos_of_ne_zero h) (Nat.pow_pos (by decide))

theorem sc_pos (x : RF) (g : Int) (h : x.c ≠ 0) (hs : x.s = false) : 0 < x.sc g := by
  rw [sc_eq_mag]; simp [hs]; exact mag_pos x g h

theorem sc_neg (x : RF) (g : Int) (h : x.c ≠ 0) (hs : x.s = true) : x.sc g < 0 := by
  rw [sc_eq_mag]; simp [hs]; have := mag_pos x g h; omega

theorem sc_nonpos_of_neg (x : RF) (g : Int) (h : x.c = 0 ∨ x.s = true) : x.sc g ≤ 0 := by
  rcases h with h | h
  · rw [sc_zero _ _ h]; omega
  · rw [sc_eq_mag]; simp [h]

theorem sc_nonneg_of_pos (x : RF) (g : Int) (h : x.c = 0 ∨ x.s = false) : 0 ≤ x.sc g := by
  rcases h with h | h
  · rw [sc_zero _ _ h]; omega
  · rw [sc_eq_mag]; simp [h]

theorem sc_eq_zero_iff (x : RF) (g : Int) : x.sc g = 0 ↔ x.c = 0 := by
  constructor
  · intro h
    by_cases hc : x.c = 0
    · exact hc
    · cases hs : x.s
      · have := sc_pos x g hc hs; omega
      · have := sc_neg x g hc hs; omega
  · exact sc_zero x g

theorem sc_neg_iff (x : RF) (g : Int) : x.sc g < 0 ↔ x.s = true ∧ x.c ≠ 0 := by
  by_cases hc : x.c = 0
  · simp [sc_zero x g hc, hc]
  · cases hs : x.s
    · have := sc_pos x g hc hs
      simp [hc]; omega
    · simpa [hc] using sc_neg x g hc hs

theorem sc_pos_iff (x : RF) (g : Int) : 0 < x.sc g ↔ x.s = false ∧ x.c ≠ 0 := by
  by_cases hc : x.c = 0
  · simp [sc_zero x g hc, hc]
  · cases hs : x.s
    · simpa [hc] using sc_pos x g hc hs
    · have := sc_neg x g hc hs
      simp [hc]; omega

theorem e_eq_bitLength_mag (x : RF) (g : Int) (h : x.c ≠ 0) (hg : g ≤ x.exp) :
    (bitLength (x.mag g) : Int) = x.e + 1 - g := by
  unfold mag e p
  rw [bitLength_shift _ _ h]
  omega

/-- the magnitude comparison inside `RealFloat.compare` is the comparison of the magnitudes at the scale
`min x.exp y.exp` the code itself shifts to; the exponent tests in front of it only compare their bit lengths -/
theorem magcmp_spec (x y : RF) (hx : x.c ≠ 0) (hy : y.c ≠ 0) :
    (if x.e > y.e then Ordering.gt
     else if x.e < y.e then Ordering.lt
     else Ord.compare (shl x.c (x.exp - min x.exp y.exp)) (shl y.c (y.exp - min x.exp y.exp)))
    = Ord.compare (x.mag (min x.exp y.exp)) (y.mag (min x.exp y.exp)) := by
  have ex := e_eq_bitLength_mag x _ hx (Int.min_le_left x.exp y.exp)
  have ey := e_eq_bitLength_mag y _ hy (Int.min_le_right x.exp y.exp)
  by_cases h1 : x.e > y.e
  · rw [if_pos h1]
    exact (Nat.compare_eq_gt.2 (lt_of_bitLength_lt (by omega))).symm
  · rw [if_neg h1]
    by_cases h2 : x.e < y.e
    · rw [if_pos h2]
      exact (Nat.compare_eq_lt.2 (lt_of_bitLength_lt (by omega))).symm
    · rw [if_neg h2]; rfl

theorem compare_nat_int {a b : Nat} {u v : Int} (hlt : a < b → u < v) (hgt : b < a → v < u) (heq : a = b → u = v) :
    Ord.compare a b = Ord.compare u v := by
  rcases Nat.lt_trichotomy a b with h | h | h
  · rw [Nat.compare_eq_lt.2 h, Int.compare_eq_lt.2 (hlt h)]
  · rw [heq h, h]; simp
  · rw [Nat.compare_eq_gt.2 h, Int.compare_eq_gt.2 (hgt h)]

theorem compare_min (x y : RF) :
    x.compare y = Ord.compare (x.sc (min x.exp y.exp)) (y.sc (min x.exp y.exp)) := by
  unfold RF.compare
  by_cases hxc : x.c = 0
  · rw [sc_zero x _ hxc]
    simp only [hxc, if_true]
    by_cases hyc : y.c = 0
    · rw [sc_zero y _ hyc]; simp [hyc]
    · simp only [hyc, if_false]
      cases hs : y.s
      · exact (Int.compare_eq_lt.2 (sc_pos y _ hyc hs)).symm
      · exact (Int.compare_eq_gt.2 (sc_neg y _ hyc hs)).symm
  · simp only [hxc, if_false]
    by_cases hyc : y.c = 0
    · rw [sc_zero y _ hyc]
      simp only [hyc, if_true]
      cases hs : x.s
      · exact (Int.compare_eq_gt.2 (sc_pos x _ hxc hs)).symm
      · exact (Int.compare_eq_lt.2 (sc_neg x _ hxc hs)).symm
    · simp only [hyc, if_false]
      have hm := magcmp_spec x y hxc hyc
      cases hsx : x.s <;> cases hsy : y.s
      · simp only [bne_self_eq_false, Bool.false_eq_true, if_false]
        rw [hm, sc_eq_mag, sc_eq_mag]; simp only [hsx, hsy, Bool.false_eq_true, if_false, Int.one_mul]
        exact compare_nat_int (by omega) (by omega) (by omega)
      · exact (Int.compare_eq_gt.2 (Int.lt_trans (sc_neg y _ hyc hsy) (sc_pos x _ hxc hsx))).symm
      · exact (Int.compare_eq_lt.2 (Int.lt_trans (sc_neg x _ hxc hsx) (sc_pos y _ hyc hsy))).symm
      · simp only [bne_self_eq_false, Bool.false_eq_true, if_false, if_true]
        rw [hm, sc_eq_mag, sc_eq_mag, Nat.compare_swap]; simp only [hsx, hsy, if_true]
        exact compare_nat_int (by omega) (by omega) (by omega)

/-- **`RealFloat.compare` is the order of the denoted numbers.** -/
theorem compare_spec (x y : RF) (g : Int) (hx : x.okAt g) (hy : y.okAt g) :
    x.compare y = Ord.compare (x.sc g) (y.sc g) :=
  (compare_min x y).trans (cmp_level x y _ g (okAt_min_left x y) (okAt_min_right x y) hx hy)

theorem lt_iff (x y : RF) (g : Int) (hx : x.okAt g) (hy : y.okAt g) : x.lt y = true ↔ x.sc g < y.sc g := by
  unfold RF.lt; rw [compare_spec x y g hx hy]
  simp [Int.compare_eq_lt]

theorem gt_iff (x y : RF) (g : Int) (hx : x.okAt g) (hy : y.okAt g) : x.gt y = true ↔ y.sc g < x.sc g := by
  unfold RF.gt; rw [compare_spec x y g hx hy]
  simp [Int.compare_eq_gt]

theorem gt_eq_false_iff (x y : RF) (g : Int) (hx : x.okAt g) (hy : y.okAt g) : x.gt y = false ↔ x.sc g ≤ y.sc g := by
  rw [← Bool.not_eq_true, gt_iff x y g hx hy, Int.not_lt]

theorem lt_eq_false_iff (x y : RF) (g : Int) (hx : x.okAt g) (hy : y.okAt g) : x.lt y = false ↔ y.sc g ≤ x.sc g := by
  rw [← Bool.not_eq_true, lt_iff x y g hx hy, Int.not_lt]

theorem ge_iff (x y : RF) (g : Int) (hx : x.okAt g) (hy : y.okAt g) : x.ge y = true ↔ y.sc g ≤ x.sc g := by
  unfold RF.ge; rw [compare_spec x y g hx hy]
  simp [Int.compare_ne_lt]

/-- `compare` sees only the denoted numbers -/
theorem compare_congr {x x' y y' : RF} (h : x.eqV x') (h' : y.eqV y') : x.compare y = x'.compare y' := by
  obtain ⟨g, hx, hx', hy, hy'⟩ := exists_scale x.exp x'.exp y.exp y'.exp
  rw [compare_spec x y g (.inr hx) (.inr hy), compare_spec x' y' g (.inr hx') (.inr hy'),
    (eqV_iff x x' g (.inr hx) (.inr hx')).1 h, (eqV_iff y y' g (.inr hy) (.inr hy')).1 h']

theorem compare_congr_left (x x' y : RF) (h : x.eqV x') : x.compare y = x'.compare y :=
  compare_congr h (eqV_refl y)

theorem le_congr {x x' y y' : RF} (h : x.eqV x') (h' : y.eqV y') : x.le y = x'.le y' := by
  unfold RF.le; rw [compare_congr h h']

theorem gt_congr_left (x x' y : RF) (h : x.eqV x') : x.gt y = x'.gt y := by
  unfold RF.gt; rw [compare_congr_left x x' y h]

theorem lt_congr_left (x x' y : RF) (h : x.eqV x') : x.lt y = x'.lt y := by
  unfold RF.lt; rw [compare_congr_left x x' y h]

theorem lt_eq_gt_swap (x y : RF) : x.lt y = y.gt x := by
  have hx := okAt_min_left x y
  have hy := okAt_min_right x y
  rw [Bool.eq_iff_iff, lt_iff x y _ hx hy, gt_iff y x _ hy hx]

theorem neg_sc (x : RF) (g : Int) : x.neg.sc g = - x.sc g := by
  unfold RF.neg sc; cases x.s <;> simp

theorem neg_okAt {x : RF} {g : Int} (h : x.okAt g) : x.neg.okAt g := h

theorem abs_okAt {x : RF} {g : Int} (h : x.okAt g) : x.abs.okAt g := h

theorem natAbs_sc (x : RF) (g : Int) : (x.sc g).natAbs = x.mag g := by
  rw [sc_eq_mag]; cases x.s <;> simp

theorem natAbs_sc_self (x : RF) : (x.sc x.exp).natAbs = x.c := by
  rw [natAbs_sc, mag_self]

theorem abs_sc (x : RF) (g : Int) : x.abs.sc g = ((x.sc g).natAbs : Int) := by
  rw [natAbs_sc, sc_eq_mag]; exact Int.one_mul _

theorem abs_sc_ge (x : RF) (g : Int) : x.sc g ≤ x.abs.sc g ∧ - x.sc g ≤ x.abs.sc g := by
  rw [abs_sc]; omega

theorem ofInt_zero_sc (g : Int) : (RF.ofInt 0).sc g = 0 := by
  apply sc_zero; rfl

theorem sc_ofSigned (m e g : Int) : (⟨m < 0, e, m.natAbs⟩ : RF).sc g = m * 2 ^ (e - g).toNat := by
  unfold sc; simp only []
  rw [← Int.mul_assoc]; congr 1
  by_cases h : m < 0 <;> simp only [h, decide_true, decide_false, if_true, if_false, Bool.false_eq_true] <;> omega

theorem sc_signed (x : RF) (g : Int) :
    (if x.s = true then -((shl x.c (x.exp - g) : Nat) : Int) else ((shl x.c (x.exp - g) : Nat) : Int)) = x.sc g := by
  unfold sc shl; cases x.s <;> simp [Int.natCast_pow]

/-- **`RealFloat.__add__` is exact.** -/
theorem add_sc (x y : RF) (g : Int) (hx : x.okAt g) (hy : y.okAt g) :
    (x.add y).okAt g ∧ (x.add y).sc g = x.sc g + y.sc g := by
  rcases add_cases x y with ⟨hxc, hyc, e⟩ | ⟨hxc, -, e⟩ | ⟨-, hyc, e⟩ | ⟨hxc, hyc, m, hm, e⟩ <;> rw [e]
  · exact ⟨Or.inl rfl, by rw [sc_zero x g hxc, sc_zero y g hyc, sc_zero _ g rfl]; rfl⟩
  · exact ⟨hy, by rw [sc_zero x g hxc, Int.zero_add]⟩
  · exact ⟨hx, by rw [sc_zero y g hyc, Int.add_zero]⟩
  · have hgm : g ≤ min x.exp y.exp := Int.le_min.2 ⟨hx.resolve_left hxc, hy.resolve_left hyc⟩
    refine ⟨Or.inr hgm, ?_⟩
    rw [sc_ofSigned, hm, sc_signed, sc_signed, Int.add_mul, ← sc_shift x _ g (okAt_min_left x y) hgm,
      ← sc_shift y _ g (okAt_min_right x y) hgm]

theorem sub_sc (x y : RF) (g : Int) (hx : x.okAt g) (hy : y.okAt g) :
    (x.sub y).okAt g ∧ (x.sub y).sc g = x.sc g - y.sc g := by
  unfold RF.sub
  have := add_sc x y.neg g hx (neg_okAt hy)
  rw [neg_sc] at this
  exact ⟨this.1, by rw [this.2]; omega⟩

theorem mul4 (a b c d : Int) : a * b * (c * d) = a * c * (b * d) := by
  rw [Int.mul_assoc, Int.mul_left_comm b, ← Int.mul_assoc]

theorem sign_xor (s t : Bool) :
    (if (s != t) = true then -1 else 1 : Int) = (if s then -1 else 1) * (if t then -1 else 1) := by
  cases s <;> cases t <;> rfl

theorem mul_of_zero {x y : RF} (h : x.c = 0 ∨ y.c = 0) : x.mul y = ⟨x.s != y.s, 0, 0⟩ := by
  unfold RF.mul; rw [if_pos (by simpa using h)]

theorem mul_of_ne {x y : RF} (hx : x.c ≠ 0) (hy : y.c ≠ 0) : x.mul y = ⟨x.s != y.s, x.exp + y.exp, x.c * y.c⟩ := by
  unfold RF.mul; rw [if_neg (by simp [hx, hy])]

/-- **`RealFloat.__mul__` is exact.** -/
theorem mul_sc (x y : RF) (g1 g2 : Int) (hx : x.okAt g1) (hy : y.okAt g2) :
    (x.mul y).okAt (g1 + g2) ∧ (x.mul y).sc (g1 + g2) = x.sc g1 * y.sc g2 := by
  by_cases hz : x.c = 0 ∨ y.c = 0
  · rw [mul_of_zero hz]
    refine ⟨Or.inl rfl, ?_⟩
    rw [sc_zero _ _ rfl]
    rcases hz with h | h
    · rw [sc_zero x g1 h, Int.zero_mul]
    · rw [sc_zero y g2 h, Int.mul_zero]
  · obtain ⟨hxc, hyc⟩ := not_or.mp hz
    rw [mul_of_ne hxc hyc]
    have hgx : g1 ≤ x.exp := hx.resolve_left hxc
    have hgy : g2 ≤ y.exp := hy.resolve_left hyc
    refine ⟨Or.inr (Int.add_le_add hgx hgy), ?_⟩
    unfold sc
    simp only []
    rw [show x.exp + y.exp - (g1 + g2) = (x.exp - g1) + (y.exp - g2) by omega,
      Int.toNat_add (Int.sub_nonneg.2 hgx) (Int.sub_nonneg.2 hgy), Int.pow_add, Int.natCast_mul,
      mul4 (x.c : Int), sign_xor, mul4]

theorem mul_zero_sign (x y : RF) (hc : (x.mul y).c = 0) : (x.mul y).s = (x.s != y.s) ∧ (x.c = 0 ∨ y.c = 0) := by
  by_cases hz : x.c = 0 ∨ y.c = 0
  · rw [mul_of_zero hz]; exact ⟨rfl, hz⟩
  · obtain ⟨hxc, hyc⟩ := not_or.mp hz
    rw [mul_of_ne hxc hyc] at hc
    exact absurd hc (Nat.mul_ne_zero hxc hyc)

theorem mul_c_ne {x y : RF} (h : (x.mul y).c ≠ 0) : x.c ≠ 0 ∧ y.c ≠ 0 :=
  not_or.mp fun hz => h (by rw [mul_of_zero hz])

theorem max2_sc (x y : RF) (g : Int) (hx : x.okAt g) (hy : y.okAt g) :
    (x.max2 y).okAt g ∧ x.sc g ≤ (x.max2 y).sc g ∧ y.sc g ≤ (x.max2 y).sc g ∧
      ((x.max2 y) = x ∨ (x.max2 y) = y) := by
  unfold RF.max2
  by_cases h : y.gt x = true
  · have := (gt_iff y x g hy hx).1 h
    rw [if_pos h]; exact ⟨hy, by omega, by omega, Or.inr rfl⟩
  · have h' : ¬ x.sc g < y.sc g := fun hh => h ((gt_iff y x g hy hx).2 hh)
    rw [if_neg h]; exact ⟨hx, by omega, by omega, Or.inl rfl⟩

theorem isMoreSignificant_eq (x : RF) (n : Int) :
    x.isMoreSignificant n = (x.c % 2 ^ (n + 1 - x.exp).toNat == 0) := by
  unfold isMoreSignificant
  by_cases h0 : x.c = 0
  · simp [h0]
  · simp only [h0, if_false]
    by_cases h1 : x.exp > n
    · have : (n + 1 - x.exp).toNat = 0 := by omega
      simp [h1, this, Nat.mod_one]
    · simp only [h1, if_false]
      by_cases h2 : x.e ≤ n
      · simp only [h2, if_true]
        have hb : bitLength x.c ≤ (n + 1 - x.exp).toNat := by simp only [e, p] at h2; omega
        have := (bitLength_le_iff _ _).mp hb
        rw [Nat.mod_eq_of_lt this]; simp [h0]
      · simp only [h2, if_false]
        have : (n - x.exp).toNat + 1 = (n + 1 - x.exp).toNat := by omega
        rw [this]


/-- the shifting core of `normalize`, as a function of the target exponent -/
def normGo (x : RF) (t : Int) : Option RF :=
  if x.exp - t = 0 then some ⟨x.s, t, x.c⟩
  else if x.exp - t > 0 then some ⟨x.s, t, x.c * 2 ^ (x.exp - t).toNat⟩
  else if x.c % 2 ^ (t - x.exp).toNat != 0 then none else some ⟨x.s, t, x.c / 2 ^ (t - x.exp).toNat⟩

/-- the local `go shift exp` of `RF.normalize` is `normGo` whenever `shift` and `exp` aim at `t`; each
arm of `normalize` then needs only the two linear side conditions -/
theorem normGo_of_shift (x : RF) (s e t : Int) (hs : s = x.exp - t) (he : e = t) :
    (if s = 0 then some ⟨x.s, e, x.c⟩ else if s > 0 then some ⟨x.s, e, x.c * 2 ^ s.toNat⟩
     else if x.c % 2 ^ (-s).toNat != 0 then none else some ⟨x.s, e, x.c / 2 ^ (-s).toNat⟩) = x.normGo t := by
  subst hs he; unfold normGo; rw [Int.neg_sub]

/- The four arms of `RF.normalize`, each with the exponent it aims at written out (`RF.normTarget` of Spec/Denote
names that exponent; `normalize_eq_go` in Proof/Exact is these four read through it). -/

theorem normGo_self (x : RF) : x.normGo x.exp = some ⟨x.s, x.exp, x.c⟩ := by
  unfold normGo; rw [if_pos (Int.sub_self _)]

theorem normalize_none (x : RF) : x.normalize none none = x.normGo x.exp := (normGo_self x).symm

theorem normalize_prec (x : RF) (p : Nat) : x.normalize (some p) none = x.normGo (x.e - p + 1) := by
  simp only [normalize, e]
  exact normGo_of_shift x _ _ _ (by omega) (by omega)

theorem normalize_fixed (x : RF) (n : Int) : x.normalize none (some n) = x.normGo (n + 1) :=
  normGo_of_shift x _ _ _ rfl rfl

theorem normalize_pn (x : RF) (p : Nat) (n : Int) :
    x.normalize (some p) (some n) = x.normGo (max (x.e - p + 1) (n + 1)) := by
  simp only [normalize, e]
  -- `by_cases` on the one test of this arm: `split` is slow on a goal that still shows the unfolded `go`
  by_cases h : x.exp - ((p : Int) - x.p) ≤ n
  · rw [if_pos h]; exact normGo_of_shift x _ _ _ (by omega) (by omega)
  · rw [if_neg h]; exact normGo_of_shift x _ _ _ (by omega) (by omega)

/-- `normGo` by the side of the target: at or below `x.exp` the digits are shifted up, above it the digits below
the target must be zero -/
theorem normGo_cases (x : RF) (t : Int) :
    (t ≤ x.exp ∧ x.normGo t = some ⟨x.s, t, x.c * 2 ^ (x.exp - t).toNat⟩) ∨
    (x.exp < t ∧ x.normGo t =
      if x.c % 2 ^ (t - x.exp).toNat != 0 then none else some ⟨x.s, t, x.c / 2 ^ (t - x.exp).toNat⟩) := by
  unfold normGo
  by_cases h0 : x.exp - t = 0
  · rw [if_pos h0, h0]; exact .inl ⟨by omega, by simp⟩
  · rw [if_neg h0]
    by_cases h1 : x.exp - t > 0
    · rw [if_pos h1]; exact .inl ⟨by omega, rfl⟩
    · rw [if_neg h1]; exact .inr ⟨by omega, rfl⟩

theorem normGo_spec (x y : RF) (t : Int) (h : x.normGo t = some y) : y.exp = t ∧ y.s = x.s ∧ y.eqV x := by
  rcases normGo_cases x t with ⟨ht, e⟩ | ⟨ht, e⟩ <;> rw [e] at h
  · cases h; refine ⟨rfl, rfl, ?_⟩
    exact eqV_of_mag t (.inr (Int.le_refl t)) (.inr ht) rfl (mag_self _)
  · by_cases h2 : x.c % 2 ^ (t - x.exp).toNat = 0
    · rw [if_neg (by simpa using h2)] at h
      cases h; refine ⟨rfl, rfl, ?_⟩
      exact eqV_of_mag x.exp (.inr (Int.le_of_lt ht)) (okAt_self x) rfl
        ((Nat.div_mul_cancel (Nat.dvd_of_mod_eq_zero h2)).trans (mag_self x).symm)
    · rw [if_pos (by simpa using h2)] at h; cases h

theorem normalize_sc (x y : RF) (E : Int) (h : x.normalize none (some (E - 1)) = some y) (g : Int)
    (hx : x.okAt g) (hg : g ≤ E) : y.exp = E ∧ y.s = x.s ∧ y.sc g = x.sc g := by
  have hE : E - 1 + 1 = E := by omega
  rw [normalize_fixed, hE] at h
  obtain ⟨he, hs, hv⟩ := normGo_spec x y E h
  exact ⟨he, hs, (eqV_iff y x g (Or.inr (by omega)) hx).1 hv⟩

end RF

/- for `n < x.exp` the exponent `(n + 1 - x.exp).toNat` is `0` and the modulus `1`: the equation needs no case for it -/
theorem isMoreSignificant_div {x : RF} {n : Int} (h : x.isMoreSignificant n = true) :
    x.c % 2 ^ (n + 1 - x.exp).toNat = 0 := by
  rwa [RF.isMoreSignificant_eq, beq_iff_eq] at h

theorem isMoreSignificant_of_lt {x : RF} {n : Int} (h : n < x.exp) : x.isMoreSignificant n = true := by
  rw [RF.isMoreSignificant_eq, show (n + 1 - x.exp).toNat = 0 by omega, Nat.pow_zero, Nat.mod_one]; rfl

end Fpy
