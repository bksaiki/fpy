/-
Model of the `where` vocabulary shared by every aimable rewrite:
`transform/utils.py` `check_where`, `_target_of`, `SiteRewriter._selects_at`, `check_site`,
`list_sites`, `list_refusals`, and the candidate loop every site rewriter runs
(`BlockRewriter._visit_block`, `_ForUnroll._visit_for`, `_SplitLoop`, `_WhileUnroll._visit_while`):

    reason = refuses(candidate)
    if reason: refused.append(..);  if target is not None and selects(.., -1): declined.append(..)
    else: idx = site_idx; site_idx += 1; if selects(.., idx): matched += 1; rewrite / found.append

The candidates are given in visit order (`path.walk_stmts`; the driver supplies them from
`Cursor.walkStmts`, the theorems take any list), each with its path and whether the rewrite refuses
it.  Core Lean only.
-/
import Fpy.Model.Cursor
namespace Fpy.Sites
open Fpy.Cursor

/-- what a caller may pass as `where` -/
inductive Where where
  | none
  | index (j : Int)
  | target (pid : Nat) (bp : BlockPath) (lo hi : Nat)   -- StmtCursor (hi = lo+1) or BlockCursor
  | exprCursor (pid : Nat)
  | bool          -- `True` / `False`: an `int` in Python, rejected by name
  | other         -- anything else
  deriving Repr, DecidableEq

inductive SErr where
  | typeError        -- check_where
  | reference        -- check_site: TransformReferenceError ("does not correspond to" / "does not name")
  | otherProgram     -- _target_of: TransformReferenceError ("of another program")
  | notAStatement    -- _target_of: TransformReferenceError (expression cursor, statement sites)
  | declined         -- check_site: TransformDeclined
  deriving Repr, DecidableEq

structure Cand where
  path : StmtPath
  refused : Bool
  deriving Repr, DecidableEq

/-- `check_where` -/
def checkWhere : Where → Except SErr Unit
  | .bool => .error .typeError
  | .other => .error .typeError
  | _ => .ok ()

/-- `_target_of(where, func)` -/
def targetOf (funcPid : Nat) : Where → Except SErr (Option (BlockPath × Nat × Nat))
  | .target pid bp lo hi => if pid != funcPid then .error .otherProgram else .ok (some (bp, lo, hi))
  | .exprCursor pid => if pid != funcPid then .error .otherProgram else .error .notAStatement
  | _ => .ok Option.none

/-- `SiteRewriter._selects_at(here, pos, idx)` with `count = 1` -/
def selects (w : Where) (tgt : Option (BlockPath × Nat × Nat)) (p : StmtPath) (idx : Int) : Bool :=
  match tgt with
  | Option.none =>
    match w with
    | .none => true
    | .index j => idx == j
    | _ => false
  | some (bp, lo, hi) => beneathStmt bp lo hi p

structure State where
  siteIdx : Nat := 0
  matched : Nat := 0
  rewritten : List StmtPath := []    -- `edits` when applying, `found` when listing
  refused : List StmtPath := []
  declined : Nat := 0
  deriving Repr

def step (w : Where) (tgt : Option (BlockPath × Nat × Nat)) (st : State) (c : Cand) : State :=
  if c.refused then
    { st with refused := st.refused ++ [c.path],
              declined := if tgt.isSome && selects w tgt c.path (-1) then st.declined + 1 else st.declined }
  else if selects w tgt c.path st.siteIdx then
    { st with siteIdx := st.siteIdx + 1, matched := st.matched + 1, rewritten := st.rewritten ++ [c.path] }
  else
    { st with siteIdx := st.siteIdx + 1 }

def walk (w : Where) (tgt : Option (BlockPath × Nat × Nat)) : List Cand → State → State
  | [], st => st
  | c :: r, st => walk w tgt r (step w tgt st c)

/-- `SiteRewriter.check_site` -/
def checkSite (w : Where) (st : State) : Except SErr Unit :=
  match w with
  | .none => .ok ()
  | .index j => if 0 ≤ j ∧ j < (st.siteIdx : Int) then .ok () else .error .reference
  | _ =>
    if st.declined != 0 && st.rewritten.isEmpty then .error .declined
    else if st.matched == 0 then .error .reference
    else .ok ()

/-- `X.apply_with_edits(func, where)`: the statements rewritten, in visit order -/
def apply (funcPid : Nat) (cands : List Cand) (w : Where) : Except SErr (List StmtPath) :=
  match checkWhere w with
  | .error e => .error e
  | .ok () =>
    match targetOf funcPid w with
    | .error e => .error e
    | .ok tgt =>
      let st := walk w tgt cands {}
      match checkSite w st with
      | .error e => .error e
      | .ok () => .ok st.rewritten

/-- `SiteRewriter.list_sites()` (no `within`): the walk with `where = None`, listing -/
def listSites (cands : List Cand) : List StmtPath := (walk .none Option.none cands {}).rewritten

/-- `SiteRewriter.list_refusals()` (no `within`) -/
def listRefusals (cands : List Cand) : List StmtPath := (walk .none Option.none cands {}).refused

end Fpy.Sites
