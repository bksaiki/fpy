/-
C03 — model of the WRAPPER that `fpy2` puts around MPFR for elementary / special functions and constants
(`number/gmputils.py`: `mpfr_call`, `_mpfr_call_with_prec`, `_round_odd`; `number/engine/gmp.py`: `_mpfr_eval`,
`_mpfr_constant`, `_constant_exprs`; `ops.py`: `_normalize`).

MPFR itself is external and transcendental values are not computable: it enters as a PARAMETER, an `Oracle`
that answers, for a precision `q`, what one MPFR call under round-toward-zero hands back to `mpfr_call`: the
result (sign, exponent, significand) and whether the ternary value `rc` is non-zero.  What is modelled — and
proved about in `Props/C03.lean` — is everything fpy does with those answers:

  * which precisions are asked for (`prec + 2`; or the two-pass choice `2`, then `e − n + 2`, when only the
    position `n` of the first unrepresentable digit is known: fixed-point contexts),
  * `_round_odd`: the sticky bit `rc ≠ 0` is OR-ed into the last digit,
  * the context's own rounding of that intermediate (`Ctx.roundAtCore`, the C01 model),
  * the SHAPE of the constant table: which entries are a single MPFR primitive (the oracle contract applies
    to them) and which are compositions (the inner result is already rounded when the outer operation sees it).

Not modelled: NaN / ±∞ results, MPFR's exponent range (an inexact zero only arises from MPFR underflow).
-/
import Fpy.Model.Num.Engine
namespace Fpy.C03
open Fpy

/-- one MPFR call at precision `q`, rounding toward zero: (result, `rc ≠ 0`) -/
abbrev Oracle := Nat → RF × Bool

/-- `gmputils._round_odd` on a finite result: sign and exponent kept, sticky bit OR-ed into the last digit.
(An exact zero stays a zero of the same sign — its exponent field is immaterial, every context normalises
it; an INEXACT zero only arises from MPFR underflow, beyond the exponent range modelled here.) -/
def roundOdd (y : RF) (inex : Bool) : RF := ⟨y.s, y.exp, rtoBit y.c inex⟩

/-- `gmputils.mpfr_call(fn, args, prec, n)` with `fn(*args)` at precision `q` given by `t q`.
`_mpfr_eval` / `_mpfr_constant` pass `round_params()`; when both are set `prec` takes precedence. -/
def mpfrCallModel (t : Oracle) (prec : Option Nat) (n : Option Int) : Except Err RF :=
  match prec with
  | some p => .ok (roundOdd (t (p + 2)).1 (t (p + 2)).2)
  | none =>
    match n with
    | none => .error .valueError
    | some n =>
      -- first pass: two digits, to learn the exponent
      let r2 := t 2
      if r2.1.c = 0 then .ok (roundOdd r2.1 r2.2)
      else if r2.1.e ≤ n then .ok (roundOdd r2.1 r2.2)
      else
        -- `e − n` digits above the `n`-th digit, plus two rounding digits
        let q := (r2.1.e - n).toNat + 2
        .ok (roundOdd (t q).1 (t q).2)

/-- the precisions `mpfrCallModel` asks the oracle for, given the normalized exponent `e` of the value:
the largest one -/
def workPrec (prec : Option Nat) (n : Option Int) (e : Int) : Nat :=
  match prec with
  | some p => p + 2
  | none => match n with
    | none => 2
    | some n => if e ≤ n then 2 else (e - n).toNat + 2

/-- `ops.<fn>(x, ctx=C)` / `ops.const_*(ctx=C)`: engine result, then `_normalize` = `ctx.round(result)` -/
def elemEval (C : Ctx) (t : Oracle) : Except Err Res :=
  match mpfrCallModel t C.roundParams.1 C.roundParams.2 with
  | .error e => .error e
  | .ok y => C.roundAtCore (.fin y) none false 0

/-! ### Oracles that satisfy the MPFR contract for a known value -/

/-- toward-zero truncation of an exact dyadic value to `q` significant digits, with "anything lost" -/
def truncRF (x : RF) (q : Nat) : RF × Bool :=
  if x.p ≤ q then (x, false)
  else (⟨x.s, x.exp + ((x.p - q : Nat) : Int), x.c / 2 ^ (x.p - q)⟩, x.c % 2 ^ (x.p - q) != 0)

/-- the contract oracle of a rational `±num/den` (MPFR's conversion of a `Fraction`; `truncRat` does not need `den`
non-dyadic, cf. `piLike`) -/
def ratOracle (neg : Bool) (num den : Nat) : Oracle := fun q =>
  (⟨neg, (truncRat num den q).2.1, (truncRat num den q).1⟩, (truncRat num den q).2.2)

/-- further truncation of an already truncated answer: the digits dropped now OR the old flag -/
def truncStep (r : RF × Bool) (q : Nat) : RF × Bool := ((truncRF r.1 q).1, (truncRF r.1 q).2 || r.2)

/-- **The MPFR contract, without real numbers.**  A family of answers is the family of toward-zero truncations
of ONE non-zero real value `v` (with the flags `v ≠ truncation`) iff the answers are non-zero, have at most `q`
digits — exactly `q` when flagged inexact — and each coarser answer is the truncation of each finer one.
(⇒: truncating `v` to `W` digits and then to `q ≤ W` digits is truncating it to `q` digits.  ⇐: a coherent
family is a nested sequence of dyadic intervals `[t_q, t_q + ulp_q)`, i.e. the binary expansion of a real.) -/
structure Coherent (t : Oracle) : Prop where
  nz : ∀ q, 1 ≤ q → (t q).1.c ≠ 0
  short : ∀ q, 1 ≤ q → (t q).1.p ≤ q
  full : ∀ q, 1 ≤ q → (t q).2 = true → (t q).1.p = q
  step : ∀ q W, 1 ≤ q → q ≤ W → t q = truncStep (t W) q

/-- the dyadic stand-in of the value at level `W`: its `W`-digit truncation, plus half a unit of the last
place when something follows.  It lies strictly between the same two consecutive `W`-digit numbers as the
value itself (or IS the value when the truncation is exact), so it compares with every `W`-digit number — in
particular with every grid point and midpoint of a rounding to `W − 2` or fewer digits — exactly as the value
does. -/
def refDyadic (t : Oracle) (W : Nat) : RF :=
  if (t W).2 then ⟨(t W).1.s, (t W).1.exp - 1, 2 * (t W).1.c + 1⟩ else (t W).1

/-! ### Composed constants (defect F9) -/

/-- `lambda: gmp.const_pi() / 2 ** k` evaluated at precision `q`: the inner primitive is truncated at `q`
digits, the division by a power of two is exact, so THE OUTER TERNARY IS ZERO — the inner one is lost. -/
def composedScale (t : Oracle) (k : Nat) : Oracle := fun q =>
  (⟨(t q).1.s, (t q).1.exp - (k : Int), (t q).1.c⟩, false)

/-- the same with the inner ternary value kept (what a repaired table entry does: scale the exponent of the
single primitive's answer) -/
def scaleOracle (t : Oracle) (k : Nat) : Oracle := fun q =>
  (⟨(t q).1.s, (t q).1.exp - (k : Int), (t q).1.c⟩, (t q).2)

/-- π to nine digits, `201/64 = 11.001001₂`, as a rational stand-in value (its first four digits, `11.00₂`, are
π's): used by the counterexample `composed_constant_unsound` -/
def piLike : Oracle := ratOracle false 201 64

/-- expressions of `gmp._constant_exprs`, as far as their shape goes -/
inductive CExpr
  | lit (n : Nat)
  | call0 (f : String)
  | call1 (f : String) (a : CExpr)
  | call2 (f : String) (a b : CExpr)
deriving Repr, DecidableEq, Inhabited

def CExpr.render : CExpr → String
  | .lit n => toString n
  | .call0 f => f ++ "()"
  | .call1 f a => f ++ "(" ++ a.render ++ ")"
  | .call2 f a b => f ++ "(" ++ a.render ++ "," ++ b.render ++ ")"

def CExpr.isLit : CExpr → Bool
  | .lit _ => true
  | _ => false

/-- an exact operand: a literal, or `gmp.mpfr(literal)` -/
def CExpr.isExactLeaf : CExpr → Bool
  | .lit _ => true
  | .call1 "mpfr" (.lit _) => true
  | _ => false

inductive CKind
  /-- ONE MPFR primitive applied to literals: its ternary value describes the constant itself -/
  | single
  /-- a primitive applied to `1/2` computed first: the inner division is exact at every precision ≥ 1 -/
  | composedExactInner
  /-- a composition whose inner result is inexact: the outer ternary value says nothing about it -/
  | composed
deriving Repr, DecidableEq, Inhabited

def CExpr.kind : CExpr → CKind
  | .call0 _ => .single
  | .call1 _ (.lit _) => .single
  | .call2 _ (.lit _) (.lit _) => .single
  | .call1 _ (.call2 "div" a b) =>
      if a.isExactLeaf && b.isExactLeaf && a.render == "mpfr(1)" && b.render == "mpfr(2)" then .composedExactInner
      else .composed
  | _ => .composed

/-- `gmp._constant_exprs` (keys are the names of `_Constant`).  The harness parses THIS definition out of the
source text of this file, derives the same shapes from the source text of `fpy2/number/engine/gmp.py` on every run
(Python `ast`) and compares the two; keep one entry per line. -/
def constTable : List (String × CExpr) := [
  ("E", .call1 "exp" (.lit 1)),
  ("LOG2E", .call1 "log2" (.call1 "exp" (.lit 1))),
  ("LOG10E", .call1 "log10" (.call1 "exp" (.lit 1))),
  ("LN2", .call0 "const_log2"),
  ("LN10", .call1 "log" (.lit 10)),
  ("PI", .call0 "const_pi"),
  ("PI_2", .call2 "div" (.call0 "const_pi") (.lit 2)),
  ("PI_4", .call2 "div" (.call0 "const_pi") (.lit 4)),
  ("M_1_PI", .call2 "div" (.lit 1) (.call0 "const_pi")),
  ("M_2_PI", .call2 "div" (.lit 2) (.call0 "const_pi")),
  ("M_2_SQRTPI", .call2 "div" (.lit 2) (.call1 "sqrt" (.call0 "const_pi"))),
  ("SQRT2", .call1 "sqrt" (.lit 2)),
  ("SQRT1_2", .call1 "sqrt" (.call2 "div" (.call1 "mpfr" (.lit 1)) (.call1 "mpfr" (.lit 2))))]

end Fpy.C03
