/-
C12 — model of the FPy → FPCore compiler (`fpy2/backend/fpc.py`) on the loop-free statement subset.

The source subset is an inductive type of its own (`SExpr`, `SStmt`: explicitly rounded constants,
rounded operators, order comparisons; assignment, `with <context>:`, `if/else`, `return`) with an
embedding into the core language (`toLang`), so that the soundness theorems speak about the
core-language evaluator `Fpy.Lang.evalB` on the embedded program.

`compileB` follows `_visit_block` / `_visit_assign` / `_visit_context` / `_visit_if` of the REPAIRED
compiler: statements are compiled back to front, every statement receiving the compiled
continuation; a `with` block that is followed by other statements is compiled to an annotated
expression computing ONLY the variables the block (re)defines and the continuation mentions,
which are then bound OUTSIDE the annotation:

    (let  ([x (! props body…x)]) K)
    (let* ([%t (! props body…(array x y …))] [x (ref %t 0)] [y (ref %t 1)] …) K)

`compileBLegacy` is the compiler before the repair (`(! props body…K)`: the continuation inside the
annotation).  `if/else` is modelled where both branches end in `return` (an `if` followed by other
statements goes through `IfBundling`, which is not modelled here but in FPCoreLoops.lean: `compileS` refuses it).  Compiler
temporaries are the single name `%t` (the real compiler draws fresh names `t, t0, …` — the model is
the compiler up to renaming of its own temporaries).
-/
import Fpy.Model.FPCore
namespace Fpy.C12
open Fpy Fpy.Lang

/-- the four order comparisons (`==`/`!=` on non-numbers have no FPCore counterpart) -/
inductive COp | lt | le | gt | ge
deriving DecidableEq, Repr, Inhabited

def COp.toCmp : COp → CmpOp | .lt => .lt | .le => .le | .gt => .gt | .ge => .ge

inductive SExpr
  | var (x : String)
  | lit (v : NV)                              -- `round(<literal>)`: an explicitly rounded constant
  | op (o : Op) (args : List SExpr)           -- a rounded operator on its operands
  | cmp (o : COp) (a b : SExpr)
deriving Inhabited

inductive SStmt
  | assign (x : String) (e : SExpr)
  | with_ (d : CDesc) (body : List SStmt)
  | ifte (c : SExpr) (t f : List SStmt)
  | ret (e : SExpr)
deriving Inhabited

/-! ### embedding into the core language -/
mutual
def SExpr.toLang : SExpr → Expr
  | .var x => .var x
  | .lit v => .op .round [.num v]
  | .op o args => .op o (SExpr.toLangs args)
  | .cmp o a b => .cmp [o.toCmp] [a.toLang, b.toLang]
def SExpr.toLangs : List SExpr → List Expr
  | [] => []
  | e :: es => e.toLang :: SExpr.toLangs es
end

mutual
def SStmt.toLang : SStmt → Stmt
  | .assign x e => .assign (.var x) e.toLang
  | .with_ d body => .with (.ctxLit (d.toCtx.getD .real)) none (SStmt.toLangs body)
  | .ifte c t f => .ifte c.toLang (SStmt.toLangs t) (SStmt.toLangs f)
  | .ret e => .ret e.toLang
def SStmt.toLangs : List SStmt → List Stmt
  | [] => []
  | s :: ss => s.toLang :: SStmt.toLangs ss
end

/-! ### expressions -/
mutual
/-- `_visit_expr`: `round(c)` ↦ the literal `c` (rounded by FPCore under the context in force),
operators ↦ the operator of the same name -/
def SExpr.toF : SExpr → FExpr
  | .var x => .var x
  | .lit v => .num v
  | .op o args => .op o (SExpr.toFs args)
  | .cmp o a b => .cmp o.toCmp [a.toF, b.toF]
def SExpr.toFs : List SExpr → List FExpr
  | [] => []
  | e :: es => e.toF :: SExpr.toFs es
end

mutual
/-- the variables an expression mentions -/
def SExpr.vars : SExpr → List String
  | .var x => [x]
  | .lit _ => []
  | .op _ args => SExpr.varsL args
  | .cmp _ a b => a.vars ++ b.vars
def SExpr.varsL : List SExpr → List String
  | [] => []
  | e :: es => e.vars ++ SExpr.varsL es
end

/-! ### names -/
/-- the compiler's own names: the tuple temporary and the `_` of a block without effect -/
def tmpName : String := "%t"
def isTmp (x : String) : Bool := x == tmpName || x == "_"

/-- sorted insertion without duplicates (`sorted(set)` of the compiler) -/
def insertName (x : String) : List String → List String
  | [] => [x]
  | y :: ys => if x == y then y :: ys else if x < y then x :: y :: ys else y :: insertName x ys

def sortNames (l : List String) : List String := l.foldr insertName []

mutual
/-- the variables a block assigns anywhere (`mutated_in ∪ introed_in` for blocks of this subset that
are executed to their end; for `if`, whose branches both return in this subset, those of either branch) -/
def SStmt.defs : SStmt → List String
  | .assign x _ => [x]
  | .with_ _ body => SStmt.defsL body
  | .ifte _ t f => SStmt.defsL t ++ SStmt.defsL f
  | .ret _ => []
def SStmt.defsL : List SStmt → List String
  | [] => []
  | s :: ss => s.defs ++ SStmt.defsL ss
end

/-- what a block returns to the code after it: nothing (`0`), its one variable, or an array of them -/
def retOf : List String → FExpr
  | [] => .num (.q 0 1)
  | [x] => .var x
  | D => .array (D.map FExpr.var)

def refBinds (t : String) : List String → Nat → List (String × FExpr)
  | [], _ => []
  | x :: xs, i => (x, .ref (.var t) [.num (.q (i : Int) 1)]) :: refBinds t xs (i + 1)

/-- bind the variables `D` computed by `inner` around the continuation `K` -/
def bundle (D : List String) (inner K : FExpr) : FExpr :=
  match D with
  | [] => .let_ false [("_", inner)] K
  | [x] => .let_ false [(x, inner)] K
  | _ => .let_ true ((tmpName, inner) :: refBinds tmpName D 0) K

mutual
/-- the variables the compiled form of a block followed by a continuation mentioning `N` mentions
(`_mentioned_vars` of the compiled continuation, computed on the source) -/
def SStmt.mention : SStmt → List String → List String
  | .assign _ e, N => e.vars ++ N
  | .ret e, _ => e.vars
  | .with_ _ body, N =>
    let D := sortNames ((SStmt.defsL body).filter (N.contains ·))
    SStmt.mentionL body D ++ D ++ N
  | .ifte c t f, _ => c.vars ++ SStmt.mentionL t [] ++ SStmt.mentionL f []
def SStmt.mentionL : List SStmt → List String → List String
  | [], N => N
  | s :: ss, N => s.mention (SStmt.mentionL ss N)
end

mutual
/-- one statement in front of the compiled continuation `K` (`none`: the statement ends the function
body and produces its value) which mentions the variables `N` -/
def compileS : SStmt → Option FExpr → List String → Option FExpr
  | .assign x e, some K, _ => some (.let_ false [(x, e.toF)] K)
  | .assign _ _, none, _ => none
  | .ret e, none, _ => some e.toF
  | .ret _, some _, _ => none                       -- 'FPCore does not support multiple return statements'
  | .with_ d body, K, N =>
    match fromDesc d with
    | none => none                                   -- `from_context` refuses the context
    | some p =>
      match K with
      | none => (compileB body none []).map (FExpr.ann p)
      | some K =>
        let D := sortNames ((SStmt.defsL body).filter (N.contains ·))
        (compileB body (some (retOf D)) D).map fun I => bundle D (.ann p I) K
  | .ifte c t f, K, N =>
    match K with
    | none =>                                        -- both branches end in `return`
      match compileB t none [], compileB f none [] with
      | some T, some F => some (.ite c.toF T F)
      | _, _ => none
    | some _ => none                                 -- (an `if` followed by statements — `IfBundling` — is not modelled)
def compileB : List SStmt → Option FExpr → List String → Option FExpr
  | [], K, _ => K
  | s :: ss, K, N =>
    match ss, K with
    | [], none => compileS s none []
    | _, _ =>
      match compileB ss K N with
      | none => none
      | some K' => compileS s (some K') (SStmt.mentionL ss N)
end

mutual
/-- the compiler BEFORE the repair: `_visit_context` compiled the body with the continuation and
wrapped the annotation around both -/
def compileSLegacy : SStmt → Option FExpr → Option FExpr
  | .assign x e, some K => some (.let_ false [(x, e.toF)] K)
  | .assign _ _, none => none
  | .ret e, none => some e.toF
  | .ret _, some _ => none
  | .with_ d body, K =>
    match tableLegacy d with
    | none => none
    | some p => (compileBLegacy body K).map (FExpr.ann p)
  | .ifte c t f, K =>
    match K with
    | none =>
      match compileBLegacy t none, compileBLegacy f none with
      | some T, some F => some (.ite c.toF T F)
      | _, _ => none
    | some _ => none
def compileBLegacy : List SStmt → Option FExpr → Option FExpr
  | [], K => K
  | s :: ss, K =>
    match ss, K with
    | [], none => compileSLegacy s none
    | _, _ =>
      match compileBLegacy ss K with
      | none => none
      | some K' => compileSLegacy s (some K')
end

/-! ### side conditions of the soundness theorems -/
mutual
/-- every name a block reads or writes -/
def SStmt.names : SStmt → List String
  | .assign x e => x :: e.vars
  | .with_ _ body => SStmt.namesL body
  | .ifte c t f => c.vars ++ SStmt.namesL t ++ SStmt.namesL f
  | .ret e => e.vars
def SStmt.namesL : List SStmt → List String
  | [] => []
  | s :: ss => s.names ++ SStmt.namesL ss
end

/-- the integer literals `0 … n-1` the compiler writes (tuple indices, the `0` a block without effect
returns) are read back exactly under `C` — true of every IEEE format with more than `log2 n` digits;
an FPCore literal is rounded under the context in force like any other number -/
def CtxLits (C : Ctx) (n : Nat) : Prop :=
  ∀ i, i < n → ∃ r, opEval C .round [cvtReal (.q (i : Int) 1)] = .ok r ∧ asIndex (.num r) = .ok i

mutual
/-- `CtxLits` at every place the compiled block has such a literal (`C`: context in force,
`hasK`: the block is followed by a continuation, which mentions `N`) -/
def SStmt.litsOK : SStmt → Ctx → Bool → List String → Prop
  | .assign _ _, _, _, _ => True
  | .ret _, _, _, _ => True
  | .with_ d body, C, hasK, N =>
    match d.toCtx with
    | none => False
    | some C' =>
      if hasK then
        (sortNames ((SStmt.defsL body).filter (N.contains ·)) = [] → CtxLits C' 1) ∧
        CtxLits C (sortNames ((SStmt.defsL body).filter (N.contains ·))).length ∧
        SStmt.litsOKL body C' true (sortNames ((SStmt.defsL body).filter (N.contains ·)))
      else SStmt.litsOKL body C' false []
  | .ifte _ t f, C, _, _ => SStmt.litsOKL t C false [] ∧ SStmt.litsOKL f C false []
def SStmt.litsOKL : List SStmt → Ctx → Bool → List String → Prop
  | [], _, _, _ => True
  | s :: ss, C, hasK, N =>
    (match ss, hasK with
     | [], false => s.litsOK C false []
     | _, _ => s.litsOK C true (SStmt.mentionL ss N)) ∧ SStmt.litsOKL ss C hasK N
end

/-- the whole function: parameters, declared context, body -/
def compileFun (params : List String) (decl : Option CDesc) (body : List SStmt) : Option FCore :=
  match compileB body none [] with
  | none => none
  | some e =>
    match decl with
    | none => some { params := params, props := {}, body := e }
    | some d => (fromDesc d).map fun p => { params := params, props := p, body := e }

end Fpy.C12
