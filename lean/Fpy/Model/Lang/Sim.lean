/-
An executable SIMULATION CHECKER for the core language: `simB R p' p` accepts when the blocks `p'`
and `p` are the same program up to the variable correspondence `R` (pairs `(name in p', name in
p)`): every variable READ `x'` in `p'` stands where a read `x` stands in `p` with `(x', x) ∈ R`,
and every BINDER pair `(w', w)` (assignment / loop / comprehension / `with … as` target) is
compatible with `R` (`R.bindOK`: each pair of `R` mentions `w'` iff it mentions `w`).

It is the common core of several validators: `R` = identity gives "same program"; `R` = identity
plus `(y, x)` validates copy propagation of `x = y` (also a partial one, and one that leaves
`x[i] = e` targets alone, as `fpy2/transform/copy_propagate.py` does); `R` = a bijection between
fresh names and a callee's names validates the renaming step of inlining and α-equivalence of
generated temporaries.  Soundness (`Fpy.Xform.sim_evalB` / `sim_evalBω`, Proof/LangSim.lean; user form
`Fpy.Props.C07.sim_sound`): related programs started in `R`-related environments have the same outcome.
-/
import Fpy.Model.Lang.Core
namespace Fpy.Xform
open Fpy Fpy.Lang

deriving instance DecidableEq for MPBParams, EFloatParams, MPBFixParams, ExpParams, Ctx

/-- a variable correspondence: pairs (name in the transformed program, name in the original) -/
abbrev VRel := List (String × String)

def VRel.has (R : VRel) (a b : String) : Bool := R.any fun p => p.1 == a && p.2 == b

/-- binding `a` on the left and `b` on the right keeps `R`-related environments related -/
def VRel.bindOK (R : VRel) (a b : String) : Bool := R.all fun p => (p.1 == a) == (p.2 == b)

mutual
def simP (R : VRel) : Pat → Pat → Bool
  | .var a, q => match q with | .var b => R.bindOK a b | _ => false
  | .wild, q => match q with | .wild => true | _ => false
  | .tup ps, q => match q with | .tup qs => simPs R ps qs | _ => false
def simPs (R : VRel) : List Pat → List Pat → Bool
  | [], qs => match qs with | [] => true | _ => false
  | p :: ps, qs => match qs with | q :: qs => simP R p q && simPs R ps qs | [] => false
end

mutual
def simE (R : VRel) : Expr → Expr → Bool
  | .var a, e => match e with | .var b => R.has a b | _ => false
  | .bool a, e => match e with | .bool b => a == b | _ => false
  | .num a, e => match e with | .num b => decide (a = b) | _ => false
  | .ctxLit a, e => match e with | .ctxLit b => decide (a = b) | _ => false
  | .op o as, e => match e with | .op o' bs => decide (o = o') && simEs R as bs | _ => false
  | .pred p a, e => match e with | .pred p' b => decide (p = p') && simE R a b | _ => false
  | .cmp ops as, e => match e with | .cmp ops' bs => decide (ops = ops') && simEs R as bs | _ => false
  | .not a, e => match e with | .not b => simE R a b | _ => false
  | .and as, e => match e with | .and bs => simEs R as bs | _ => false
  | .or as, e => match e with | .or bs => simEs R as bs | _ => false
  | .ite c t f, e => match e with | .ite c' t' f' => simE R c c' && simE R t t' && simE R f f' | _ => false
  | .tuple as, e => match e with | .tuple bs => simEs R as bs | _ => false
  | .list as, e => match e with | .list bs => simEs R as bs | _ => false
  | .index a i, e => match e with | .index b j => simE R a b && simE R i j | _ => false
  | .slice a s t, e => match e with | .slice b s' t' => simE R a b && simO R s s' && simO R t t' | _ => false
  | .comp ps its elt, e => match e with
    | .comp qs its' elt' => simPs R ps qs && simEs R its its' && simE R elt elt' | _ => false
  | .len a, e => match e with | .len b => simE R a b | _ => false
  | .range as, e => match e with | .range bs => simEs R as bs | _ => false
  | .zip as, e => match e with | .zip bs => simEs R as bs | _ => false
  | .enumerate a, e => match e with | .enumerate b => simE R a b | _ => false
  | .sum a, e => match e with | .sum b => simE R a b | _ => false
  | .min as, e => match e with | .min bs => simEs R as bs | _ => false
  | .max as, e => match e with | .max bs => simEs R as bs | _ => false
  | .any a, e => match e with | .any b => simE R a b | _ => false
  | .all a, e => match e with | .all b => simE R a b | _ => false
  | .roundAt a n, e => match e with | .roundAt b m => simE R a b && simE R n m | _ => false
  | .call f as, e => match e with | .call g bs => decide (f = g) && simEs R as bs | _ => false
def simEs (R : VRel) : List Expr → List Expr → Bool
  | [], es => match es with | [] => true | _ => false
  | a :: as, es => match es with | b :: bs => simE R a b && simEs R as bs | [] => false
def simO (R : VRel) : Option Expr → Option Expr → Bool
  | none, o => match o with | none => true | _ => false
  | some a, o => match o with | some b => simE R a b | none => false
end

def simName (R : VRel) : Option String → Option String → Bool
  | none, none => true
  | some a, some b => R.bindOK a b
  | _, _ => false

mutual
def simS (R : VRel) : Stmt → Stmt → Bool
  | .assign p e, s => match s with | .assign q e' => simP R p q && simE R e e' | _ => false
  | .iassign x is e, s => match s with
    | .iassign y js e' => R.has x y && simEs R is js && simE R e e' | _ => false
  | .ifte c t f, s => match s with | .ifte c' t' f' => simE R c c' && simB R t t' && simB R f f' | _ => false
  | .if1 c t, s => match s with | .if1 c' t' => simE R c c' && simB R t t' | _ => false
  | .while c b, s => match s with | .while c' b' => simE R c c' && simB R b b' | _ => false
  | .for p it b, s => match s with | .for q it' b' => simP R p q && simE R it it' && simB R b b' | _ => false
  | .with ce nm b, s => match s with
    | .with ce' nm' b' => simE R ce ce' && simName R nm nm' && simB R b b' | _ => false
  | .assert e, s => match s with | .assert e' => simE R e e' | _ => false
  | .effect e, s => match s with | .effect e' => simE R e e' | _ => false
  | .ret e, s => match s with | .ret e' => simE R e e' | _ => false
  | .pass, s => match s with | .pass => true | _ => false
def simB (R : VRel) : List Stmt → List Stmt → Bool
  | [], ss => match ss with | [] => true | _ => false
  | s :: ss, ts => match ts with | t :: ts => simS R s t && simB R ss ts | [] => false
end

end Fpy.Xform
