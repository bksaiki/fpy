/-
C12 — the READER `Function.from_fpcore` (fpy2/frontend/fpc.py, `_FPCore2FPy`) on the forms the
compiler emits for tuple-free programs: `let`, `let*`, `if`, `while`, `while*`, `!` annotations, over
"pure" operands (variables, literals, rounded operators, one order comparison).

The reader turns an EXPRESSION into STATEMENTS followed by a result expression: every binding form
becomes assignments to fresh names (`gensym`, here `nm k` for a counter `k`), `env` maps the FPCore
variables in scope to the FPy names that hold them, and a `!` annotation becomes a `with` block whose
context is denoted by the properties IN FORCE updated with the ones it names (inherited properties):

    (! p e)                 with <ctx of P.update p>:  <statements of e>;  t = <result of e>        => t
    (if c a b)              if c: <a>; t = <ra>   else: <b>; t = <rb>                                => t
    (let ([x e] …) body)    <e>; x' = <re>; …  (every value read in the OUTER scope)  <body>
    (let* ([x e] …) body)   the same, each value read in the scope extended so far
    (while c ([x i u] …) body)
                            <inits as let>;  while c:  t1 = <u1>; …  x1' = t1; …        <body>
    (while* c ([x i u] …) body)
                            <inits as let*>; while c:  x1' = <u1>; x2' = <u2>; …        <body>

Operands of operators / conditions are pure in the compiler's output, so they need no statements; a
loop condition that would need statements is outside this model (that is the recorded defect
C12-readwhilecond of the real reader: it evaluates such a condition once), and so is a parallel `while`
with more than one variable (the compiler never emits one: it bundles the variables first).
-/
import Fpy.Model.FPCore
namespace Fpy.C12
open Fpy Fpy.Lang

/-- FPCore variable ↦ the FPy name that holds it (`_Ctx.env`) -/
abbrev RMap := List (String × String)

def RMap.get? : RMap → String → Option String
  | [], _ => none
  | (a, b) :: rest, x => if a == x then some b else RMap.get? rest x

def isOrder : CmpOp → Bool
  | .lt => true | .le => true | .gt => true | .ge => true | _ => false

mutual
/-- operands: variables, literals (`round(<literal>)`), rounded operators, one order comparison -/
def readP (m : RMap) : FExpr → Option Expr
  | .var x => (m.get? x).map Expr.var
  | .num q => some (.op .round [.num q])
  | .op o args => (readPs m args).map (Expr.op o)
  | .cmp o [a, b] =>
    if isOrder o then
      match readP m a, readP m b with
      | some a', some b' => some (.cmp [o] [a', b'])
      | _, _ => none
    else none
  | _ => none
def readPs (m : RMap) : List FExpr → Option (List Expr)
  | [] => some []
  | e :: es =>
    match readP m e, readPs m es with
    | some e', some es' => some (e' :: es')
    | _, _ => none
end

section
variable (nm : Nat → String)

mutual
/-- `_visit`: statements, result expression, next fresh index -/
def readE : Nat → RMap → Props → FExpr → Option (List Stmt × Expr × Nat)
  | k, m, P, .ite c t f =>
    match readP m c, readE k m P t with
    | some c', some (st, rt, k1) =>
      match readE k1 m P f with
      | some (sf, rf, k2) =>
        some ([.ifte c' (st ++ [.assign (.var (nm k2)) rt]) (sf ++ [.assign (.var (nm k2)) rf])], .var (nm k2), k2 + 1)
      | none => none
    | _, _ => none
  | k, m, P, .let_ star binds body =>
    match readBinds star k m m P binds with
    | some (ss, m', k1) =>
      match readE k1 m' P body with
      | some (sb, rb, k2) => some (ss ++ sb, rb, k2)
      | none => none
    | none => none
  | k, m, P, .ann p e =>
    match readE k m (P.update p) e, (P.update p).toCtx with
    | some (s, r, k1), .ok C' => some ([.with (.ctxLit C') none (s ++ [.assign (.var (nm k1)) r])], .var (nm k1), k1 + 1)
    | _, _ => none
  | k, m, P, .while_ star c binds body =>
    if !star && decide (2 ≤ binds.length) then none else    -- (a parallel `while` with several variables: not modelled)
    match readInits star k m m P binds with
    | some (si, m1, k1) =>
      match readP m1 c with
      | some c' =>
        match (if star then readUpdStar k1 m1 P binds
               else (readUpdTmpGo k1 m1 P binds).map fun r => (r.1 ++ r.2.1, r.2.2)) with
        | some (su, k2) =>
          match readE k2 m1 P body with
          | some (sb, rb, k3) => some (si ++ [.while c' su] ++ sb, rb, k3)
          | none => none
        | none => none
      | none => none
    | none => none
  | k, m, _, e => (readP m e).map fun r => ([], r, k)
/-- the bindings of a `let` / `let*`: `m0` the scope outside, `acc` the scope extended so far -/
def readBinds (star : Bool) : Nat → RMap → RMap → Props → List (String × FExpr) → Option (List Stmt × RMap × Nat)
  | k, _, acc, _, [] => some ([], acc, k)
  | k, m0, acc, P, (x, e) :: rest =>
    match readE k (if star then acc else m0) P e with
    | some (s, r, k1) =>
      match readBinds star (k1 + 1) m0 ((x, nm k1) :: acc) P rest with
      | some (ss, m', k2) => some (s ++ [.assign (.var (nm k1)) r] ++ ss, m', k2)
      | none => none
    | none => none
/-- the initial values of a loop's variables: like `let` / `let*` -/
def readInits (star : Bool) : Nat → RMap → RMap → Props → List (String × FExpr × FExpr) → Option (List Stmt × RMap × Nat)
  | k, _, acc, _, [] => some ([], acc, k)
  | k, m0, acc, P, (x, i, _) :: rest =>
    match readE k (if star then acc else m0) P i with
    | some (s, r, k1) =>
      match readInits star (k1 + 1) m0 ((x, nm k1) :: acc) P rest with
      | some (ss, m', k2) => some (s ++ [.assign (.var (nm k1)) r] ++ ss, m', k2)
      | none => none
    | none => none
/-- `while*`: every update is assigned to the loop variable at once -/
def readUpdStar : Nat → RMap → Props → List (String × FExpr × FExpr) → Option (List Stmt × Nat)
  | k, _, _, [] => some ([], k)
  | k, m1, P, (x, _, u) :: rest =>
    match readE k m1 P u, m1.get? x with
    | some (s, r, k1), some y =>
      match readUpdStar k1 m1 P rest with
      | some (ss, k2) => some (s ++ [.assign (.var y) r] ++ ss, k2)
      | none => none
    | _, _ => none
/-- `while`: every update is computed into a temporary first (all of them read the OLD values: first list), then the
temporaries are copied to the loop variables (second list) -/
def readUpdTmpGo : Nat → RMap → Props → List (String × FExpr × FExpr) → Option (List Stmt × List Stmt × Nat)
  | k, _, _, [] => some ([], [], k)
  | k, m1, P, (x, _, u) :: rest =>
    match readE k m1 P u, m1.get? x with
    | some (s, r, k1), some y =>
      match readUpdTmpGo (k1 + 1) m1 P rest with
      | some (ss, rebinds, k2) => some (s ++ [.assign (.var (nm k1)) r] ++ ss, .assign (.var y) (.var (nm k1)) :: rebinds, k2)
      | none => none
    | _, _ => none
end

/-- bind the parameters to fresh names -/
def readParams : Nat → List String → RMap × List String
  | _, [] => ([], [])
  | k, x :: xs => let r := readParams (k + 1) xs; ((x, nm k) :: r.1, nm k :: r.2)

/-- `_visit_function`: the function re-read from a core (its declared context: the one the top-level properties denote) -/
def readFun (name : String) (core : FCore) : Option FuncDef :=
  match readE nm core.params.length (readParams nm 0 core.params).1 core.props core.body, core.props.toCtx with
  | some (ss, r, _), .ok C =>
    some { name := name, params := (readParams nm 0 core.params).2, ctx := some C, body := ss ++ [.ret r] }
  | _, _ => none

end
end Fpy.C12
