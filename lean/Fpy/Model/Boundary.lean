/-
C18 — the Python boundary of the interpreter as a state machine over the core-language evaluator.

Anchors: `fpy2/interpret/byte.py` (`BytecodeInterpreter.eval(convert=True)`, `func_cache`,
`BytecodeCompiler.compile`: free variables are converted once, at compile time, into the namespace of the
compiled function; one that holds a list is kept under a fresh symbol and `_visit_function` copies it into
a local at EVERY activation -- commit 20fad08), `fpy2/interpret/value.py` (`to_value` and, since commit
1c6f5b2, `from_value`: containers rebuilt unconditionally).

Two levels.

* HEAP LEVEL (`toValue`, `exitValue`, `callBoundary`): CPython has ONE heap shared by the caller and the
  interpreter.  A call copies every argument list to a fresh cell (`to_value`), runs `callEntry` on the
  copies and converts the result (`from_value`: `rebuild`).  `Props/C18.lean` proves that the cells that
  existed before the call are not written (`args_untouched`) and that every list reachable from the result
  is a cell that did not exist before the call (`result_fresh`).
* PROCESS LEVEL (`State`, `Op`, `step`, `run`, threads): what survives between calls is the cache
  `FuncDef identity ↦ compiled function`, and a compiled function owns the cells of the free variables it
  captured (`Compiled.heap`, `Compiled.genv`).  A call copies those cells (`activationEnv`), allocates the
  (by-value) arguments behind them, runs the body with the copied environment under the parameters and
  drops every cell it allocated: nothing that persists can reach them (that is exactly `args_untouched` +
  `result_fresh`, and `StateOK.results` in `Proof/BoundaryProc.lean`), Python frees them.
  `Policy` records the two design points of the repaired findings F7/F8: `Policy.current` is the code as it
  is (`Prog.policy` defaults to it); `Policy.legacy` is the code before the repairs -- captured cells shared
  by all calls, writes to them kept, internal lists handed out -- kept so that `Props/C18.lean` can show the
  property FAILS for it (`legacy_…_counterexample`): an edit that goes back breaks the correspondence check.

NOT modelled: writes that happened before an exception (the model keeps the old cells), free variables of
callees (a callee runs with its parameters only, as in `Fpy.Lang.evalE`), a Python caller that mutates a
module-level list (capture time = first call), preemption inside C extensions and gmpy2's thread-local
MPFR context (threads are interleavings of the atomic steps `lookup | compile | insert | run`).
-/
import Fpy.Model.Lang.Core
namespace Fpy.C18
open Fpy Fpy.Lang

/-! ## values as the caller writes / reads them: by value -/

inductive Tree
  | bool (b : Bool)
  | num (v : NV)
  | ctx (c : Ctx)
  | tuple (ts : List Tree)
  | list (ts : List Tree)
deriving Repr, Inhabited

mutual
/-- the caller builds an argument: every list literal is a new cell -/
def allocTree : Tree → Heap → Val × Heap
  | .bool b, μ => (.bool b, μ)
  | .num v, μ => (.num v, μ)
  | .ctx c, μ => (.ctx c, μ)
  | .tuple ts, μ => let (vs, μ') := allocTrees ts μ; (.tuple vs, μ')
  | .list ts, μ => let (vs, μ') := allocTrees ts μ; let (μ'', v) := alloc μ' vs; (v, μ'')
def allocTrees : List Tree → Heap → List Val × Heap
  | [], μ => ([], μ)
  | t :: ts, μ => let (v, μ1) := allocTree t μ; let (vs, μ2) := allocTrees ts μ1; (v :: vs, μ2)
end

mutual
/-- what the caller sees when it prints a value (lists read out of the heap) -/
def readOut (μ : Heap) : Nat → Val → M Tree
  | 0, _ => .error .outOfFuel
  | _ + 1, .bool b => .ok (.bool b)
  | _ + 1, .num v => .ok (.num v)
  | _ + 1, .ctx c => .ok (.ctx c)
  | f + 1, .tuple vs => do .ok (.tuple (← readOuts μ f vs))
  | f + 1, .list r => do let l ← heapGet μ r; .ok (.list (← readOuts μ f l))
def readOuts (μ : Heap) : Nat → List Val → M (List Tree)
  | 0, _ => .error .outOfFuel
  | _ + 1, [] => .ok []
  | f + 1, v :: vs => do let t ← readOut μ f v; let ts ← readOuts μ f vs; .ok (t :: ts)
end

/-! ## `to_value`: containers are rebuilt unconditionally -/

mutual
/-- deep copy of a value read from `src` into fresh cells of `dst` (`to_value`): EVERY list becomes a
fresh list, also when the same list object occurs twice.  Out of fuel = Python's `RecursionError`. -/
def copyIn (src : Heap) : Nat → Val → Heap → M (Val × Heap)
  | 0, _, _ => .error .outOfFuel
  | f + 1, .list r, dst => do
    let l ← heapGet src r
    let (vs, dst') ← copyIns src f l dst
    let (dst'', v) := alloc dst' vs
    .ok (v, dst'')
  | f + 1, .tuple vs, dst => do
    let (ws, dst') ← copyIns src f vs dst
    .ok (.tuple ws, dst')
  | _ + 1, .bool b, dst => .ok (.bool b, dst)
  | _ + 1, .num v, dst => .ok (.num v, dst)
  | _ + 1, .ctx c, dst => .ok (.ctx c, dst)
def copyIns (src : Heap) : Nat → List Val → Heap → M (List Val × Heap)
  | 0, _, _ => .error .outOfFuel
  | _ + 1, [], dst => .ok ([], dst)
  | f + 1, v :: vs, dst => do
    let (w, d1) ← copyIn src f v dst
    let (ws, d2) ← copyIns src f vs d1
    .ok (w :: ws, d2)
end

/-- `to_value` on the one CPython heap: read the caller's cells, allocate behind them -/
def toValue (μ : Heap) (fuel : Nat) (v : Val) : M (Val × Heap) := copyIn μ fuel v μ
def toValues (μ : Heap) (fuel : Nat) (vs : List Val) : M (List Val × Heap) := copyIns μ fuel vs μ

/-! ## legacy `from_value` (the code before commit 1c6f5b2): containers are rebuilt only when needed -/

/-- `is_dyadic` of a `Fraction` -/
def isDyadic (n : Int) (d : Nat) : Bool := match NV.ofRat n d with | .fv _ => true | .q _ _ => false

mutual
/-- `_is_boundary_value` of the code before commit 1c6f5b2 -/
def isBoundary (μ : Heap) : Nat → Val → M Bool
  | 0, _ => .error .outOfFuel
  | _ + 1, .bool _ => .ok true
  | _ + 1, .ctx _ => .ok true
  | _ + 1, .num (.fv _) => .ok true
  | _ + 1, .num (.q n d) => .ok (!isDyadic n d)
  | f + 1, .tuple vs => allBoundary μ f vs
  | f + 1, .list r => do let l ← heapGet μ r; allBoundary μ f l
def allBoundary (μ : Heap) : Nat → List Val → M Bool
  | 0, _ => .error .outOfFuel
  | _ + 1, [] => .ok true
  | f + 1, v :: vs => do if ← isBoundary μ f v then allBoundary μ f vs else .ok false
end

mutual
/-- `from_value` of the code before commit 1c6f5b2: a value already in boundary form is returned AS IS (the
same list cell) -/
def fromValue : Nat → Val → Heap → M (Val × Heap)
  | 0, _, _ => .error .outOfFuel
  | f + 1, v, μ => do
    if ← isBoundary μ f v then .ok (v, μ)
    else match v with
      | .num (.q n d) => .ok (.num (NV.ofRat n d), μ)
      | .tuple vs => do let (ws, μ') ← fromValues f vs μ; .ok (.tuple ws, μ')
      | .list r => do
        let l ← heapGet μ r
        let (ws, μ') ← fromValues f l μ
        let (μ'', w) := alloc μ' ws
        .ok (w, μ'')
      | v => .ok (v, μ)
def fromValues : Nat → List Val → Heap → M (List Val × Heap)
  | 0, _, _ => .error .outOfFuel
  | _ + 1, [], μ => .ok ([], μ)
  | f + 1, v :: vs, μ => do
    let (w, μ1) ← fromValue f v μ
    let (ws, μ2) ← fromValues f vs μ1
    .ok (w :: ws, μ2)
end

/-! ## the two design points the findings F7 / F8 are about -/

/-- `copyCaptured`: a captured list is copied into fresh cells at every activation (the code since commit
20fad08, which repaired F7; before it the list was converted once, at compile time, and every call shared
those cells).  `rebuildResult`: `from_value` rebuilds every container (the code since commit 1c6f5b2, which
repaired F8; before it a list that already had boundary form was returned as the very cell the interpreter
holds). -/
structure Policy where
  copyCaptured : Bool
  rebuildResult : Bool

/-- the code of /repo as it is (F7 and F8 repaired) -/
def Policy.current : Policy := { copyCaptured := true, rebuildResult := true }
/-- the code before the repairs: capture once and share afterwards, hand out internal lists -/
def Policy.legacy : Policy := { copyCaptured := false, rebuildResult := false }

mutual
/-- `from_value` as it is now (`_cvt_boundary`): every container is rebuilt.  Differs from `_cvt_boundary`: its
memo (by `id`) hands out one fresh list per FPy list, so sharing inside one result is kept; here every occurrence
of a list gets a cell of its own.  `readOut` (which reads by value) and `mutateResult` (which writes the top-level
cell only) cannot tell the two apart. -/
def rebuild : Nat → Val → Heap → M (Val × Heap)
  | 0, _, _ => .error .outOfFuel
  | _ + 1, .num (.q n d), μ => .ok (.num (NV.ofRat n d), μ)
  | _ + 1, .num (.fv x), μ => .ok (.num (.fv x), μ)
  | _ + 1, .bool b, μ => .ok (.bool b, μ)
  | _ + 1, .ctx c, μ => .ok (.ctx c, μ)
  | f + 1, .tuple vs, μ => do let (ws, μ') ← rebuilds f vs μ; .ok (.tuple ws, μ')
  | f + 1, .list r, μ => do
    let l ← heapGet μ r
    let (ws, μ') ← rebuilds f l μ
    let (μ'', w) := alloc μ' ws
    .ok (w, μ'')
def rebuilds : Nat → List Val → Heap → M (List Val × Heap)
  | 0, _, _ => .error .outOfFuel
  | _ + 1, [], μ => .ok ([], μ)
  | f + 1, v :: vs, μ => do
    let (w, μ1) ← rebuild f v μ
    let (ws, μ2) ← rebuilds f vs μ1
    .ok (w :: ws, μ2)
end

/-- the conversion of a result at the boundary -/
def exitValue (π : Policy) (fuel : Nat) (v : Val) (μ : Heap) : M (Val × Heap) :=
  if π.rebuildResult then rebuild fuel v μ else fromValue fuel v μ

/-! ## a call from Python on the shared heap (function without captured free variables) -/

/-- `BytecodeInterpreter.eval(func, args, ctx, convert=True)`: the arguments are the CALLER's values
(references into `μ`, possibly aliased); they are copied to fresh cells behind `μ`, the body runs on the
copies, the result goes through `from_value`. -/
def callBoundary (π : Policy) (Φ : Funs) (fuel : Nat) (f : String) (args : List Val) (μ : Heap) (ctx : Option Ctx) : M (Val × Heap) := do
  let (vs, μ1) ← toValues μ fuel args
  let (v, μ2) ← callEntry Φ fuel f vs μ1 ctx
  exitValue π fuel v μ2

/-! ## process level -/

/-- a module: its FPy functions (identity = position), the module-level Python values they may capture
(references into `pyHeap`, the caller's cells) -/
structure Prog where
  defs : List FuncDef
  globals : Env
  pyHeap : Heap
  policy : Policy := Policy.current

/-- a compiled function: the definition, the captured free variables (converted ONCE by `to_value` into
cells that the compiled function owns) and those cells -/
structure Compiled where
  fd : FuncDef
  genv : Env
  heap : Heap
  policy : Policy

structure State where
  /-- `func_cache`, keyed by the identity of the `FuncDef` -/
  cache : List (Nat × Compiled)
  /-- definitions produced by transformations: new `FuncDef` objects (identity `defs.length + i`) -/
  extra : List FuncDef
  /-- values handed back to the caller so far: (function identity, value) -/
  results : List (Nat × Val)

def State.init : State := { cache := [], extra := [], results := [] }

inductive Op
  /-- `f(*args, ctx=ctx)` from Python; the arguments are written by value (fresh caller objects) -/
  | call (fid : Nat) (args : List Tree) (ctx : Option Ctx)
  /-- a (semantics-preserving) transformation: a NEW `FuncDef` object with the same body -/
  | transform (fid : Nat)
  /-- the caller assigns `results[k][i] = x` on a list it was handed back -/
  | mutateResult (k i : Nat) (x : NV)

def lookup (cache : List (Nat × Compiled)) (fid : Nat) : Option Compiled :=
  (cache.find? (·.1 == fid)).map (·.2)

/-- `self.func_cache[func.ast] = fn` -/
def insert (cache : List (Nat × Compiled)) (fid : Nat) (c : Compiled) : List (Nat × Compiled) :=
  (fid, c) :: cache.filter (·.1 != fid)

def defAt (P : Prog) (S : State) (fid : Nat) : Option FuncDef := (P.defs ++ S.extra)[fid]?

/-- `BytecodeCompiler.compile`: `namespace[name] = to_value(self.env[name])` for the free variables -/
def compile (P : Prog) (fuel : Nat) (d : FuncDef) : M Compiled := do
  let (vals, h) ← copyIns P.pyHeap fuel (P.globals.map (·.2)) []
  .ok { fd := d, genv := (P.globals.map (·.1)).zip vals, heap := h, policy := P.policy }

def callCtx (d : FuncDef) (ctx : Option Ctx) : Ctx :=
  match d.ctx with | some c => c | none => (match ctx with | some c => c | none => fp64)

/-- the captured environment an activation sees: fresh copies of the compile-time cells behind them, or
(legacy) the compile-time cells themselves -/
def activationEnv (fuel : Nat) (c : Compiled) : M (Env × Heap) :=
  if c.policy.copyCaptured then do
    let (vals, h) ← copyIns c.heap fuel (c.genv.map (·.2)) c.heap
    .ok ((c.genv.map (·.1)).zip vals, h)
  else .ok (c.genv, c.heap)

/-- run a compiled function on by-value arguments: parameters shadow the captured names -/
def runCompiled (Φ : Funs) (fuel : Nat) (c : Compiled) (args : List Tree) (ctx : Option Ctx) : M (Tree × Val × Heap) := do
  let (genv, μ0) ← activationEnv fuel c
  let (vs, μ1) := allocTrees args μ0
  if c.fd.params.length != vs.length then .error .typeError
  else
    let σ0 : Env := (c.fd.params.zip vs).foldl (fun s (x, v) => s.set x v) genv
    match evalB Φ fuel σ0 μ1 (callCtx c.fd ctx) c.fd.body with
    | .error e => .error e
    | .ok (.normal _, _) => .error .assertion
    | .ok (.ret v, μ2) => do
      let (w, μ3) ← exitValue c.policy fuel v μ2
      let t ← readOut μ3 fuel w
      .ok (t, w, μ3)

/-- the cells a call leaves behind: all of them when the function captured cells (a captured list may
now reference a new cell), none otherwise -/
def Compiled.after (c : Compiled) (μ : Heap) : Compiled :=
  if c.policy.copyCaptured || c.heap.isEmpty then c else { c with heap := μ }

abbrev Obs := Option (Except Err Tree)

def step (P : Prog) (fuel : Nat) (S : State) : Op → State × Obs
  | .call fid args ctx =>
    match defAt P S fid with
    | none => (S, some (.error .unbound))
    | some d =>
      -- lookup; on a miss compile and insert
      match (match lookup S.cache fid with
             | some c => (.ok c : M Compiled)
             | none => compile P fuel d) with
      | .error e => (S, some (.error e))
      | .ok c =>
        match runCompiled ⟨P.defs⟩ fuel c args ctx with
        | .error e => ({ S with cache := insert S.cache fid c }, some (.error e))
        | .ok (t, w, μ) =>
          ({ S with cache := insert S.cache fid (c.after μ), results := S.results ++ [(fid, w)] }, some (.ok t))
  | .transform fid =>
    match defAt P S fid with
    | none => (S, none)
    | some d => ({ S with extra := S.extra ++ [d] }, none)
  | .mutateResult k i x =>
    match S.results[k]? with
    | some (fid, .list r) =>
      (match lookup S.cache fid with
       | some c =>
         (match c.heap[r]? with
          | some l => if i < l.length then ({ S with cache := insert S.cache fid { c with heap := c.heap.set r (l.set i (.num x)) } }, none) else (S, none)
          | none => (S, none))       -- a cell the interpreter does not hold: the caller's own object
       | none => (S, none))
    | _ => (S, none)

def run (P : Prog) (fuel : Nat) (S : State) : List Op → State
  | [] => S
  | op :: ops => run P fuel (step P fuel S op).1 ops

/-- the observations of a history, in order -/
def observe (P : Prog) (fuel : Nat) (S : State) : List Op → List Obs
  | [] => []
  | op :: ops => (step P fuel S op).2 :: observe P fuel (step P fuel S op).1 ops

/-- what a call returns when nothing at all has happened before: a function of the module, the
definition, the arguments and the context -/
def pureCall (P : Prog) (fuel : Nat) (d : FuncDef) (args : List Tree) (ctx : Option Ctx) : Except Err Tree :=
  match compile P fuel d with
  | .error e => .error e
  | .ok c => (runCompiled ⟨P.defs⟩ fuel c args ctx).map (·.1)

/-! ## threads: interleavings of atomic steps over the shared cache -/

inductive PC
  | start
  | hit (c : Compiled)        -- `func.ast in self.func_cache` was true and the entry was read
  | miss                      -- it was false
  | compiled (c : Compiled)   -- `compiler.compile()` returned
  | failed (e : Err)          -- compilation raised
  | ready (c : Compiled)      -- `self.func_cache[func.ast] = fn` done
  | done (r : Except Err Tree)

structure Thread where
  fid : Nat
  args : List Tree
  ctx : Option Ctx
  pc : PC

/-- the atomic step `run`: evaluate, and leave behind the cells of a function that captured cells -/
def trun (P : Prog) (fuel : Nat) (cache : List (Nat × Compiled)) (t : Thread) (c : Compiled) : List (Nat × Compiled) × Thread :=
  match runCompiled ⟨P.defs⟩ fuel c t.args t.ctx with
  | .error e => (cache, { t with pc := .done (.error e) })
  | .ok (tr, _, μ) => (insert cache t.fid (c.after μ), { t with pc := .done (.ok tr) })

/-- one atomic step of one thread (`lookup | compile | insert | run`) on the shared cache -/
def tstep (P : Prog) (fuel : Nat) (cache : List (Nat × Compiled)) (t : Thread) : List (Nat × Compiled) × Thread :=
  match t.pc with
  | .start => (cache, { t with pc := match lookup cache t.fid with | some c => .hit c | none => .miss })
  | .miss =>
    (cache, { t with pc := match P.defs[t.fid]? with
                          | none => .failed .unbound
                          | some d => match compile P fuel d with | .ok c => .compiled c | .error e => .failed e })
  | .compiled c => (insert cache t.fid c, { t with pc := .ready c })
  | .hit c => trun P fuel cache t c
  | .ready c => trun P fuel cache t c
  | .failed e => (cache, { t with pc := .done (.error e) })
  | .done r => (cache, { t with pc := .done r })

/-- a schedule is the list of thread indices that get the interpreter lock, in order -/
def runSchedule (P : Prog) (fuel : Nat) (cache : List (Nat × Compiled)) (ts : List Thread) : List Nat → List (Nat × Compiled) × List Thread
  | [] => (cache, ts)
  | i :: rest =>
    match ts[i]? with
    | none => runSchedule P fuel cache ts rest
    | some t =>
      let (cache', t') := tstep P fuel cache t
      runSchedule P fuel cache' (ts.set i t') rest

/-- the sequential result of a thread's call: the call made alone in a fresh process -/
def seqResult (P : Prog) (fuel : Nat) (t : Thread) : Except Err Tree :=
  match P.defs[t.fid]? with
  | none => .error .unbound
  | some d => pureCall P fuel d t.args t.ctx

end Fpy.C18
