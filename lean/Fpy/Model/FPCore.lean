/-
C12 — FPCore: a core subset of the language (FPBench FPCore 2.0), its big-step evaluator and the
property table `FPCoreContext.from_context / to_context` (fpy2/fpc_context.py).  The models of the
FPy → FPCore compiler (fpy2/backend/fpc.py) are in FPCoreCompile.lean (loop-free) and FPCoreLoops.lean.

* values are the core-language values (`Fpy.Lang.Val`): numbers, booleans and tensors (`.tuple`);
  FPCore has no heap, so `.list` never occurs;
* the rounding context of an operation is determined by the property set in force: the properties
  of the enclosing `FPCore` form updated by every enclosing `!` annotation, innermost last; an
  annotation is in force for EXACTLY its sub-expression (`eval … (P.update p) e`);
* number literals and every arithmetic operation are rounded under the context the property set
  resolves to (`Props.toCtx`, the model of `FPCoreContext.to_context`); variables are not re-rounded;
* `let`/`while`/`for` bind simultaneously, the starred forms sequentially (titanfp `interpreter.py`,
  FPCore 2.0 standard §semantics).
-/
import Fpy.Model.Lang.Core
namespace Fpy.C12
open Fpy Fpy.Lang

/-! ## property table -/

/-- the six rounding modes FPCore can name (`_round_mode` in fpc_context.py) -/
inductive RName | nearestEven | nearestAway | toPositive | toNegative | toZero | awayZero
deriving DecidableEq, Repr, Inhabited

def RName.toRM : RName → RM
  | .nearestEven => .rne | .nearestAway => .rna | .toPositive => .rtp
  | .toNegative => .rtn | .toZero => .rtz | .awayZero => .raz

/-- `_round_mode_from_fpc`: `none` is the `ValueError('Unknown rounding mode')` -/
def RName.ofRM : RM → Option RName
  | .rne => some .nearestEven | .rna => some .nearestAway | .rtp => some .toPositive
  | .rtn => some .toNegative | .rtz => some .toZero | .raz => some .awayZero
  | _ => none

/-- overflow names (`_overflow_mode`) -/
inductive OName | infinity | clamp | wrap
deriving DecidableEq, Repr, Inhabited

def OName.toOV : OName → OV
  | .infinity => .overflow | .clamp => .saturate | .wrap => .wrap

def OName.ofOV : OV → Option OName
  | .overflow => some .infinity | .saturate => some .clamp | .wrap => some .wrap | _ => none

/-- values of the `:precision` property the table knows -/
inductive Prec
  | binary16 | binary32 | binary64 | binary80 | binary128
  | float (es nbits : Nat)
  | fixed (scale : Int) (nbits : Nat)      -- FPCore: `(fixed <scale> <nbits>)`
  | integer
  | real
deriving DecidableEq, Repr, Inhabited

/-- an FPCore property dictionary restricted to the three keys the table reads;
a property the table does not read (e.g. `:n`) is not represented -/
structure Props where
  prec : Option Prec := none
  round : Option RName := none
  ov : Option OName := none
deriving DecidableEq, Repr, Inhabited

/-- dictionary update: the keys of `q` override those of `p` -/
def Props.update (p q : Props) : Props :=
  { prec := q.prec.or p.prec, round := q.round.or p.round, ov := q.ov.or p.ov }

/-- the FPy contexts the table is about (every other family: `other`) -/
inductive CDesc
  | ieee (es nbits : Nat) (rm : RM) (ov : OV) (randbits : Nat)
  | mpfixed (nmin : Int) (rm : RM) (negZero : Bool)
  | fixed (signed : Bool) (scale : Int) (nbits : Nat) (rm : RM) (ov : OV)
  | real
  | other
deriving DecidableEq, Repr, Inhabited

/-- the engine context of a description -/
def CDesc.toCtx : CDesc → Option Ctx
  | .ieee es nbits rm ov k =>
    some (.efloat { es := es, nbits := nbits, inf := true, kind := .ieee, eoff := 0, rm := rm, ov := ov,
                    k := some k, nanValue := none, infValue := none })
  | .mpfixed nmin rm nz => some (.mpfix nmin rm (some 0) nz { enableNan := false, enableInf := false })
  | .fixed sg sc nb rm ov => some (Ctx.fixed sg sc nb rm ov (some 0) none none)
  | .real => some .real
  | .other => none

/-- `FPCoreContext.to_context` (defaults: binary64, nearestEven, infinity); `none` = `NoSuchContextError` -/
def Props.toDesc (p : Props) : Option CDesc :=
  let rm := (p.round.getD .nearestEven).toRM
  let ov := (p.ov.getD .infinity).toOV
  match p.prec.getD .binary64 with
  | .float es nbits => some (.ieee es nbits rm .overflow 0)
  | .binary128 => some (.ieee 15 128 rm .overflow 0)
  | .binary80 => some (.ieee 15 79 rm .overflow 0)
  | .binary64 => some (.ieee 11 64 rm .overflow 0)
  | .binary32 => some (.ieee 8 32 rm .overflow 0)
  | .binary16 => some (.ieee 5 16 rm .overflow 0)
  | .fixed scale nbits => some (.fixed true scale nbits rm ov)
  | .integer => some (.mpfixed (-1) rm false)
  | .real => some .real

/-- the table of `FPCoreContext.from_context` before the round-trip guard -/
def tableOf : CDesc → Option Props
  | .ieee es nbits rm _ _ =>
    (RName.ofRM rm).map fun r =>
      let prec : Prec :=
        if es = 15 ∧ nbits = 128 then .binary128 else if es = 15 ∧ nbits = 79 then .binary80
        else if es = 11 ∧ nbits = 64 then .binary64 else if es = 8 ∧ nbits = 32 then .binary32
        else if es = 5 ∧ nbits = 16 then .binary16 else .float es nbits
      { prec := some prec, round := some r }
  | .mpfixed nmin rm _ =>
    (RName.ofRM rm).map fun r =>
      if nmin = -1 then { prec := some .integer, round := some r }
      else { round := some r }          -- `FPCoreContext(n=nmin, round=rm)`: `:n` is not a key `to_context` reads
  | .fixed signed scale nbits rm ov =>
    if !signed then none
    else match RName.ofRM rm, OName.ofOV ov with
      | some r, some o => some { prec := some (.fixed scale nbits), round := some r, ov := some o }
      | _, _ => none
  | .real => some { prec := some .real }
  | .other => none

/-- `FPCoreContext.from_context`: the table entry, provided it denotes the SAME context
(a context with a parameter the table cannot express is refused, not silently changed) -/
def fromDesc (d : CDesc) : Option Props :=
  match tableOf d with
  | none => none
  | some p => if p.toDesc = some d then some p else none

/-- the table as it was before the repair (`precision=['fixed', nbits, scale]`, no guard):
kept for the counterexample theorems -/
def tableLegacy : CDesc → Option Props
  | .fixed signed scale nbits rm ov =>
    if !signed then none
    else match RName.ofRM rm, OName.ofOV ov with
      | some r, some o => some { prec := some (.fixed (nbits : Int) scale.toNat), round := some r, ov := some o }
      | _, _ => none
  | d => tableOf d

/-- the rounding context a property set denotes -/
def Props.toCtx (p : Props) : M Ctx :=
  match p.toDesc.bind CDesc.toCtx with
  | some c => .ok c
  | none => .error .notImplemented

/-! ## syntax -/

inductive Const | true_ | false_ | nan | infinity
deriving DecidableEq, Repr, Inhabited

inductive FExpr
  | var (x : String)
  | num (v : NV)                                   -- decimal / rational / integer literal
  | const (c : Const)
  | op (o : Op) (args : List FExpr)                -- rounded operators; `cast` is `Op.round`
  | pred (p : Pred) (a : FExpr)
  | cmp (o : CmpOp) (args : List FExpr)            -- n-ary comparison
  | and (es : List FExpr)
  | or (es : List FExpr)
  | not (e : FExpr)
  | ite (c t f : FExpr)
  | let_ (star : Bool) (binds : List (String × FExpr)) (body : FExpr)
  | while_ (star : Bool) (c : FExpr) (binds : List (String × FExpr × FExpr)) (body : FExpr)
  | for_ (star : Bool) (dims : List (String × FExpr)) (binds : List (String × FExpr × FExpr)) (body : FExpr)
  | tensor (dims : List (String × FExpr)) (body : FExpr)
  | array (es : List FExpr)
  | ref (a : FExpr) (idx : List FExpr)
  | size (a k : FExpr)
  | dim (a : FExpr)
  | ann (p : Props) (e : FExpr)                    -- `(! :precision … :round … e)`
deriving Inhabited

structure FCore where
  params : List String
  props : Props
  body : FExpr
deriving Inhabited

/-! ## evaluation -/

def constVal : Const → Val
  | .true_ => .bool true
  | .false_ => .bool false
  | .nan => .num (.fv (.nan false))
  | .infinity => .num (.fv (.inf false))

def asTensor : Val → M (List Val)
  | .tuple vs => .ok vs
  | _ => .error .typeError

/-- nested indexing `(ref t i j …)` -/
def refIdx : Val → List Nat → M Val
  | v, [] => .ok v
  | .tuple vs, k :: ks => match vs[k]? with | some x => refIdx x ks | none => .error .indexError
  | _, _ :: _ => .error .typeError

/-- the row-major positions of a tensor shape -/
def positions : List Nat → List (List Nat)
  | [] => [[]]
  | n :: ns => (List.range n).flatMap fun i => (positions ns).map fun p => i :: p

/-- reshape a flat list of element values into nested tensors -/
def reshape : List Nat → List Val → Val
  | [], vs => vs.headD (.tuple [])
  | [_], vs => .tuple vs
  | n :: ns, vs =>
    let sz := ns.foldl (· * ·) 1
    .tuple ((List.range n).map fun i => reshape ns ((vs.drop (i * sz)).take sz))

def bindAll (ρ : Env) : List (String × Val) → Env
  | [] => ρ
  | (x, v) :: rest => bindAll (ρ.set x v) rest

def cmpNums (o : CmpOp) (x y : NV) : Bool :=
  match o with
  | .eq => Lang.nvCompare x y == some .eq
  | .ne => !(Lang.nvCompare x y == some .eq)
  | _ => cmpHolds o (Lang.nvCompare x y)

mutual
/-- ⟨ρ, P, e⟩ ⇓ v : environment, property set in force, expression -/
def eval : Nat → Env → Props → FExpr → M Val
  | 0, _, _, _ => .error .outOfFuel
  | fuel + 1, ρ, P, e =>
    match e with
    | .var x => match ρ.get? x with | some v => .ok v | none => .error .unbound
    | .num v => do
      let C ← P.toCtx
      let r ← opEval C .round [cvtReal v]
      .ok (.num r)
    | .const c => .ok (constVal c)
    | .op o args => do
      let vs ← evalList fuel ρ P args
      let ns ← vs.mapM asNum
      let C ← P.toCtx
      let r ← opEval C o (ns.map cvtReal)
      .ok (.num r)
    | .pred p a => do
      let v ← eval fuel ρ P a
      let C ← P.toCtx
      let b ← predEval p C (← asNum v)
      .ok (.bool b)
    | .cmp o args =>
      match args with
      | [] => .ok (.bool true)
      | a :: rest => do
        let av ← eval fuel ρ P a
        evalCmp fuel ρ P o (← asNum av) rest
    | .and es => evalAll fuel ρ P es
    | .or es => evalAny fuel ρ P es
    | .not a => do
      let v ← eval fuel ρ P a
      .ok (.bool (!(← asBool v)))
    | .ite c t f => do
      let v ← eval fuel ρ P c
      if ← asBool v then eval fuel ρ P t else eval fuel ρ P f
    | .let_ star binds body => do
      let ρ' ← evalBinds fuel star ρ ρ P binds
      eval fuel ρ' P body
    | .while_ star c binds body => do
      let ρ' ← evalBinds fuel star ρ ρ P (binds.map fun b => (b.1, b.2.1))
      whileLoop fuel star ρ' P c binds body
    | .for_ star dims binds body => do
      let ns ← evalDims fuel ρ P dims
      let ρ' ← evalBinds fuel star ρ ρ P (binds.map fun b => (b.1, b.2.1))
      forLoop fuel star ρ' P (dims.map (·.1)) (positions ns) binds body
    | .tensor dims body => do
      let ns ← evalDims fuel ρ P dims
      let vs ← tensorLoop fuel ρ P (dims.map (·.1)) (positions ns) body
      .ok (reshape ns vs)
    | .array es => do
      let vs ← evalList fuel ρ P es
      .ok (.tuple vs)
    | .ref a idx => do
      let av ← eval fuel ρ P a
      let ivs ← evalList fuel ρ P idx
      let ks ← ivs.mapM asIndex
      refIdx av ks
    | .size a k => do
      let av ← eval fuel ρ P a
      let kv ← eval fuel ρ P k
      let i ← asIndex kv
      let rec shapeAt : Val → Nat → M Nat
        | .tuple vs, 0 => .ok vs.length
        | .tuple (v :: _), j + 1 => shapeAt v j
        | _, _ => .error .indexError
      let n ← shapeAt av i
      .ok (.num (.q (n : Int) 1))
    | .dim a => do
      let av ← eval fuel ρ P a
      let rec rank : Nat → Val → Nat
        | 0, _ => 0
        | f + 1, .tuple (v :: _) => rank f v + 1
        | _ + 1, .tuple [] => 1
        | _ + 1, _ => 0
      .ok (.num (.q (rank fuel av : Int) 1))
    | .ann p body => eval fuel ρ (P.update p) body

def evalList : Nat → Env → Props → List FExpr → M (List Val)
  | 0, _, _, _ => .error .outOfFuel
  | _ + 1, _, _, [] => .ok []
  | fuel + 1, ρ, P, e :: es => do
    let v ← eval fuel ρ P e
    let vs ← evalList fuel ρ P es
    .ok (v :: vs)

/-- binding values: `let` evaluates every value in the OUTER environment `ρ₀`, `let*` in the
environment extended so far (`acc`); the result is `acc` extended with all bindings -/
def evalBinds : Nat → Bool → Env → Env → Props → List (String × FExpr) → M Env
  | 0, _, _, _, _, _ => .error .outOfFuel
  | _ + 1, _, _, acc, _, [] => .ok acc
  | fuel + 1, star, ρ₀, acc, P, (x, e) :: rest => do
    let v ← eval fuel (if star then acc else ρ₀) P e
    evalBinds fuel star ρ₀ (acc.set x v) P rest

def evalDims : Nat → Env → Props → List (String × FExpr) → M (List Nat)
  | 0, _, _, _ => .error .outOfFuel
  | _ + 1, _, _, [] => .ok []
  | fuel + 1, ρ, P, (_, e) :: rest => do
    let v ← eval fuel ρ P e
    let n ← asIndex v
    let ns ← evalDims fuel ρ P rest
    .ok (n :: ns)

def evalCmp : Nat → Env → Props → CmpOp → NV → List FExpr → M Val
  | 0, _, _, _, _, _ => .error .outOfFuel
  | _ + 1, _, _, _, _, [] => .ok (.bool true)
  | fuel + 1, ρ, P, o, a, b :: rest => do
    let bv ← eval fuel ρ P b
    let y ← asNum bv
    if cmpNums o a y then evalCmp fuel ρ P o y rest else .ok (.bool false)

def evalAll : Nat → Env → Props → List FExpr → M Val
  | 0, _, _, _ => .error .outOfFuel
  | _ + 1, _, _, [] => .ok (.bool true)
  | fuel + 1, ρ, P, e :: es => do
    let v ← eval fuel ρ P e
    if ← asBool v then evalAll fuel ρ P es else .ok (.bool false)

def evalAny : Nat → Env → Props → List FExpr → M Val
  | 0, _, _, _ => .error .outOfFuel
  | _ + 1, _, _, [] => .ok (.bool false)
  | fuel + 1, ρ, P, e :: es => do
    let v ← eval fuel ρ P e
    if ← asBool v then .ok (.bool true) else evalAny fuel ρ P es

def whileLoop : Nat → Bool → Env → Props → FExpr → List (String × FExpr × FExpr) → FExpr → M Val
  | 0, _, _, _, _, _, _ => .error .outOfFuel
  | fuel + 1, star, ρ, P, c, binds, body => do
    let cv ← eval fuel ρ P c
    if ← asBool cv then do
      let ρ' ← evalBinds fuel star ρ ρ P (binds.map fun b => (b.1, b.2.2))
      whileLoop fuel star ρ' P c binds body
    else eval fuel ρ P body

def forLoop : Nat → Bool → Env → Props → List String → List (List Nat) → List (String × FExpr × FExpr) → FExpr → M Val
  | 0, _, _, _, _, _, _, _ => .error .outOfFuel
  | fuel + 1, _, ρ, P, _, [], _, body => eval fuel ρ P body
  | fuel + 1, star, ρ, P, names, pos :: more, binds, body => do
    let ρi := bindAll ρ (names.zip (pos.map fun (i : Nat) => intVal (Int.ofNat i)))
    let ρ' ← evalBinds fuel star ρi ρi P (binds.map fun b => (b.1, b.2.2))
    forLoop fuel star ρ' P names more binds body

def tensorLoop : Nat → Env → Props → List String → List (List Nat) → FExpr → M (List Val)
  | 0, _, _, _, _, _ => .error .outOfFuel
  | _ + 1, _, _, _, [], _ => .ok []
  | fuel + 1, ρ, P, names, pos :: more, body => do
    let ρi := bindAll ρ (names.zip (pos.map fun (i : Nat) => intVal (Int.ofNat i)))
    let v ← eval fuel ρi P body
    let vs ← tensorLoop fuel ρ P names more body
    .ok (v :: vs)
end

/-- evaluate a core on argument values (arguments are bound as given — the reference
interpreter rounds them to the core's own properties first; the harness passes representable values) -/
def evalCore (fuel : Nat) (core : FCore) (args : List Val) : M Val :=
  if core.params.length != args.length then .error .typeError
  else eval fuel (bindAll [] (core.params.zip args)) core.props core.body

end Fpy.C12
