/-
  C13 — executable model of the Python class `Unionfind`
  (`/repo/fpy2/utils/unionfind.py`).

  Elements are `Nat` (the Python class is generic over hashables).  The two
  dictionaries of the object are modelled by

  * `dom`    : the keys of `_parent`, in insertion order,
  * `parent` : the mapping `_parent` (the identity outside `dom`),
  * `sets`   : `_sets` as an association list root ↦ members, in dictionary
               insertion order (an entry is deleted by `del self._sets[root_y]`).

  `_find` is modelled as written (path halving).  Its `while` loop is a
  structurally recursive function over a fuel argument; the fuel is computed
  from the state (`UF.fuel` = number of non-root elements of `dom`, plus one) —
  there is no ghost field.  `Fpy.Proof.UnionFind` proves that this fuel always
  suffices on well-formed states.

  Core Lean only, no imports.
-/

namespace Fpy.C13

/-- The state of a `Unionfind` object. -/
structure UF where
  /-- keys of `_parent`, in insertion order -/
  dom : List Nat
  /-- `_parent` (identity outside `dom`) -/
  parent : Nat → Nat
  /-- `_sets`: root ↦ members, in insertion order -/
  sets : List (Nat × List Nat)

/-- Dictionary lookup in `_sets` (`none` = `KeyError`). -/
def lookup (k : Nat) : List (Nat × List Nat) → Option (List Nat)
  | [] => none
  | e :: rest => if e.1 = k then some e.2 else lookup k rest

/-- Python `set.update`: add the elements of `b` that are not yet in `a`. -/
def setUnion (a b : List Nat) : List Nat :=
  a ++ b.filter (fun y => !a.contains y)

/-- Order-preserving duplicate removal (first occurrence wins), the key order of
    the dict comprehension `{x: … for x in xs}`. -/
def dedup : List Nat → List Nat
  | [] => []
  | x :: xs => x :: (dedup xs).filter (fun y => y != x)

/-- `Unionfind()` -/
def UF.empty : UF :=
  { dom := [], parent := fun z => z, sets := [] }

/-- `Unionfind(xs)`: `_parent = {x: x for x in xs}`, `_sets = {x: {x} for x in xs}`. -/
def UF.ofList (xs : List Nat) : UF :=
  { dom := dedup xs, parent := fun z => z, sets := (dedup xs).map (fun x => (x, [x])) }

/-- `__contains__` -/
def UF.contains (u : UF) (x : Nat) : Bool :=
  decide (x ∈ u.dom)

/-- `__len__` -/
def UF.len (u : UF) : Nat := u.dom.length

/-- Number of non-root elements (computed from the state). -/
def UF.nonroots (u : UF) : Nat :=
  (u.dom.filter (fun x => u.parent x != x)).length

/-- Fuel handed to the `_find` loop: one more than the number of non-roots. -/
def UF.fuel (u : UF) : Nat := u.nonroots + 1

/-- The loop of `_find`, as written:
    ```
    parent = P[x]
    while x != parent:
        gparent = P[parent]; P[x] = gparent; x = gparent; parent = P[x]
    return x
    ```
    Returns the updated `_parent` and the final `x`.  (With fuel `0` the loop is
    cut and the current `x` is returned; this never happens on well-formed
    states, see `findLoop_spec`.) -/
def findLoop : Nat → (Nat → Nat) → Nat → (Nat → Nat) × Nat
  | 0, P, x => (P, x)
  | fuel + 1, P, x =>
    if x = P x then (P, x)
    else
      let g := P (P x)
      findLoop fuel (fun z => if z = x then g else P z) g

/-- `_find(x)`: state after path halving, and the root found. -/
def UF.findCore (u : UF) (x : Nat) : UF × Nat :=
  let r := findLoop u.fuel u.parent x
  ({ u with parent := r.1 }, r.2)

/-- `add(x)` -/
def UF.add (u : UF) (x : Nat) : UF × Nat :=
  if x ∈ u.dom then u.findCore x
  else
    ({ dom := u.dom ++ [x],
       parent := fun z => if z = x then x else u.parent z,
       sets := u.sets ++ [(x, [x])] }, x)

/-- `find(x)`; `none` = `KeyError`. -/
def UF.find (u : UF) (x : Nat) : Option (UF × Nat) :=
  if x ∈ u.dom then some (u.findCore x) else none

/-- `get(x)` with the default `None`. -/
def UF.get (u : UF) (x : Nat) : UF × Option Nat :=
  if x ∈ u.dom then ((u.findCore x).1, some (u.findCore x).2) else (u, none)

/-- The `_sets` update of `_union`:
    `sets[rx].update(sets[ry]); del sets[ry]`. -/
def mergeSets (sets : List (Nat × List Nat)) (rx ry : Nat) : List (Nat × List Nat) :=
  let my := (lookup ry sets).getD []
  (sets.map (fun e => if e.1 = rx then (e.1, setUnion e.2 my) else e)).filter
    (fun e => e.1 != ry)

/-- `_union(x, y)` as written. -/
def UF.unionCore (u : UF) (x y : Nat) : UF × Nat :=
  let a := u.findCore x
  let b := a.1.findCore y
  let rx := a.2
  let ry := b.2
  if rx = ry then (b.1, rx)
  else
    ({ dom := b.1.dom,
       parent := fun z => if z = ry then rx else b.1.parent z,
       sets := mergeSets b.1.sets rx ry }, rx)

/-- `union(x, y)`; `none` = `KeyError` (x or y absent). -/
def UF.union (u : UF) (x y : Nat) : Option (UF × Nat) :=
  if x ∈ u.dom then
    if y ∈ u.dom then some (u.unionCore x y) else none
  else none

/-- `component(x)`: `_sets[find(x)]`; `none` = `KeyError`. -/
def UF.component (u : UF) (x : Nat) : Option (UF × List Nat) :=
  match u.find x with
  | none => none
  | some (u', r) =>
    match lookup r u'.sets with
    | none => none
    | some ms => some (u', ms)

/-- `items()`: `(element, _parent[element])` in insertion order.  NOTE: the
    Python docstring claims "(element, representative)" but the code returns the
    direct parent (see `uf_items_counterexample`). -/
def UF.items (u : UF) : List (Nat × Nat) :=
  u.dom.map (fun x => (x, u.parent x))

/-- `representatives()`: the keys of `_sets`. -/
def UF.representatives (u : UF) : List Nat :=
  u.sets.map Prod.fst

/-- The operation language of the object (mutating methods). -/
inductive Op where
  | add (x : Nat)
  | find (x : Nat)
  | get (x : Nat)
  | union (x y : Nat)
  | component (x : Nat)
  deriving Repr, DecidableEq

/-- One method call; a raising call leaves the object unchanged, as in Python
    (all `KeyError`s of the class are raised before any mutation on well-formed
    states). -/
def UF.step (u : UF) : Op → UF
  | .add x => (u.add x).1
  | .find x => match u.find x with
    | some r => r.1
    | none => u
  | .get x => (u.get x).1
  | .union x y => match u.union x y with
    | some r => r.1
    | none => u
  | .component x => match u.find x with   -- `component` mutates exactly like `find`
    | some r => r.1
    | none => u

/-- A sequence of method calls. -/
def UF.run (u : UF) (ops : List Op) : UF :=
  ops.foldl UF.step u

end Fpy.C13
