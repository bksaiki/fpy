/-
Model of `fpy2/transform/path.py`, `fpy2/transform/cursor.py` (paths, cursors, `Edit`,
`EditLog`, forwarding) and of `Function.forward` (`fpy2/function.py`).  Core Lean only.

Vocabulary.  A program is a block (a list of statements); a statement holds zero, one
(`body`: `If1Stmt`/`WhileStmt`/`ForStmt`/`ContextStmt`) or two (`ift`,`iff`: `IfStmt`) child blocks
(`path.sub_blocks`).  Expressions are not modelled, statements carry a tag instead.

Paths are parent-linked in the code (`SubBlock(parent, field)`, `StmtPath(parent, index)`) and
every function on them recurses towards `FuncBody()`.  Here a `BlockPath` is the list of
`(index, field)` steps INNERMOST FIRST (`[]` = `FuncBody()`, `⟨i,f⟩ :: bp` =
`SubBlock(StmtPath(bp, i), f)`), so structural recursion on the list is the recursion of the code.
-/
namespace Fpy.Cursor

/-- `BlockField` of path.py -/
inductive Field where
  | body | ift | iff
  deriving DecidableEq, Repr, Inhabited

inductive Stmt where
  | leaf (tag : Nat)
  | one (tag : Nat) (body : List Stmt)
  | two (tag : Nat) (ift iff : List Stmt)
  deriving Repr, Inhabited

abbrev Block := List Stmt

def Stmt.tag : Stmt → Nat
  | .leaf t => t
  | .one t _ => t
  | .two t _ _ => t

/-- `path.sub_blocks` looked up by field, as `resolve_block` does -/
def Stmt.child : Stmt → Field → Option Block
  | .one _ b, .body => some b
  | .two _ a _, .ift => some a
  | .two _ _ b, .iff => some b
  | _, _ => none

structure Step where
  idx : Nat
  field : Field
  deriving DecidableEq, Repr, Inhabited

abbrev BlockPath := List Step

structure StmtPath where
  parent : BlockPath
  index : Nat
  deriving DecidableEq, Repr, Inhabited

/-- error kinds.  The first group are `TransformReferenceError`s (told apart by their message),
the second group `ValueError`s of `Edit.__post_init__` / `EditLog.__post_init__`. -/
inductive Err where
  | badPath            -- path.bad_path: a path / region that names nothing
  | deleted            -- "was deleted"
  | insideRewritten    -- "is inside ..., which was rewritten"
  | otherProgram       -- "names a statement of another program"
  | emptyRegion        -- "holds no statements"
  | splitRegion        -- "no longer lies in one run"
  | unrelated          -- Function.forward: "names a statement of an unrelated program"
  | opaque             -- Function.forward: "a pass in between does not report what it rewrote"
  | exprNotPreserved   -- _forward_expr: "the pass does not say what it did to expressions ..."
  | exprRewritten      -- _forward_expr: "... whose expressions the pass rewrote"
  | illFormedEdit      -- Edit.__post_init__  (ValueError)
  | editRange          -- EditLog.__post_init__: edit consumes statements past the block (ValueError)
  | editOverlap        -- EditLog.__post_init__: edits are not disjoint (ValueError)
  deriving DecidableEq, Repr, Inhabited

/-- `path.resolve_block` -/
def resolveBlock (t : Block) : BlockPath → Except Err Block
  | [] => .ok t
  | s :: pp =>
    match resolveBlock t pp with
    | .error e => .error e
    | .ok b =>
      match b[s.idx]? with
      | none => .error .badPath
      | some st =>
        match st.child s.field with
        | none => .error .badPath
        | some c => .ok c

/-- `path.resolve_stmt` -/
def resolveStmt (t : Block) (p : StmtPath) : Except Err Stmt :=
  match resolveBlock t p.parent with
  | .error e => .error e
  | .ok b =>
    match b[p.index]? with
    | none => .error .badPath
    | some st => .ok st

/-! ### paths as Python builds them: any `int` is accepted as an index -/

structure RawPath where
  steps : List (Int × Field)     -- innermost first
  index : Int

def validateSteps : List (Int × Field) → Option BlockPath
  | [] => some []
  | (i, f) :: r =>
    if i < 0 then none else
    match validateSteps r with
    | none => none
    | some bp => some (⟨i.toNat, f⟩ :: bp)

/-- `resolve_stmt` rejects an index that is not `0 <= index < len` at every level, so a path
with a negative index anywhere names nothing. -/
def RawPath.validate (p : RawPath) : Option StmtPath :=
  if p.index < 0 then none else
  match validateSteps p.steps with
  | none => none
  | some bp => some ⟨bp, p.index.toNat⟩

/-! ### beneath / edits -/

/-- `path.beneath(path, block, span)` for a block path: does it pass through one of
`block`'s statements `lo ≤ i < hi`? -/
def beneathBlock (block : BlockPath) (lo hi : Nat) : BlockPath → Bool
  | [] => false
  | s :: pp => (pp == block && lo ≤ s.idx && s.idx < hi) || beneathBlock block lo hi pp

/-- `path.beneath` for a statement path -/
def beneathStmt (block : BlockPath) (lo hi : Nat) (p : StmtPath) : Bool :=
  (p.parent == block && lo ≤ p.index && p.index < hi) || beneathBlock block lo hi p.parent

/-- `cursor.Edit` -/
structure Edit where
  blockPath : BlockPath
  index : Nat
  removed : Nat
  inserted : Nat
  deriving DecidableEq, Repr, Inhabited

def Edit.stop (e : Edit) : Nat := e.index + e.removed

structure RawEdit where
  steps : List (Int × Field)
  index : Int
  removed : Int
  inserted : Int

/-- `Edit.__post_init__` (negative counts) followed by the `resolve_block` of
`EditLog.__post_init__` as far as negative indices go; the latter happens later, so the two
failures are kept apart: `.error illFormedEdit` now, `.ok none` = "block path names nothing". -/
def RawEdit.build (e : RawEdit) : Except Err (Option Edit) :=
  if e.index < 0 ∨ e.removed < 0 ∨ e.inserted < 0 then .error .illFormedEdit else
  match validateSteps e.steps with
  | none => .ok none
  | some bp => .ok (some ⟨bp, e.index.toNat, e.removed.toNat, e.inserted.toNat⟩)

/-- `cursor._overlaps(a, b)` -/
def overlaps (a b : Edit) : Bool :=
  if a.blockPath == b.blockPath then
    (a.index ≤ b.index && b.index < a.index + a.removed) ||
    (b.index ≤ a.index && a.index < b.index + b.removed)
  else beneathBlock a.blockPath a.index (a.index + a.removed) b.blockPath

/-- the first loop of `EditLog.__post_init__` -/
def checkRanges (src : Block) : List Edit → Except Err Unit
  | [] => .ok ()
  | e :: r =>
    match resolveBlock src e.blockPath with
    | .error err => .error err
    | .ok b => if e.index + e.removed > b.length then .error .editRange else checkRanges src r

/-- the second loop of `EditLog.__post_init__`: every ordered pair of distinct positions
(`a is not b`); here each unordered pair is examined once in both directions, which visits the
same pairs in another order — every failure is the same `ValueError`. -/
def checkDisjoint : List Edit → Bool
  | [] => true
  | a :: r => r.all (fun b => !overlaps a b && !overlaps b a) && checkDisjoint r

structure Prog where
  pid : Nat            -- object identity of the `FuncDef` (`is` comparisons)
  body : Block
  deriving Repr, Inhabited

/-- `cursor.EditLog` -/
structure EditLog where
  source : Prog
  result : Prog
  edits : List Edit
  exprsRewritten : List StmtPath := []
  exprsPreserved : Bool := false
  deriving Repr, Inhabited

/-- `EditLog.__post_init__` -/
def EditLog.check (L : EditLog) : Except Err Unit :=
  match checkRanges L.source.body L.edits with
  | .error e => .error e
  | .ok () => if checkDisjoint L.edits then .ok () else .error .editOverlap

/-! ### forwarding -/

/-- the loop of `_forward_stmt`: accumulated shift and the (last) edit containing `index` -/
def scan (edits : List Edit) (parent : BlockPath) (index : Nat) : Int × Option Edit :=
  edits.foldl (fun (acc : Int × Option Edit) e =>
    if e.blockPath != parent then acc
    else if index ≥ e.index + e.removed then (acc.1 + ((e.inserted : Int) - (e.removed : Int)), acc.2)
    else if index ≥ e.index then (acc.1, some e)
    else acc) (0, none)

/-- `_forward_block`, with the `_forward_stmt` of the enclosing statement unfolded into it
(the two are mutually recursive in the code; `_forward_block(SubBlock(parent, field))` is
`_forward_stmt(parent)` = `_forward_block(parent.parent)` then the loop over the edits). -/
def forwardBlock (edits : List Edit) : BlockPath → Except Err BlockPath
  | [] => .ok []
  | s :: pp =>
    match forwardBlock edits pp with
    | .error e => .error e
    | .ok nb =>
      match scan edits pp s.idx with
      | (_, some _) => .error .insideRewritten
      | (shift, none) => .ok (⟨((s.idx : Int) + shift).toNat, s.field⟩ :: nb)

/-- `_forward_stmt`: new block, new index, containing edit -/
def forwardStmt (edits : List Edit) (p : StmtPath) : Except Err (BlockPath × Nat × Option Edit) :=
  match forwardBlock edits p.parent with
  | .error e => .error e
  | .ok nb =>
    match scan edits p.parent p.index with
    | (shift, some c) => .ok (nb, ((c.index : Int) + shift).toNat, some c)
    | (shift, none) => .ok (nb, ((p.index : Int) + shift).toNat, none)

/-- `cursor.Cursor`.  Expressions are not modelled: an `ExprCursor` is kept as the statement it
belongs to (`ExprPath.stmt()`); the expression part of its path is carried over unchanged by
`rebase_expr`, and resolving it is resolving the statement. -/
inductive Cursor where
  | stmt (pid : Nat) (p : StmtPath)
  | region (pid : Nat) (bp : BlockPath) (start stop : Nat)
  | expr (pid : Nat) (stmt : StmtPath)
  deriving DecidableEq, Repr, Inhabited

def Cursor.pid : Cursor → Nat
  | .stmt pid _ => pid
  | .region pid _ _ _ => pid
  | .expr pid _ => pid

/-- `StmtCursor(func, path)`: validated on construction -/
def mkStmtCursor (P : Prog) (p : StmtPath) : Except Err Cursor :=
  match resolveStmt P.body p with
  | .error e => .error e
  | .ok _ => .ok (.stmt P.pid p)

/-- `BlockCursor(func, block_path, range(start, stop))`: validated on construction
(`0 <= start` holds for a `Nat`) -/
def mkRegion (P : Prog) (bp : BlockPath) (start stop : Nat) : Except Err Cursor :=
  match resolveBlock P.body bp with
  | .error e => .error e
  | .ok b => if stop ≤ b.length then .ok (.region P.pid bp start stop) else .error .badPath

/-- `StmtCursor.resolve` / `BlockCursor.resolve` (`block.stmts[start:stop]`), as a list -/
def resolveCursor (t : Block) : Cursor → Except Err (List Stmt)
  | .stmt _ p =>
    match resolveStmt t p with
    | .error e => .error e
    | .ok s => .ok [s]
  | .region _ bp a b =>
    match resolveBlock t bp with
    | .error e => .error e
    | .ok blk => .ok ((blk.drop a).take (b - a))
  | .expr _ p =>
    match resolveStmt t p with
    | .error e => .error e
    | .ok s => .ok [s]

/-- `ExprCursor(func, path)`: validated on construction (as far as its statement goes) -/
def mkExprCursor (P : Prog) (p : StmtPath) : Except Err Cursor :=
  match resolveStmt P.body p with
  | .error e => .error e
  | .ok _ => .ok (.expr P.pid p)

/-- `EditLog.forward` for a `StmtCursor` -/
def EditLog.forwardStmtCursor (L : EditLog) (pid : Nat) (p : StmtPath) : Except Err Cursor :=
  if pid != L.source.pid then .error .otherProgram else
  match forwardStmt L.edits p with
  | .error e => .error e
  | .ok (nb, ni, none) => mkStmtCursor L.result ⟨nb, ni⟩
  | .ok (nb, ni, some c) =>
    if c.inserted == 1 then mkStmtCursor L.result ⟨nb, ni⟩
    else if c.inserted == 0 then .error .deleted
    else mkRegion L.result nb ni (ni + c.inserted)

/-- block path and span of an image (`img.block_path`, `img.span` / `range(index, index+1)`) -/
def Cursor.blockSpan : Cursor → BlockPath × Nat × Nat
  | .stmt _ p => (p.parent, p.index, p.index + 1)
  | .region _ bp a b => (bp, a, b)
  | .expr _ p => (p.parent, p.index, p.index + 1)   -- never an image of a statement (`assert`)

def imagesOf (L : EditLog) (pid : Nat) (bp : BlockPath) : List Nat → Except Err (List Cursor)
  | [] => .ok []
  | i :: r =>
    match L.forwardStmtCursor pid ⟨bp, i⟩ with
    | .error e => .error e
    | .ok c =>
      match imagesOf L pid bp r with
      | .error e => .error e
      | .ok cs => .ok (c :: cs)

/-- `all(b.start in (a.stop, a.start) for a, b in pairwise(spans))` -/
def adjacent : List (BlockPath × Nat × Nat) → Bool
  | a :: b :: r => (b.2.1 == a.2.2 || b.2.1 == a.2.1) && adjacent (b :: r)
  | _ => true

/-- `EditLog._forward_region` -/
def EditLog.forwardRegion (L : EditLog) (pid : Nat) (bp : BlockPath) (start stop : Nat) : Except Err Cursor :=
  if stop - start == 0 then .error .emptyRegion else
  match imagesOf L pid bp (List.range' start (stop - start)) with
  | .error e => .error e
  | .ok imgs =>
    let spans := imgs.map Cursor.blockSpan
    match spans with
    | [] => .error .emptyRegion    -- unreachable: the region is not empty
    | s0 :: _ =>
      let samePath := spans.all (fun s => s.1 == s0.1)
      if !samePath || !adjacent spans then .error .splitRegion else
      let hi := spans.foldl (fun m s => max m s.2.2) 0
      if hi - s0.2.1 == 1 then mkStmtCursor L.result ⟨s0.1, s0.2.1⟩
      else mkRegion L.result s0.1 s0.2.1 hi

/-- `EditLog._forward_expr`: the cursor under its statement's image -/
def EditLog.forwardExpr (L : EditLog) (pid : Nat) (stmt : StmtPath) : Except Err Cursor :=
  if pid != L.source.pid then .error .otherProgram else
  if !L.exprsPreserved then .error .exprNotPreserved else
  if L.exprsRewritten.contains stmt then .error .exprRewritten else
  match forwardStmt L.edits stmt with
  | .error e => .error e
  | .ok (_, _, some _) => .error .insideRewritten
  | .ok (nb, ni, none) => mkExprCursor L.result ⟨nb, ni⟩

/-- `EditLog.forward` -/
def EditLog.forward (L : EditLog) : Cursor → Except Err Cursor
  | .stmt pid p => L.forwardStmtCursor pid p
  | .region pid bp a b => L.forwardRegion pid bp a b
  | .expr pid p => L.forwardExpr pid p

/-- `Function.forward`: the chain is the list of program versions from `self` back to the root,
each with the log of the pass that produced it (`none`: a pass that reports nothing). -/
def chainForward : List (Prog × Option EditLog) → Cursor → Except Err Cursor
  | [], _ => .error .unrelated
  | (ast, log) :: rest, c =>
    if ast.pid == c.pid then .ok c else
    match chainForward rest c with
    | .error e => .error e
    | .ok out =>
      match log with
      | none => .error .opaque
      | some L => L.forward out

/-! ### building the objects the way a caller does (any Python `int` accepted, then validated) -/

def buildEdits : List RawEdit → Except Err (List (Option Edit))
  | [] => .ok []
  | r :: rest =>
    match r.build with
    | .error e => .error e
    | .ok oe =>
      match buildEdits rest with
      | .error e => .error e
      | .ok l => .ok (oe :: l)

/-- the first loop of `EditLog.__post_init__` where a block path with a negative index
(`none`) names nothing -/
def checkRangesOpt (src : Block) : List (Option Edit) → Except Err Unit
  | [] => .ok ()
  | none :: _ => .error .badPath
  | some e :: r =>
    match resolveBlock src e.blockPath with
    | .error err => .error err
    | .ok b => if e.index + e.removed > b.length then .error .editRange else checkRangesOpt src r

/-- `Edit(...)` for every edit in order, then `EditLog(source, result, edits)` -/
def buildLog (source result : Prog) (raws : List RawEdit)
    (rewritten : List StmtPath := []) (preserved : Bool := false) : Except Err EditLog :=
  match buildEdits raws with
  | .error e => .error e
  | .ok oes =>
    match checkRangesOpt source.body oes with
    | .error e => .error e
    | .ok () =>
      let es := oes.filterMap id
      if checkDisjoint es then .ok ⟨source, result, es, rewritten, preserved⟩ else .error .editOverlap

/-- `StmtCursor(func, path)` for a path built from arbitrary ints -/
def mkStmtCursorRaw (P : Prog) (p : RawPath) : Except Err Cursor :=
  match p.validate with
  | none => .error .badPath
  | some q => mkStmtCursor P q

def mkExprCursorRaw (P : Prog) (p : RawPath) : Except Err Cursor :=
  match p.validate with
  | none => .error .badPath
  | some q => mkExprCursor P q

/-- `BlockCursor(func, block_path, range(start, stop))` for arbitrary ints (`0 <= start` is checked) -/
def mkRegionRaw (P : Prog) (steps : List (Int × Field)) (start stop : Int) : Except Err Cursor :=
  match validateSteps steps with
  | none => .error .badPath
  | some bp =>
    match resolveBlock P.body bp with
    | .error e => .error e
    | .ok b =>
      if 0 ≤ start ∧ stop ≤ (b.length : Int) then .ok (.region P.pid bp start.toNat stop.toNat)
      else .error .badPath

/-- the nested blocks of a statement, each with its field.  `walkStmts` below is `path.walk_stmts`: every
statement path in visit order (a statement before its blocks) -/
def subFields : Stmt → List (Field × Block)
  | .leaf _ => []
  | .one _ b => [(.body, b)]
  | .two _ a b => [(.ift, a), (.iff, b)]

mutual
def walkStmt (here : BlockPath) (i : Nat) : Stmt → List StmtPath
  | .leaf _ => [⟨here, i⟩]
  | .one _ b => ⟨here, i⟩ :: walkBlock (⟨i, .body⟩ :: here) b 0
  | .two _ a b => ⟨here, i⟩ :: (walkBlock (⟨i, .ift⟩ :: here) a 0 ++ walkBlock (⟨i, .iff⟩ :: here) b 0)
def walkBlock (here : BlockPath) : Block → Nat → List StmtPath
  | [], _ => []
  | s :: r, i => walkStmt here i s ++ walkBlock here r (i + 1)
end

def walkStmts (t : Block) : List StmtPath := walkBlock [] t 0

end Fpy.Cursor
