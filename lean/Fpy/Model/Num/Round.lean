/-
Model of the rounding core of `RealFloat` (`_round_params`, `_round_increment`,
`_tiny_post`, `_round_at`, `_round_at_stochastic`, `round`, `round_at`)
and of `fpy2/number/round.py`.
-/
import Fpy.Model.Num.RealFloat
namespace Fpy

inductive RM | rne | rna | rtp | rtn | rtz | raz | rto | rte
deriving DecidableEq, Repr, Inhabited

inductive Dir | rtz | raz | rte | rto
deriving DecidableEq, Repr, Inhabited

inductive OV | overflow | saturate | wrap | assert
deriving DecidableEq, Repr, Inhabited

/-- `RoundingMode.to_direction(s)` → (nearest, direction). -/
def RM.toDirection (rm : RM) (s : Bool) : Bool × Dir :=
  match rm, s with
  | .rne, _ => (true, .rte)
  | .rna, _ => (true, .raz)
  | .rtp, true => (false, .rtz)
  | .rtp, false => (false, .raz)
  | .rtn, true => (false, .raz)
  | .rtn, false => (false, .rtz)
  | .rtz, _ => (false, .rtz)
  | .raz, _ => (false, .raz)
  | .rto, _ => (false, .rto)
  | .rte, _ => (false, .rte)

structure Flags where
  invalid : Bool := false
  divzero : Bool := false
  overflow : Bool := false
  tinyPre : Bool := false
  tinyPost : Bool := false
  inexact : Bool := false
  carry : Bool := false
deriving DecidableEq, Repr, Inhabited

inductive Err | valueError | typeError | overflowError | notImplemented | zeroDivision | indexError | assertion | unbound | outOfFuel
deriving DecidableEq, Repr, Inhabited

namespace RF

/-- `_round_params(max_p, min_n)`; both `none` is a `ValueError`. -/
def roundParams (x : RF) (maxP : Option Nat) (minN : Option Int) : Except Err (Option Nat × Int) :=
  match maxP, minN with
  | none, none => .error .valueError
  | none, some n => .ok (none, n)
  | some p, none => .ok (some p, x.e - p)
  | some p, some n => .ok (some p, max n (x.e - p))

/-- `_round_increment_direction` (on the kept part). -/
def incrDir (kept : RF) : Dir → Bool
  | .rtz => false
  | .raz => true
  | .rte => kept.c % 2 != 0
  | .rto => kept.c % 2 == 0

/-- `_round_increment(lost, n, rm)`; `lost` is non-zero. -/
def roundIncrement (kept lost : RF) (n : Int) (rm : RM) : Bool :=
  let (nearest, dir) := rm.toDirection kept.s
  if nearest then
    let (halfBit, lowerBits) :=
      if lost.e = n then
        (lost.c / 2 ^ (lost.p - 1) != 0, lost.c % 2 ^ (lost.p - 1) != 0)
      else (false, true)
    if halfBit then (if lowerBits then true else kept.incrDir dir) else false
  else kept.incrDir dir

/-- `_tiny_post(kept, emin, n, rm)`. -/
def tinyPostCheck (x kept : RF) (emin n : Int) (rm : RM) : Bool :=
  if kept.e < emin - 1 then true
  else
    let p := (emin - n).toNat
    let cutoff : RF := ⟨x.s, n, bitmask p⟩
    if (if x.s then x.ge cutoff else x.le cutoff) then true
    else
      let (k, l) := x.split (n - 1)
      !(k.roundIncrement l (n - 1) rm)

/-- `_round_at(p, n, emin, rm, exact)`. `error valueError` iff `exact` and digits are lost. -/
def roundAtCore (x : RF) (p : Option Nat) (n : Int) (emin : Option Int) (rm : RM) (exact : Bool) :
    Except Err (RF × Flags) :=
  let tinyPre := match emin with | some em => x.c == 0 || x.e < em | none => false
  let fits := match p with | none => true | some p => x.p ≤ p
  if x.exp > n && fits then
    .ok (⟨x.s, x.exp, x.c⟩, { tinyPre := tinyPre, tinyPost := tinyPre })
  else
    let (kept, lost) := x.split n
    if lost.c = 0 then
      .ok (kept, { tinyPre := tinyPre, tinyPost := tinyPre })
    else if exact then .error .valueError
    else
      let incr := kept.roundIncrement lost n rm
      let (kept', carry) :=
        if incr then
          let c := kept.c + 1
          match p with
          | some p => if bitLength c > p then (({ kept with c := c / 2, exp := kept.exp + 1 } : RF), true)
                      else ({ kept with c := c }, false)
          | none => ({ kept with c := c }, false)
        else (kept, false)
      let tinyPost := match emin with
        | some em => if tinyPre then x.tinyPostCheck kept' em n rm else tinyPre
        | none => tinyPre
      .ok (kept', { tinyPre := tinyPre, tinyPost := tinyPost, inexact := true, carry := carry })

/-- `_round_at_stochastic` with the draw `r` explicit (the real code always draws once; how many
bits it asks the generator for is `stochasticBits`, the `k` below). -/
def roundAtStochastic (x : RF) (p : Option Nat) (n : Int) (emin : Option Int) (rm : RM)
    (k? : Option Nat) (r : Nat) (exact : Bool) : Except Err (RF × Flags) :=
  let k : Nat := match k? with | some k => k | none => (max 0 ((n + 1) - x.exp)).toNat
  let nRand := n - k
  match x.roundAtCore none nRand none rm exact with
  | .error e => .error e
  | .ok (xr, _) =>
    let (_, lost) := xr.split n
    let randRm : RM :=
      if lost.c = 0 then (if xr.abs.gt x.abs then .raz else .rtz)
      else
        let off := lost.exp - (nRand + 1)
        let lostC : Nat := if off > 0 then lost.c * 2 ^ off.toNat
                           else if off < 0 then lost.c / 2 ^ (-off).toNat else lost.c
        if r + lostC ≥ 2 ^ k then .raz else .rtz
    x.roundAtCore p n emin randRm exact

/-- number of bits the real code asks the generator for -/
def stochasticBits (x : RF) (n : Int) (k? : Option Nat) : Nat :=
  match k? with | some k => k | none => (max 0 ((n + 1) - x.exp)).toNat

/-- `RealFloat.round(max_p, min_n, rm, num_randbits, rng=…, exact)`.
`k? = some 0` is deterministic rounding. -/
def round (x : RF) (maxP : Option Nat) (minN : Option Int) (rm : RM)
    (k? : Option Nat := some 0) (r : Nat := 0) (exact : Bool := false) : Except Err (RF × Flags) :=
  match x.roundParams maxP minN with
  | .error e => .error e
  | .ok (p, n) =>
    let emin : Option Int := match maxP, minN with | some p, some n => some ((p : Int) + n) | _, _ => none
    if k? = some 0 then x.roundAtCore p n emin rm exact
    else x.roundAtStochastic p n emin rm k? r exact

/-- `RealFloat.round_at(n, p, rm, num_randbits, …)` -/
def roundAt (x : RF) (n : Int) (p : Option Nat) (rm : RM)
    (k? : Option Nat := some 0) (r : Nat := 0) (exact : Bool := false) : Except Err (RF × Flags) :=
  let emin : Option Int := match p with | some p => some ((p : Int) + n) | none => none
  if k? = some 0 then x.roundAtCore p n emin rm exact
  else x.roundAtStochastic p n emin rm k? r exact

end RF
end Fpy
