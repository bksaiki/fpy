/-
Model of the mixed-type surface of `fpy2/number/number/reals.py` (`RealFloat`) and
`floats.py` (`Float`): what happens when an operand is a `Float`, a `RealFloat`, a
Python `int`, a Python `float` or a `Fraction` (property C05).  Extends
`RealFloat.lean` / `Float.lean` (which model the same-type arms) with

* the operand conversions `from_int`, `from_float`, `from_rational` (non-dyadic ↦ `ValueError`),
* `RealFloat.__add__/__mul__` with the Python `float` specials (nan/inf absorb),
* `Float.__add__/__mul__/__pow__` (NaR arms of `__pow__`), `__sub__/__rsub__`,
* `RealFloat.compare` / `Float.compare` against each of the five types and the rich
  comparison operators as Python dispatches them (reflected operators, `rcomparable`,
  `Fraction`'s own comparison with a `numbers.Rational`),
* `__int__`, `__float__` (`native.default_float_convert`: binary64 round + inexact ⇒ `ValueError`),
  `as_rational`, the class key `__hash__` hashes through, `is_identical_to`,
* the `Float` wrappers of `split`, `normalize`, `is_more_significant`.

Core Lean only.  The model follows the current code of /repo (after the `fix:` commits
4835537, 3d475f5, 9c623e4).
-/
import Fpy.Model.Num.Ctx
namespace Fpy

/-- A Python operand of one of the five numeric types. -/
inductive Num
  | F (v : FV)                   -- fpy2 `Float`
  | R (x : RF)                   -- fpy2 `RealFloat`
  | I (i : Int)                  -- Python `int`
  | D (v : FV)                   -- Python `float`, decoded bitwise (finite / inf / nan)
  | Q (num : Int) (den : Nat)    -- `Fraction` in lowest terms, `den > 0`
deriving Repr, Inhabited

/-- exact three-way comparison of rationals (what `f < other` / `f > other` on `Fraction`s compute) -/
def cmpRat (a b : Rat) : Ordering := if a < b then .lt else if b < a then .gt else .eq

namespace RF

/-- `RealFloat.from_float` on a decoded Python float: infinity / NaN ↦ `ValueError`. -/
def ofFloat? : FV → Except Err RF
  | .fin x => .ok x
  | _ => .error .valueError

/-- `RealFloat.from_rational`: `ValueError` unless the denominator is a power of two. -/
def ofRational? (num : Int) (den : Nat) : Except Err RF :=
  if !(isPow2 den) then .error .valueError
  else if num = 0 then .ok (zero false)
  else if den = 1 then .ok (ofInt num)
  else .ok (rfOfDyadic num den)

/-- `RealFloat.as_rational` (a `Fraction` is a normalised rational, as `Rat` is). -/
def asRational (x : RF) : Rat := x.val

/-- `RealFloat.is_identical_to` -/
def isIdenticalTo (x y : RF) : Bool := x.s == y.s && x.exp == y.exp && x.c == y.c

/-- `RealFloat.__add__(self, other)` for `other` of any of the five types.
`error notImplemented` stands for `return NotImplemented` (a `Float` operand): the caller
(`Num.binop`) then tries the reflected method of the other operand. -/
def addNum (x : RF) : Num → Except Err Num
  | .R y => .ok (.R (x.add y))
  | .I i => .ok (.R (x.add (ofInt i)))
  | .D v =>
    match v with
    | .fin y => .ok (.R (x.add y))
    | v => .ok (.D v)                       -- nan / ±inf absorb: `return other`
  | .Q n d =>
    match ofRational? n d with
    | .ok y => .ok (.R (x.add y))
    | .error e => .error e
  | .F _ => .error .notImplemented

/-- `RealFloat.__mul__(self, other)`.  The `float` special arm as in the code:
`0 * inf = nan`; else `s = self._s != (math.copysign(1.0, other) < 0); return abs(other) * (-1.0 if s else 1.0)`. -/
def mulNum (x : RF) : Num → Except Err Num
  | .R y => .ok (.R (x.mul y))
  | .I i => .ok (.R (x.mul (ofInt i)))
  | .D v =>
    match v with
    | .fin y => .ok (.R (x.mul y))
    | .nan t => .ok (.D (.nan (x.s != t)))
    | .inf t => if x.c = 0 then .ok (.D (.nan false)) else .ok (.D (.inf (x.s != t)))
  | .Q n d =>
    match ofRational? n d with
    | .ok y => .ok (.R (x.mul y))
    | .error e => .error e
  | .F _ => .error .notImplemented

/-- `RealFloat.compare(self, other)`; `ok none` = unordered (`None`), `TypeError` on a `Float`. -/
def compareNum (x : RF) : Num → Except Err (Option Ordering)
  | .R y => .ok (some (x.compare y))
  | .I i => .ok (some (x.compare (ofInt i)))
  | .D v =>
    match v with
    | .nan _ => .ok none
    | .inf t => .ok (some (if t then .gt else .lt))
    | .fin y => .ok (some (x.compare y))
  | .Q n d => .ok (some (cmpRat x.asRational (mkRat n d)))
  | .F _ => .error .typeError

/-- the class key `RealFloat.__hash__` hashes through: `hash(int(self))`, else `hash(as_rational())` -/
inductive HashKey
  | nan
  | inf (s : Bool)
  | int (i : Int)
  | frac (q : Rat)
deriving DecidableEq, Repr, Inhabited

def hashKey (x : RF) : HashKey :=
  match x.toInt? with
  | some i => .int i
  | none => .frac x.asRational

/-- `RealFloat.normalize(p, n)` with `p` a Python int (`p < 0` ↦ `ValueError`). -/
def normalizeI (x : RF) (p : Option Int) (n : Option Int) : Except Err RF :=
  match p with
  | some p =>
    if p < 0 then .error .valueError
    else match x.normalize (some p.toNat) n with | some y => .ok y | none => .error .valueError
  | none => match x.normalize none n with | some y => .ok y | none => .error .valueError

end RF

namespace FV

/-- operand conversion at the head of `Float.__add__` / `__mul__`:
`from_real`, `from_int`, `from_float`, `from_rational`. -/
def ofNum : Num → Except Err FV
  | .F v => .ok v
  | .R x => .ok (.fin x)
  | .I i => .ok (.fin (RF.ofInt i))
  | .D v => .ok v
  | .Q n d => match RF.ofRational? n d with | .ok x => .ok (.fin x) | .error e => .error e

/-- `Float.__add__(self, other)` -/
def addNum (a : FV) (b : Num) : Except Err FV :=
  match ofNum b with | .ok b' => .ok (a.add b') | .error e => .error e

/-- `Float.__mul__(self, other)` -/
def mulNum (a : FV) (b : Num) : Except Err FV :=
  match ofNum b with | .ok b' => .ok (a.mul b') | .error e => .error e

/-- `Float.__pow__(self, exponent)` for an `int` exponent. -/
def powInt (a : FV) (k : Int) : Except Err FV :=
  if k < 0 then .error .valueError
  else if k = 0 then .ok (.fin ⟨false, 0, 1⟩)
  else match a with
    | .fin x => .ok (.fin (x.pow k.toNat))
    | a => .ok (a.withSign (a.sign && k % 2 != 0))

/-- `Float.compare(self, other)` for `other` of any of the five types; `none` = unordered. -/
def compareNum (a : FV) (b : Num) : Option Ordering :=
  match a with
  | .nan _ => none
  | a =>
    match b with
    | .F w => a.compare w
    | .D w => a.compare w                       -- `self.compare(Float.from_float(other))`
    | .R y => a.compare (.fin y)
    | .I i => a.compare (.fin (RF.ofInt i))     -- `self.compare(RealFloat.from_int(other))`
    | .Q n d =>
      match a with
      | .inf s => some (if s then .lt else .gt)
      | .fin x => some (cmpRat x.asRational (mkRat n d))
      | .nan _ => none

/-- `Float.__hash__` class key -/
def hashKey : FV → RF.HashKey
  | .nan _ => .nan
  | .inf s => .inf s
  | .fin x => x.hashKey

/-- `Float.__int__` -/
def toInt? : FV → Except Err Int
  | .fin x => match x.toInt? with | some i => .ok i | none => .error .valueError
  | _ => .error .valueError

/-- `Float.as_rational` -/
def asRational : FV → Except Err Rat
  | .fin x => .ok x.asRational
  | _ => .error .valueError

/-- `Float.split(n)` -/
def split (a : FV) (n : Int) : FV × FV :=
  match a with
  | .fin x => let (h, l) := x.split n; (.fin h, .fin l)
  | .inf s => (.inf s, .inf s)
  | .nan s => (.nan s, .nan s)

/-- `Float.normalize(p, n)` on a value without a context. -/
def normalizeI (a : FV) (p : Option Int) (n : Option Int) : Except Err FV :=
  match p with
  | some p' => if p' < 0 then .error .valueError else go
  | none => if n.isNone then .error .valueError else go
where go : Except Err FV :=
  match a with
  | .nan s => .ok (.nan s)
  | .inf s => .ok (.inf s)
  | .fin x => match x.normalizeI p n with | .ok y => .ok (.fin y) | .error e => .error e

/-- `Float.is_more_significant(n)` -/
def isMoreSignificant? (a : FV) (n : Int) : Except Err Bool :=
  match a with
  | .fin x => .ok (x.isMoreSignificant n)
  | _ => .error .valueError

end FV

/-- `native._FP64 = IEEEContext(11, 64, RNE)` -/
def fp64 : Ctx :=
  .efloat { es := 11, nbits := 64, inf := true, kind := .ieee, eoff := 0, rm := .rne, ov := .overflow,
            k := some 0, nanValue := none, infValue := none }

/-- `native.default_float_convert` (values here never carry the `_FP64` context):
round to binary64, `ValueError` when inexact, else the rounded value (which `encode`/`bits_to_float`
turn into the Python float denoting it). -/
def toFloatCore (op : Operand) : Except Err FV :=
  match fp64.round op with
  | .error e => .error e
  | .ok r => if r.fl.inexact then .error .valueError else .ok r.v

namespace Num

/-- Python unary minus on each type -/
def neg : Num → Num
  | .F v => .F v.neg
  | .R x => .R x.neg
  | .I i => .I (-i)
  | .D v => .D v.neg
  | .Q n d => .Q (-n) d

/-- unary `-x`, `+x`, `abs(x)` for the two fpy types (native types are out of scope: `TypeError` tag) -/
def unop (which : String) : Num → Except Err Num
  | .F v => match which with
    | "neg" => .ok (.F v.neg) | "pos" => .ok (.F v.pos) | "abs" => .ok (.F v.abs) | _ => .error .typeError
  | .R x => match which with
    | "neg" => .ok (.R x.neg) | "pos" => .ok (.R x.pos) | "abs" => .ok (.R x.abs) | _ => .error .typeError
  | _ => .error .typeError

inductive BinOp | add | sub | mul
deriving DecidableEq, Repr

def liftF (r : Except Err FV) : Except Err Num :=
  match r with | .ok v => .ok (.F v) | .error e => .error e

/-- `a <op> b` as Python evaluates it: the left operand's method first, the reflected method of the
right operand when the left one is a native type (`int`/`float`/`Fraction` return `NotImplemented`).
`__sub__` is `self + (-other)`, `__rsub__` is `(-self) + other`, `__radd__`/`__rmul__` commute. -/
def binop (op : BinOp) (a b : Num) : Except Err Num :=
  match a with
  | .F v =>
    match op with
    | .add => liftF (v.addNum b)
    | .sub => liftF (v.addNum b.neg)
    | .mul => liftF (v.mulNum b)
  | .R x =>
    match b with
    | .F w =>       -- `RealFloat.__add__/__mul__` return `NotImplemented`; `Float.__radd__/__rmul__` run
      match op with
      | .add => liftF (w.addNum (.R x))
      | .sub => liftF (w.neg.addNum (.R x))      -- `self + (-other)` ↦ `(-other).__radd__(self)`
      | .mul => liftF (w.mulNum (.R x))
    | b =>
      match op with
      | .add => x.addNum b
      | .sub => x.addNum b.neg
      | .mul => x.mulNum b
  | a =>
    match b with
    | .F w =>
      match op with
      | .add => liftF (w.addNum a)
      | .sub => liftF (w.neg.addNum a)
      | .mul => liftF (w.mulNum a)
    | .R y =>
      match op with
      | .add => y.addNum a
      | .sub => y.neg.addNum a
      | .mul => y.mulNum a
    | _ => .error .typeError      -- two native operands: not this library

/-- `a ** k` -/
def pow (a : Num) (k : Int) : Except Err Num :=
  match a with
  | .F v => liftF (v.powInt k)
  | .R x => if k < 0 then .error .valueError else .ok (.R (x.pow k.toNat))
  | _ => .error .typeError

inductive CmpOp | eq | lt | le | gt | ge
deriving DecidableEq, Repr

/-- the operator Python tries on the right operand when the left one declines -/
def CmpOp.swap : CmpOp → CmpOp
  | .eq => .eq | .lt => .gt | .le => .ge | .gt => .lt | .ge => .le

/-- `ord == Ordering.LESS` etc.; `None` compares unequal to every `Ordering` -/
def CmpOp.test (op : CmpOp) : Option Ordering → Bool
  | none => false
  | some o =>
    match op with
    | .eq => o == .eq | .lt => o == .lt | .le => o != .gt | .gt => o == .gt | .ge => o != .lt

/-- `a.compare(b)` called directly (left operand a `Float` or `RealFloat`). -/
def compare (a b : Num) : Except Err (Option Ordering) :=
  match a with
  | .F v => .ok (v.compareNum b)
  | .R x => x.compareNum b
  | _ => .error .typeError

/-- the rich comparison `a <op> b` with the left operand one of the fpy types -/
def cmpLeft (op : CmpOp) (a b : Num) : Except Err Bool :=
  match a with
  | .F v => .ok (op.test (v.compareNum b))
  | .R x =>
    match b with
    | .F w => .ok (op.swap.test (w.compareNum (.R x)))      -- `rcomparable`: `other <swap> self`
    | b => match x.compareNum b with | .ok o => .ok (op.test o) | .error e => .error e
  | _ => .error .typeError

/-- `a <op> b` as Python evaluates it on any mix of the five types (at least one fpy type). -/
def cmpOp (op : CmpOp) (a b : Num) : Except Err Bool :=
  match a with
  | .F _ | .R _ => cmpLeft op a b
  | .Q n d =>
    match b with
    | .R y => .ok (op.test (some (cmpRat (mkRat n d) y.asRational)))  -- `Fraction` handles a `numbers.Rational`
    | .F _ => cmpLeft op.swap b a
    | _ => .error .typeError
  | a =>
    match b with
    | .F _ | .R _ => cmpLeft op.swap b a
    | _ => .error .typeError

/-- `hash` class key -/
def hashKey : Num → Except Err RF.HashKey
  | .F v => .ok v.hashKey
  | .R x => .ok x.hashKey
  | _ => .error .typeError

/-- `int(a)` -/
def toInt (a : Num) : Except Err Int :=
  match a with
  | .F v => v.toInt?
  | .R x => match x.toInt? with | some i => .ok i | none => .error .valueError
  | _ => .error .typeError

/-- `float(a)` -/
def toFloat (a : Num) : Except Err FV :=
  match a with
  | .F v => toFloatCore (.flt v)
  | .R x => toFloatCore (.real x)
  | _ => .error .typeError

/-- `a.as_rational()` -/
def asRational (a : Num) : Except Err Rat :=
  match a with
  | .F v => v.asRational
  | .R x => .ok x.asRational
  | _ => .error .typeError

end Num
end Fpy
