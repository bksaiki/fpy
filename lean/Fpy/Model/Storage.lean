/-
C11 — the decision logic of the C++ backend, as the code is written today.

* `fpy2/backend/cpp/storage.py`: the storage ladder `_LADDER`, `choose_storage_scalar`,
  `scalar_fits_in`, `scalar_sup`;
* `fpy2/backend/cpp/target.py` (`make_op_table`) + `ops.CppOp.matches` + phases (1) and (2) of
  `CppEmitter._dispatch`: which machine operation a primitive node is lowered to, given the
  storages of its operands and the active rounding context.

Machine types are given as value sets `values T : FV → Prop`, written from the C++ / IEEE-754
definitions (an `intN_t` holds the integers of its range and has no negative zero; a `float` is
`±m·2^e` with `m < 2^24`, `-149 ≤ e ≤ 104`, or an infinity or a NaN).

Core Lean only.  (`Fpy.Spec.AbsFmt` is core Lean as well; it is imported for `RF.eqV`.)
-/
import Fpy.Spec.AbsFmt
import Fpy.Model.Num.Engine
namespace Fpy.C11
open Fpy

/-- `CppScalar` -/
inductive MachTy
  | bool | u8 | s8 | u16 | s16 | u32 | s32 | f32 | u64 | s64 | f64
deriving DecidableEq, Repr, Inhabited

namespace MachTy

def name : MachTy → String
  | bool => "BOOL" | u8 => "U8" | s8 => "S8" | u16 => "U16" | s16 => "S16" | u32 => "U32" | s32 => "S32"
  | f32 => "F32" | u64 => "U64" | s64 => "S64" | f64 => "F64"

/-- `CppScalar.format()` -/
def cpp : MachTy → String
  | bool => "bool" | u8 => "uint8_t" | s8 => "int8_t" | u16 => "uint16_t" | s16 => "int16_t" | u32 => "uint32_t"
  | s32 => "int32_t" | f32 => "float" | u64 => "uint64_t" | s64 => "int64_t" | f64 => "double"

def isUnsigned : MachTy → Bool | u8 | u16 | u32 | u64 => true | _ => false

def isFloat : MachTy → Bool | f32 | f64 => true | _ => false
def isInteger : MachTy → Bool | bool | f32 | f64 => false | _ => true

end MachTy

/-! ### the ladder -/

/-- `AbstractFormat.from_format(UINTn.format())` = `A(inf, 0, 2^n - 1, 0)`, no special values -/
def uintFmt (n : Nat) : AbsFmt :=
  { prec := none, exp := some 0, pos := .fin ⟨false, 0, 2 ^ n - 1⟩, neg := .fin ⟨false, 0, 0⟩ }

/-- `AbstractFormat.from_format(SINTn.format())` = `A(inf, 0, 2^(n-1) - 1, -2^(n-1))` -/
def sintFmt (n : Nat) : AbsFmt :=
  { prec := none, exp := some 0, pos := .fin ⟨false, 0, 2 ^ (n - 1) - 1⟩, neg := .fin ⟨true, 0, 2 ^ (n - 1)⟩ }

/-- `AbstractFormat.from_format(IEEE(es, nbits).format())` with `p` digits, least exponent `emin - p + 1 = expmin`
and largest quantum exponent `emaxq`: `A(p, expmin, ±(2^p - 1)·2^emaxq)` with both infinities, NaN and `-0` -/
def ieeeFmt (p : Nat) (expmin emaxq : Int) : AbsFmt :=
  { prec := some p, exp := some expmin, pos := .fin ⟨false, emaxq, 2 ^ p - 1⟩, neg := .fin ⟨true, emaxq, 2 ^ p - 1⟩,
    posInf := true, negInf := true, nan := true, negZero := true }

/-- the abstract format paired with a ladder rung (`_LADDER_LOOKUP`); `BOOL` is not on the ladder -/
def ladderFmt : MachTy → Option AbsFmt
  | .bool => none
  | .u8 => some (uintFmt 8) | .s8 => some (sintFmt 8)
  | .u16 => some (uintFmt 16) | .s16 => some (sintFmt 16)
  | .u32 => some (uintFmt 32) | .s32 => some (sintFmt 32)
  | .f32 => some (ieeeFmt 24 (-149) 104)
  | .u64 => some (uintFmt 64) | .s64 => some (sintFmt 64)
  | .f64 => some (ieeeFmt 53 (-1074) 971)

/-- `_LADDER`, smallest first -/
def ladder : List MachTy := [.u8, .s8, .u16, .s16, .u32, .s32, .f32, .u64, .s64, .f64]

/-- `af <= ladder_af` for the rung `T` -/
def fitsRung (a : AbsFmt) (T : MachTy) : Bool :=
  match ladderFmt T with
  | some l => a.le l
  | none => false

/-- the linear search of `choose_storage_scalar`: the first rung whose format contains `af` -/
def chooseLadder (a : AbsFmt) : Option MachTy := ladder.find? (fitsRung a)

/-- what `choose_storage_scalar` is handed, after the `isinstance` tests and `_to_abstract` -/
inductive Bound
  | none                                   -- `None`: a non-numeric bound (a comparison)
  | real                                   -- `REAL_FORMAT`
  | other                                  -- not an `AbstractableFormat | SetFormat`, or `_to_abstract` gave `None`
  | bottom                                 -- `is_bottom(bound)`: the empty `SetFormat`
  | fmt (a : AbsFmt) (mpFixed : Option Int) -- `_to_abstract(bound)`; `some expmin` when `bound` is an `MPFixedFormat`
deriving Repr, Inhabited

/-- the fallback of `choose_storage_scalar` for an unbounded integer format: `int64_t`, ignoring
the magnitude -/
def fallbackS64 (a : AbsFmt) (mpFixed : Option Int) : Bool :=
  match mpFixed with
  | some expmin => decide (0 ≤ expmin) && a.specialsContainedIn (sintFmt 64)
  | none => false

/-- `choose_storage_scalar`; `none` = `StorageSelectionError` -/
def chooseStorageScalar : Bound → Option MachTy
  | .none => some .bool
  | .real => Option.none
  | .other => Option.none
  | .bottom => some .u8
  | .fmt a mp =>
    match chooseLadder a with
    | some T => some T
    | Option.none => if fallbackS64 a mp then some .s64 else Option.none

/-- `scalar_fits_in(a, b)` -/
def scalarFitsIn (a b : MachTy) : Bool :=
  match ladderFmt a, ladderFmt b with
  | some fa, some fb => fa.le fb
  | _, _ => a == b

/-- `scalar_sup(scalars)` for a non-empty list without `BOOL`: the first rung, from the largest
index among the inputs upward, that contains every input; `none` = `StorageSelectionError` -/
def scalarSup (ts : List MachTy) : Option MachTy :=
  if ts.any (· == .bool) then (if ts.all (· == .bool) then some .bool else none)
  else
    let idx (t : MachTy) : Nat := (ladder.findIdx? (· == t)).getD 0
    let mx := ts.foldl (fun m t => max m (idx t)) 0
    (ladder.drop mx).find? (fun T => ts.all (fun t => scalarFitsIn t T))

/-! ### machine types as value sets -/

/-- the finite value `x` is `±m·2^e` (magnitudes compared at the common scale `min x.exp e`) -/
def denotes (x : RF) (m : Nat) (e : Int) : Prop :=
  x.c * 2 ^ (x.exp - min x.exp e).toNat = m * 2 ^ (e - min x.exp e).toNat

/-- an integer type with range `[lo, hi]`: the integers of the range; zero is `+0` only -/
def intValues (lo hi : Int) : FV → Prop
  | .fin x => (x.c = 0 → x.s = false) ∧
      ∃ m : Nat, denotes x m 0 ∧ lo ≤ (if x.s then -(m : Int) else m) ∧ (if x.s then -(m : Int) else m) ≤ hi
  | _ => False

/-- a binary IEEE-754 type with `p` digits and quantum exponents `expmin … emaxq`:
zeros of both signs, `±m·2^e` with `m < 2^p`, infinities, NaN -/
def floatValues (p : Nat) (expmin emaxq : Int) : FV → Prop
  | .fin x => x.c = 0 ∨ ∃ (m : Nat) (e : Int), m < 2 ^ p ∧ expmin ≤ e ∧ e ≤ emaxq ∧ denotes x m e
  | _ => True

/-- the values a machine type holds (largest quantum exponents: `104 = 127 − 23`, `971 = 1023 − 52`) -/
def values : MachTy → FV → Prop
  | .bool => fun _ => False
  | .u8 => intValues 0 (2 ^ 8 - 1) | .s8 => intValues (-(2 ^ 7)) (2 ^ 7 - 1)
  | .u16 => intValues 0 (2 ^ 16 - 1) | .s16 => intValues (-(2 ^ 15)) (2 ^ 15 - 1)
  | .u32 => intValues 0 (2 ^ 32 - 1) | .s32 => intValues (-(2 ^ 31)) (2 ^ 31 - 1)
  | .u64 => intValues 0 (2 ^ 64 - 1) | .s64 => intValues (-(2 ^ 63)) (2 ^ 63 - 1)
  | .f32 => floatValues 24 (-149) 104
  | .f64 => floatValues 53 (-1074) 971

/-- two `Float`s are the same machine value: same class, same sign, same number
(a NaN is a NaN: payload and sign are not part of the contract) -/
def sameValue : FV → FV → Prop
  | .fin x, .fin y => x.s = y.s ∧ x.eqV y
  | .inf s, .inf t => s = t
  | .nan _, .nan _ => True
  | _, _ => False

/-! ### the op table (`target.make_op_table`) and `CppEmitter._dispatch` -/

/-- the four `fesetround` modes (`_FP_RMS`) -/
inductive HwRM | rne | rtz | rtp | rtn
deriving DecidableEq, Repr, Inhabited

def HwRM.toRM : HwRM → RM | .rne => .rne | .rtz => .rtz | .rtp => .rtp | .rtn => .rtn

/-- `_NATIVE_CTXS`: the contexts the table has signatures for -/
inductive NativeCtx
  | fp (dbl : Bool) (rm : HwRM)      -- `IEEEContext(8, 32, rm)` / `IEEEContext(11, 64, rm)`
  | sint (n : Nat)                   -- `SINT8/16/32/64` (n = 8, 16, 32, 64)
  | uint (n : Nat)                   -- `UINT8/16/32/64`
  | integer                          -- `INTEGER`
deriving DecidableEq, Repr, Inhabited

def fpCtxs : List NativeCtx :=
  [false, true].flatMap fun d => [HwRM.rne, .rtz, .rtp, .rtn].map fun r => NativeCtx.fp d r
def intCtxs : List NativeCtx :=
  [.sint 8, .sint 16, .sint 32, .sint 64, .uint 8, .uint 16, .uint 32, .uint 64, .integer]
def allCtxs : List NativeCtx := fpCtxs ++ intCtxs

/-- `ctx.format()` lifted by `_to_abstract`, with the `MPFixedFormat` marker -/
def NativeCtx.bound : NativeCtx → Bound
  | .fp false _ => .fmt (ieeeFmt 24 (-149) 104) none
  | .fp true _ => .fmt (ieeeFmt 53 (-1074) 971) none
  | .sint n => .fmt (sintFmt n) none
  | .uint n => .fmt (uintFmt n) none
  | .integer => .fmt { prec := none, exp := some 0, pos := .inf false, neg := .inf true } (some 0)

/-- `_ty_of(ctx) = choose_storage_scalar(ctx.format())` -/
def NativeCtx.ty (c : NativeCtx) : Option MachTy := chooseStorageScalar c.bound

/-- the rounding context of the interpreter (`Fpy.Ctx`) a native context denotes
(`k = some 0`: `num_randbits = 0`, no stochastic rounding) -/
def NativeCtx.toCtx : NativeCtx → Ctx
  | .fp dbl rm => .efloat { es := if dbl then 11 else 8, nbits := if dbl then 64 else 32, inf := true, kind := .ieee, eoff := 0,
                            rm := rm.toRM, ov := .overflow, k := some 0, nanValue := none, infValue := none }
  | .sint n => Ctx.fixed true 0 n .rtz .wrap (some 0) none none
  | .uint n => Ctx.fixed false 0 n .rtz .wrap (some 0) none none
  | .integer => .mpfix (-1) .rtz (some 0) false { enableNan := false, enableInf := false }

/-- the primitive nodes the table is modelled for -/
inductive Node | add | sub | mul | div | neg | abs | sqrt | fma
deriving DecidableEq, Repr, Inhabited

def Node.toOp : Node → Op
  | .add => .add | .sub => .sub | .mul => .mul | .div => .div | .neg => .neg | .abs => .fabs | .sqrt => .sqrt | .fma => .fma

def Node.arity : Node → Nat
  | .neg | .abs | .sqrt => 1 | .fma => 3 | _ => 2

/-- one `CppOp`: C++ spelling, input slots, the context its output is correct under -/
structure Sig where
  name : String
  inTys : List MachTy
  outCtx : NativeCtx
deriving DecidableEq, Repr

/-- same-context signatures, one per context, every slot at `_ty_of(ctx)`; the C++ spelling may depend
on that type -/
def sameSigsBy (arity : Nat) (nm : MachTy → String) (cs : List NativeCtx) : List Sig :=
  cs.filterMap fun c => c.ty.map fun t => { name := nm t, inTys := List.replicate arity t, outCtx := c }

/-- same-context signatures (`_fp_unary`, `_fp_binary`, `_fp_ternary`, and the comprehensions of
`_make_unary_table` / `_make_binary_table`): one spelling for every context -/
def sameSigs (arity : Nat) (nm : String) (cs : List NativeCtx) : List Sig := sameSigsBy arity (fun _ => nm) cs

/-- `_int_abs`: `std::abs` for a signed type; an unsigned type has no `std::abs` overload (the call is
ambiguous for `uint32_t`/`uint64_t`) and is its own absolute value: the identity conversion -/
def intAbsName (t : MachTy) : String := if t.isUnsigned then "static_cast<" ++ t.cpp ++ ">" else "std::abs"

/-- the signatures `make_op_table()` lists for a node -/
def sigs (nd : Node) : List Sig :=
  match nd with
  | .add => sameSigs nd.arity "+" allCtxs | .sub => sameSigs nd.arity "-" allCtxs
  | .mul => sameSigs nd.arity "*" allCtxs | .div => sameSigs nd.arity "/" allCtxs
  | .neg => sameSigs nd.arity "-" allCtxs
  | .abs => sameSigs nd.arity "std::fabs" fpCtxs ++ sameSigsBy nd.arity intAbsName intCtxs
  | .sqrt => sameSigs nd.arity "std::sqrt" fpCtxs
  | .fma => sameSigs nd.arity "std::fma" fpCtxs

/-- `CppOp.matches(in_tys, active_ctx)` -/
def Sig.matchesDirect (s : Sig) (tys : List MachTy) (active : NativeCtx) : Bool :=
  s.outCtx == active && s.inTys == tys

/-- phases (1) and (2) of `_dispatch` for a native active context: a direct match, else the
all-same-type signature of the active context provided every operand storage fits in its storage
(`_maybe_cast` refuses a lossy conversion; the value-level escape `bound_fits_in_scalar` and phase
(3), widening under `REAL`, are not modelled).  `none` = `CppEmitError`. -/
def dispatch (nd : Node) (tys : List MachTy) (active : NativeCtx) : Option Sig :=
  match (sigs nd).find? (fun s => s.matchesDirect tys active) with
  | some s => some s
  | none =>
    match active.ty with
    | none => none
    | some target =>
      match (sigs nd).find? (fun s => s.inTys == List.replicate tys.length target && s.outCtx == active) with
      | some s => if tys.all (fun t => t == target || scalarFitsIn t target) then some s else none
      | none => none

end Fpy.C11
