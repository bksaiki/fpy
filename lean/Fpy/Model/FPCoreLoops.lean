/-
C12 — the FPy → FPCore compiler on the subset WITH loops, one-armed `if`, `if/else`
followed by statements, and tuples.

`compileLS / compileLB` give, for every statement, the COMPOSITE output of the normalisation passes
(`ForBundling`, `WhileBundling`, `IfBundling`, fpy2/transform/*_bundling.py) followed by the backend
(`_visit_assign`, `_visit_context`, `_visit_if`, `_visit_if1`, `_visit_while`, `_visit_for` of
fpy2/backend/fpc.py as of af5fc1c), up to α-equivalence of the emitted core:

* the passes RENAME the variables they bundle (`s11 = s11 + b`); the model keeps the source names —
  in the emitted core every such variable is `let`-bound, so the two outputs differ by a renaming of
  bound variables only (harness/c12.py compares α-normal forms);
* compiler temporaries are the fixed names `%t` (tuples), `%it` (the iterable of a `for`), `%k`
  (its index), `%j` (the dimension variable of a `range`), `_`;
* `WhileBundling`, `ForBundling` and the one-armed case of `IfBundling` iterate a Python `set`; the
  order they meet the variables in is the parameter `ord` of the model (any order is sound);
* which variables a loop carries / an `if` hands on is decided as the real analyses decide it:
  `mutated_in` = assigned in the block and defined before it (`Γ`), `introed_in` = defined at its end
  and not before (`LStmt.gammaL`, `introsIf`), the `with` block passes on what the continuation mentions (`occ`).

Subset: rounded constants, rounded operators, order comparisons, tuples; assignment, tuple
unpacking, `with`, `if/else`, `if`, `while`, `for x in range(round(n))`, `return`.
-/
import Fpy.Model.FPCoreCompile
namespace Fpy.C12
open Fpy Fpy.Lang

/-! ## names occurring in / free in an FPCore expression -/

def tmpNames : List String := ["%t", "%it", "%k", "%j", "_"]
/-- compiler temporaries (never names of the source program) -/
def isTmpL (x : String) : Bool := tmpNames.contains x

def rmNames (xs : List String) (l : List String) : List String := l.filter fun y => !xs.contains y

mutual
/-- every variable REFERENCE in the expression (`_mentioned_vars` of backend/fpc.py) -/
def occ : FExpr → List String
  | .var x => [x]
  | .num _ => []
  | .const _ => []
  | .op _ args => occL args
  | .pred _ a => occ a
  | .cmp _ args => occL args
  | .and es => occL es
  | .or es => occL es
  | .not e => occ e
  | .ite c t f => occ c ++ occ t ++ occ f
  | .let_ _ binds body => occB binds ++ occ body
  | .while_ _ c binds body => occ c ++ occT binds ++ occ body
  | .for_ _ dims binds body => occB dims ++ occT binds ++ occ body
  | .tensor dims body => occB dims ++ occ body
  | .array es => occL es
  | .ref a idx => occ a ++ occL idx
  | .size a k => occ a ++ occ k
  | .dim a => occ a
  | .ann _ e => occ e
def occL : List FExpr → List String
  | [] => []
  | e :: es => occ e ++ occL es
def occB : List (String × FExpr) → List String
  | [] => []
  | (_, e) :: rest => occ e ++ occB rest
def occT : List (String × FExpr × FExpr) → List String
  | [] => []
  | (_, i, u) :: rest => occ i ++ occ u ++ occT rest
end

mutual
/-- the FREE variables (for the non-starred binding forms the compiler emits, and `let*`) -/
def fvF : FExpr → List String
  | .var x => [x]
  | .num _ => []
  | .const _ => []
  | .op _ args => fvL args
  | .pred _ a => fvF a
  | .cmp _ args => fvL args
  | .and es => fvL es
  | .or es => fvL es
  | .not e => fvF e
  | .ite c t f => fvF c ++ fvF t ++ fvF f
  | .let_ false binds body => fvB binds ++ rmNames (binds.map (·.1)) (fvF body)
  | .let_ true binds body => fvStar binds (fvF body)
  | .while_ _ c binds body => fvInit binds ++ rmNames (binds.map (·.1)) (fvF c ++ fvUpd binds ++ fvF body)
  | .for_ _ dims binds body =>
    fvB dims ++ fvInit binds ++ rmNames (dims.map (·.1) ++ binds.map (·.1)) (fvUpd binds ++ fvF body)
  | .tensor dims body => fvB dims ++ rmNames (dims.map (·.1)) (fvF body)
  | .array es => fvL es
  | .ref a idx => fvF a ++ fvL idx
  | .size a k => fvF a ++ fvF k
  | .dim a => fvF a
  | .ann _ e => fvF e
def fvL : List FExpr → List String
  | [] => []
  | e :: es => fvF e ++ fvL es
def fvB : List (String × FExpr) → List String
  | [] => []
  | (_, e) :: rest => fvF e ++ fvB rest
def fvStar : List (String × FExpr) → List String → List String
  | [], acc => acc
  | (x, e) :: rest, acc => fvF e ++ rmNames [x] (fvStar rest acc)
def fvInit : List (String × FExpr × FExpr) → List String
  | [] => []
  | (_, i, _) :: rest => fvF i ++ fvInit rest
def fvUpd : List (String × FExpr × FExpr) → List String
  | [] => []
  | (_, _, u) :: rest => fvF u ++ fvUpd rest
end

/-! ## the source subset -/

inductive LExpr
  | var (x : String)
  | lit (v : NV)                              -- `round(<literal>)`
  | op (o : Op) (args : List LExpr)
  | cmp (o : COp) (a b : LExpr)
  | tuple (es : List LExpr)
deriving Inhabited

inductive LStmt
  | assign (x : String) (e : LExpr)
  | tassign (xs : List String) (e : LExpr)    -- `x, y, … = e`
  | with_ (d : CDesc) (body : List LStmt)
  | ifte (c : LExpr) (t f : List LStmt)
  | if1 (c : LExpr) (t : List LStmt)
  | while_ (c : LExpr) (body : List LStmt)
  | forRange (x : String) (n : Nat) (body : List LStmt)   -- `for x in range(round(n)):`
  | ret (e : LExpr)
deriving Inhabited

mutual
def LExpr.toLang : LExpr → Expr
  | .var x => .var x
  | .lit v => .op .round [.num v]
  | .op o args => .op o (LExpr.toLangs args)
  | .cmp o a b => .cmp [o.toCmp] [a.toLang, b.toLang]
  | .tuple es => .tuple (LExpr.toLangs es)
def LExpr.toLangs : List LExpr → List Expr
  | [] => []
  | e :: es => e.toLang :: LExpr.toLangs es
end

mutual
def LStmt.toLang : LStmt → Stmt
  | .assign x e => .assign (.var x) e.toLang
  | .tassign xs e => .assign (.tup (xs.map Pat.var)) e.toLang
  | .with_ d body => .with (.ctxLit (d.toCtx.getD .real)) none (LStmt.toLangs body)
  | .ifte c t f => .ifte c.toLang (LStmt.toLangs t) (LStmt.toLangs f)
  | .if1 c t => .if1 c.toLang (LStmt.toLangs t)
  | .while_ c body => .while c.toLang (LStmt.toLangs body)
  | .forRange x n body => .for (.var x) (.range [.op .round [.num (.q (n : Int) 1)]]) (LStmt.toLangs body)
  | .ret e => .ret e.toLang
def LStmt.toLangs : List LStmt → List Stmt
  | [] => []
  | s :: ss => s.toLang :: LStmt.toLangs ss
end

mutual
/-- `_visit_expr`, with every variable `x` written `sub x` (the identity except in the condition of
a bundled loop / `if`, where a bundled variable is `(ref %t (! :precision integer i))`) -/
def LExpr.toFsub (sub : String → FExpr) : LExpr → FExpr
  | .var x => sub x
  | .lit v => .num v
  | .op o args => .op o (LExpr.toFsubs sub args)
  | .cmp o a b => .cmp o.toCmp [a.toFsub sub, b.toFsub sub]
  | .tuple es => .array (LExpr.toFsubs sub es)
def LExpr.toFsubs (sub : String → FExpr) : List LExpr → List FExpr
  | [] => []
  | e :: es => e.toFsub sub :: LExpr.toFsubs sub es
end

def LExpr.toF (e : LExpr) : FExpr := e.toFsub FExpr.var

mutual
def LExpr.vars : LExpr → List String
  | .var x => [x]
  | .lit _ => []
  | .op _ args => LExpr.varsL args
  | .cmp _ a b => a.vars ++ b.vars
  | .tuple es => LExpr.varsL es
def LExpr.varsL : List LExpr → List String
  | [] => []
  | e :: es => e.vars ++ LExpr.varsL es
end

mutual
/-- the variables assigned anywhere in a block (loop targets included) -/
def LStmt.asg : LStmt → List String
  | .assign x _ => [x]
  | .tassign xs _ => xs
  | .with_ _ body => LStmt.asgL body
  | .ifte _ t f => LStmt.asgL t ++ LStmt.asgL f
  | .if1 _ t => LStmt.asgL t
  | .while_ _ body => LStmt.asgL body
  | .forRange x _ body => x :: LStmt.asgL body
  | .ret _ => []
def LStmt.asgL : List LStmt → List String
  | [] => []
  | s :: ss => s.asg ++ LStmt.asgL ss
end

mutual
/-- the variables definitely defined after a statement, given those defined before it
(`DefineUse` / reaching definitions: both branches of an `if`; nothing from a loop body or a one-armed `if`) -/
def LStmt.gamma (G : List String) : LStmt → List String
  | .assign x _ => x :: G
  | .tassign xs _ => xs ++ G
  | .with_ _ body => LStmt.gammaL G body
  | .ifte _ t f => (LStmt.gammaL G t).filter fun y => (LStmt.gammaL G f).contains y
  | .if1 _ _ => G
  | .while_ _ _ => G
  | .forRange _ _ _ => G
  | .ret _ => G
def LStmt.gammaL (G : List String) : List LStmt → List String
  | [] => G
  | s :: ss => LStmt.gammaL (s.gamma G) ss
end

/-! ## the compiler -/

def intProps : Props := { prec := some .integer }

def indexIn : List String → String → Nat → Option Nat
  | [], _, _ => none
  | y :: ys, x, i => if x == y then some i else indexIn ys x (i + 1)

/-- a bundled variable inside the condition: `(ref %t (! :precision integer i))` (`unsafe_int_cast`) -/
def subIdx (M : List String) (x : String) : FExpr :=
  match indexIn M x 0 with
  | some i => .ref (.var "%t") [.ann intProps (.num (.q (i : Int) 1))]
  | none => .var x

/-- `(let* ([%t <e>] [x0 (ref %t 0)] [x1 (ref %t 1)] …) K)` — tuple unpacking (`_visit_assign`, `TupleBinding`) -/
def unpack (xs : List String) (e K : FExpr) : FExpr := .let_ true (("%t", e) :: refBinds "%t" xs 0) K

/-- `(let ([%t (array x0 x1 …)]) K)` -/
def pack (xs : List String) (K : FExpr) : FExpr := .let_ false [("%t", .array (xs.map FExpr.var))] K

/-- what the end of a bundled body hands back -/
def repack (xs : List String) : FExpr := pack xs (.var "%t")

/-- `(let ([x e]) K)` -/
def bind1 (x : String) (e K : FExpr) : FExpr := .let_ false [(x, e)] K

/-- `(while c ([m init U]) K)` -/
def whileE (c : FExpr) (m : String) (init U K : FExpr) : FExpr := .while_ false c [(m, init, U)] K

/-- `(tensor ([%j n]) %j)` — `range(n)` -/
def rangeE (n : Nat) : FExpr := .tensor [("%j", .num (.q (n : Int) 1))] (.var "%j")

/-- `(let ([%it <range n>]) (for ([%k (size %it 0)]) ([m init (let ([x (ref %it %k)]) B)]) K))` -/
def forE (x : String) (n : Nat) (m : String) (init B K : FExpr) : FExpr :=
  bind1 "%it" (rangeE n)
    (.for_ false [("%k", .size (.var "%it") (.num (.q 0 1)))]
      [(m, init, bind1 x (.ref (.var "%it") [.var "%k"]) B)] K)

/-- the variables a block changes that are defined before it (`mutated_in`), sorted -/
def mutatedOf (G : List String) (ss : List LStmt) : List String :=
  sortNames ((LStmt.asgL ss).filter fun y => G.contains y)

/-- the variables a `with` block hands to its continuation `K`: changed, defined at its end, mentioned by `K` -/
def passedL (G : List String) (body : List LStmt) (K : FExpr) : List String :=
  sortNames ((LStmt.asgL body).filter fun y => (LStmt.gammaL G body).contains y && (occ K).contains y)

mutual
/-- number of statements (nested ones included) -/
def LStmt.size : LStmt → Nat
  | .assign _ _ => 1
  | .tassign _ _ => 1
  | .with_ _ body => 1 + LStmt.sizeL body
  | .ifte _ t f => 1 + LStmt.sizeL t + LStmt.sizeL f
  | .if1 _ t => 1 + LStmt.sizeL t
  | .while_ _ body => 1 + LStmt.sizeL body
  | .forRange _ _ body => 1 + LStmt.sizeL body
  | .ret _ => 1
def LStmt.sizeL : List LStmt → Nat
  | [] => 0
  | s :: ss => s.size + LStmt.sizeL ss
end

/-- a key for the place a set of variables is bundled at: the kind of statement and the size of its body (the
iteration order of a Python `set` depends on how the set was built, so two statements bundling the same variables
may meet them in different orders) -/
def siteIf1 (t : List LStmt) : Nat := 3 * LStmt.sizeL t
def siteWhile (b : List LStmt) : Nat := 3 * LStmt.sizeL b + 1
def siteFor (b : List LStmt) : Nat := 3 * LStmt.sizeL b + 2

structure Cfg where
  /-- `unsafe_int_cast` of `FPCoreCompiler` -/
  unsafeInt : Bool
  /-- the order in which `WhileBundling` / `ForBundling` / the one-armed `IfBundling` meet the
  variables of a (sorted) set at a site: iteration order of a Python `set` -/
  ord : Nat → List String → List String


/-! the carried variables `M` of a loop / one-armed `if`: none (`_`, `0`), one (the variable itself), or
several (the tuple `%t`; `WhileBundling`, `ForBundling`, `IfBundling`) -/
def isMany (M : List String) : Bool := decide (2 ≤ M.length)
/-- the default compiler refuses the raw integer index the passes write into a condition that reads a bundled variable -/
def needsCast (cfg : Cfg) (M : List String) (c : LExpr) : Bool :=
  isMany M && !cfg.unsafeInt && c.vars.any fun y => M.contains y
/-- the name that carries them -/
def carrier : List String → String
  | [] => "_"
  | [x] => x
  | _ => "%t"
/-- its initial value -/
def carryInit : List String → FExpr
  | [] => .num (.q 0 1)
  | [x] => .var x
  | _ => .var "%t"
/-- what the body evaluates to -/
def carryRet : List String → FExpr
  | [] => .num (.q 0 1)
  | [x] => .var x
  | M => repack M
/-- unpacking at the start of the body / of the continuation -/
def carryIn (M : List String) (B : FExpr) : FExpr := if isMany M then unpack M (.var "%t") B else B
/-- packing before the statement -/
def carryOut (M : List String) (E : FExpr) : FExpr := if isMany M then pack M E else E
/-- the condition, reading bundled variables out of the tuple -/
def carryCond (M : List String) (c : LExpr) : FExpr := if isMany M then c.toFsub (subIdx M) else c.toF

/-! `if/else` followed by statements (`IfBundling._visit_if` + `_visit_if`) -/
/-- each branch starts by copying the variables it may change -/
def ifPre (muts : List String) (B : FExpr) : FExpr :=
  match muts with
  | [] => B
  | [m] => bind1 m (.var m) B
  | _ => unpack muts (.var "%t") B
/-- … and ends with the changed variables -/
def ifEnd : List String → FExpr
  | [] => .num (.q 0 1)
  | [x] => bind1 x (.var x) (.var x)
  | changed => repack changed
/-- how the result of the `if` is bound for the continuation -/
def ifAfter (changed : List String) (ifE K : FExpr) : FExpr :=
  match changed with
  | [] => bind1 "_" ifE K
  | [x] => bind1 x ifE K
  | _ => bind1 "%t" ifE (unpack changed (.var "%t") K)

def mutsIf (G : List String) (t f : List LStmt) : List String := mutatedOf G (t ++ f)
def introsIf (G : List String) (t f : List LStmt) : List String :=
  sortNames (((LStmt.gammaL G t).filter fun y => (LStmt.gammaL G f).contains y).filter fun y => !G.contains y)

mutual
def compileLS (cfg : Cfg) (G : List String) : LStmt → Option FExpr → Option FExpr
  | .assign x e, some K => some (bind1 x e.toF K)
  | .assign _ _, none => none
  | .tassign xs e, some K => some (unpack xs e.toF K)
  | .tassign _ _, none => none
  | .ret e, none => some e.toF
  | .ret _, some _ => none
  | .with_ d body, K =>
    match fromDesc d with
    | none => none
    | some p =>
      match K with
      | none => (compileLB cfg G body none).map (FExpr.ann p)
      | some K =>
        (compileLB cfg G body (some (retOf (passedL G body K)))).map fun I =>
          bundle (passedL G body K) (.ann p I) K
  | .ifte c t f, K =>
    match K with
    | none => none          -- `_visit_if` compiles its branches with a continuation: a `return` inside them is refused
    | some K =>
      if needsCast cfg (mutsIf G t f) c then none else
      match compileLB cfg G t (some (ifEnd (mutsIf G t f ++ introsIf G t f))),
            compileLB cfg G f (some (ifEnd (mutsIf G t f ++ introsIf G t f))) with
      | some T, some F =>
        some (carryOut (mutsIf G t f)
          (ifAfter (mutsIf G t f ++ introsIf G t f)
            (.ite (carryCond (mutsIf G t f) c) (ifPre (mutsIf G t f) T) (ifPre (mutsIf G t f) F)) K))
      | _, _ => none
  | .if1 c t, K =>
    match K with
    | none => none
    | some K =>
      if needsCast cfg (cfg.ord (siteIf1 t) (mutatedOf G t)) c then none else
      (compileLB cfg G t (some (carryRet (cfg.ord (siteIf1 t) (mutatedOf G t))))).map fun B =>
        carryOut (cfg.ord (siteIf1 t) (mutatedOf G t))
          (bind1 (carrier (cfg.ord (siteIf1 t) (mutatedOf G t)))
            (.ite (carryCond (cfg.ord (siteIf1 t) (mutatedOf G t)) c) (carryIn (cfg.ord (siteIf1 t) (mutatedOf G t)) B)
              (carryInit (cfg.ord (siteIf1 t) (mutatedOf G t))))
            (carryIn (cfg.ord (siteIf1 t) (mutatedOf G t)) K))
  | .while_ c body, K =>
    match K with
    | none => none
    | some K =>
      if needsCast cfg (cfg.ord (siteWhile body) (mutatedOf G body)) c then none else
      (compileLB cfg G body (some (carryRet (cfg.ord (siteWhile body) (mutatedOf G body))))).map fun B =>
        carryOut (cfg.ord (siteWhile body) (mutatedOf G body))
          (whileE (carryCond (cfg.ord (siteWhile body) (mutatedOf G body)) c) (carrier (cfg.ord (siteWhile body) (mutatedOf G body)))
            (carryInit (cfg.ord (siteWhile body) (mutatedOf G body))) (carryIn (cfg.ord (siteWhile body) (mutatedOf G body)) B)
            (carryIn (cfg.ord (siteWhile body) (mutatedOf G body)) K))
  | .forRange x n body, K =>
    match K with
    | none => none
    | some K =>
      -- `mutated_in(body)` counts the loop target as defined before the body (C12-looptarget)
      (compileLB cfg (x :: G) body (some (carryRet (cfg.ord (siteFor body) (mutatedOf (x :: G) body))))).map fun B =>
        carryOut (cfg.ord (siteFor body) (mutatedOf (x :: G) body))
          (forE x n (carrier (cfg.ord (siteFor body) (mutatedOf (x :: G) body))) (carryInit (cfg.ord (siteFor body) (mutatedOf (x :: G) body)))
            (carryIn (cfg.ord (siteFor body) (mutatedOf (x :: G) body)) B) (carryIn (cfg.ord (siteFor body) (mutatedOf (x :: G) body)) K))
def compileLB (cfg : Cfg) (G : List String) : List LStmt → Option FExpr → Option FExpr
  | [], K => K
  | s :: ss, K =>
    match ss, K with
    | [], none => compileLS cfg G s none
    | _, _ =>
      match compileLB cfg (s.gamma G) ss K with
      | none => none
      | some K' => compileLS cfg G s (some K')
end

/-! ## side conditions of the soundness theorem -/

mutual
/-- WELL-SCOPED: every variable read is definitely defined (`G`), no source name is a compiler
temporary, the targets of a tuple assignment are distinct, and — the shapes of C12-looptarget /
C12-looptarget2, which the compiler gets wrong — a loop target is neither defined before the loop nor
assigned in its body. -/
def LStmt.ws (G : List String) : LStmt → Prop
  | .assign x e => (∀ y, y ∈ e.vars → y ∈ G) ∧ isTmpL x = false
  | .tassign xs e => (∀ y, y ∈ e.vars → y ∈ G) ∧ (∀ x, x ∈ xs → isTmpL x = false) ∧ xs.Nodup
  | .with_ _ body => LStmt.wsL G body
  | .ifte c t f => (∀ y, y ∈ c.vars → y ∈ G) ∧ LStmt.wsL G t ∧ LStmt.wsL G f
  | .if1 c t => (∀ y, y ∈ c.vars → y ∈ G) ∧ LStmt.wsL G t
  | .while_ c b => (∀ y, y ∈ c.vars → y ∈ G) ∧ LStmt.wsL G b
  | .forRange x _ b => isTmpL x = false ∧ x ∉ G ∧ x ∉ LStmt.asgL b ∧ LStmt.wsL (x :: G) b
  | .ret e => ∀ y, y ∈ e.vars → y ∈ G
def LStmt.wsL (G : List String) : List LStmt → Prop
  | [] => True
  | s :: ss => s.ws G ∧ LStmt.wsL (s.gamma G) ss
end

/-- the integer literals `0 … n-1` the compiler writes are read back exactly under the context `P` denotes -/
def LitsP (P : Props) (n : Nat) : Prop := ∃ C, P.toCtx = .ok C ∧ CtxLits C n
/-- … and under `P` with `:precision integer` (the indices inside a bundled condition) -/
def LitsOK (P : Props) (n : Nat) : Prop := LitsP P n ∧ LitsP (P.update intProps) n

mutual
/-- `LitsOK` wherever the compiled block has such literals (tuple indices, the `0` a block without effect
returns, the bound of a `range`), with generous bounds on their number -/
def LStmt.lits (G : List String) (P : Props) : LStmt → Prop
  | .assign _ _ => True
  | .ret _ => True
  | .tassign xs _ => LitsOK P xs.length
  | .with_ d body =>
    match fromDesc d with
    | none => True
    | some p => LitsOK P ((LStmt.asgL body).length + 1) ∧ LitsOK (P.update p) 1 ∧ LStmt.litsL G (P.update p) body
  | .ifte _ t f =>
    LitsOK P ((LStmt.asgL t).length + (LStmt.asgL f).length + (LStmt.gammaL G t).length + 1) ∧
      LStmt.litsL G P t ∧ LStmt.litsL G P f
  | .if1 _ t => LitsOK P ((LStmt.asgL t).length + 1) ∧ LStmt.litsL G P t
  | .while_ _ b => LitsOK P ((LStmt.asgL b).length + 1) ∧ LStmt.litsL G P b
  | .forRange x n b => LitsOK P (n + (LStmt.asgL b).length + 2) ∧ LStmt.litsL (x :: G) P b
def LStmt.litsL (G : List String) (P : Props) : List LStmt → Prop
  | [] => True
  | s :: ss => s.lits G P ∧ LStmt.litsL (s.gamma G) P ss
end

/-- the order parameter only reorders -/
def OrdOK (cfg : Cfg) : Prop := ∀ k l, (∀ y, y ∈ cfg.ord k l ↔ y ∈ l) ∧ (cfg.ord k l).length ≤ l.length

/-- the whole function -/
def compileFunL (cfg : Cfg) (params : List String) (decl : Option CDesc) (body : List LStmt) : Option FCore :=
  match compileLB cfg params body none with
  | none => none
  | some e =>
    match decl with
    | none => some { params := params, props := {}, body := e }
    | some d => (fromDesc d).map fun p => { params := params, props := p, body := e }

end Fpy.C12
