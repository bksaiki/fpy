/-
Model of how a numeric constant in FPy source becomes a number (property C06).

* `fpy2/utils/fractions.py`: `_DECIMAL_PATTERN`, `_HEXNUM_PATTERN` (as hand-written
  matchers that accept exactly what `re.fullmatch` accepts), `_sci_to_fraction`,
  `decnum_to_fraction`, `hexnum_to_fraction`, `digits_to_fraction`.
* `fpy2/ast/fpyast.py`: `Decnum/Hexnum/Integer/Rational/Digits` with `as_rational`, `as_real`.
* `fpy2/frontend/parser.py`: `_parse_constant` (a Python `float` constant is re-stringified with
  `str(float)`: finding F5, not repaired), `_parse_unaryop` (negated-zero fold), `_parse_integer_arg`,
  `_parse_hexfloat/_rational/_digits`.
* CPython: the tokenizer's numeric literal (digit groups with `_` separators, `e`/`E`, radix
  prefixes), `float(literal)` = round-to-nearest-even to binary64 (modelled with `Ctx.round` of the
  IEEE(11,64) context), `str(float)` = shortest round-trip digits.
* `parseFloatRepaired`: what `_parse_constant` would do if it re-read the literal's text from the
  parsed source (the proposed repair of F5; not the current code).

Strings are `List Char` here (the `String` API wraps `toList`), so that the kernel can evaluate
the model on concrete spellings.  Core Lean only.
-/
import Fpy.Model.Num.Ctx
namespace Fpy.Lit
open Fpy

/-- error *kinds* raised by the real code on this path -/
inductive LErr | value | type | zeroDiv | parse | syntax
deriving DecidableEq, Repr, Inhabited

/-! ### characters -/

def decChars : List Char := ['0', '1', '2', '3', '4', '5', '6', '7', '8', '9']
def hexChars : List Char := decChars ++ ['a', 'b', 'c', 'd', 'e', 'f']

/-- `[0-9]` -/
def isDig (c : Char) : Bool := decChars.contains c
/-- `[0-9a-f]` -/
def isHex (c : Char) : Bool := hexChars.contains c

/-- digit value as CPython's `int(str, base)` computes it for `0-9a-f` -/
def digVal (c : Char) : Nat := if c.toNat ≤ 57 then c.toNat - 48 else c.toNat - 87

/-- `str.isspace()` (what `str.strip()` removes) -/
def isSpace (c : Char) : Bool :=
  let n := c.toNat
  (9 ≤ n && n ≤ 13) || (28 ≤ n && n ≤ 32) || n == 0x85 || n == 0xa0 || n == 0x1680 ||
  (0x2000 ≤ n && n ≤ 0x200a) || n == 0x2028 || n == 0x2029 || n == 0x202f || n == 0x205f || n == 0x3000

def lstrip (cs : List Char) : List Char := cs.dropWhile isSpace
def strip (cs : List Char) : List Char := ((lstrip cs).reverse.dropWhile isSpace).reverse

/-! ### `int(str, base)` -/

/-- `sys.get_int_max_str_digits()`: CPython refuses longer digit strings in non-power-of-two bases -/
def maxStrDigits : Nat := 4300

/-- `int(cs, base)` for a string of `[0-9a-f]` characters (no sign): Horner's rule.
Empty string: `ValueError`. More than 4300 digits in base 10: `ValueError`. -/
def pyInt (base : Nat) (cs : List Char) : Except LErr Nat :=
  if cs.isEmpty then .error .value
  else if base == 10 && cs.length > maxStrDigits then .error .value
  else .ok (cs.foldl (fun a c => a * base + digVal c) 0)

/-- `int(cs)` for `[-+]?[0-9]+` -/
def pySInt (cs : List Char) : Except LErr Int :=
  match cs with
  | '-' :: r => (pyInt 10 r).map (fun n => -(n : Int))
  | '+' :: r => (pyInt 10 r).map (fun n => (n : Int))
  | r => (pyInt 10 r).map (fun n => (n : Int))

/-! ### the two regular expressions -/

/-- capture groups 1, 2, 5 of `_DECIMAL_PATTERN` / `_HEXNUM_PATTERN` -/
structure Groups where
  sign : Option Char
  mant : List Char
  exp : Option (List Char)
deriving DecidableEq, Repr

/-- `([-+])?` -/
def matchSign : List Char → Option Char × List Char
  | '-' :: r => (some '-', r)
  | '+' :: r => (some '+', r)
  | r => (none, r)

/-- `(D+(\.D+)?|\.D+)` at the head of `cs`: the text of the group and what follows it -/
def matchMant (p : Char → Bool) (cs : List Char) : Option (List Char × List Char) :=
  let i := cs.takeWhile p
  let r := cs.dropWhile p
  if i.isEmpty then
    match r with
    | '.' :: r' =>
      let f := r'.takeWhile p
      if f.isEmpty then none else some ('.' :: f, r'.dropWhile p)
    | _ => none
  else
    match r with
    | '.' :: r' =>
      let f := r'.takeWhile p
      if f.isEmpty then some (i, r) else some (i ++ '.' :: f, r'.dropWhile p)
    | _ => some (i, r)

/-- `(E([-+]?[0-9]+))?` followed by the end of the string -/
def matchExp (expCh : Char) : List Char → Option (Option (List Char))
  | [] => some none
  | c :: r =>
    if c == expCh then
      let (sg, r1) := matchSign r
      let ds := r1.takeWhile isDig
      if ds.isEmpty then none
      else if (r1.dropWhile isDig).isEmpty then
        some (some (match sg with | some s => s :: ds | none => ds))
      else none
    else none

/-- `re.fullmatch(_DECIMAL_PATTERN, cs)` -/
def matchDec (cs : List Char) : Option Groups :=
  let (sg, r) := matchSign cs
  match matchMant isDig r with
  | none => none
  | some (m, r1) =>
    match matchExp 'e' r1 with
    | none => none
    | some e => some ⟨sg, m, e⟩

/-- `re.fullmatch(_HEXNUM_PATTERN, cs)` -/
def matchHex (cs : List Char) : Option Groups :=
  let (sg, r) := matchSign cs
  match r with
  | '0' :: 'x' :: r0 =>
    match matchMant isHex r0 with
    | none => none
    | some (m, r1) =>
      match matchExp 'p' r1 with
      | none => none
      | some e => some ⟨sg, m, e⟩
  | _ => none

/-! ### `_sci_to_fraction` and its callers -/

/-- `Fraction(b) ** e` for an integer base (`ZeroDivisionError` for `0 ** negative`) -/
def fracPow (b : Int) (e : Int) : Except LErr Rat :=
  if b == 0 && e < 0 then .error .zeroDiv else .ok ((b : Rat) ^ e)

/-- `_sci_to_fraction(s, i, f, e, base, b)` -/
def sciToFraction (s : Option Char) (i : List Char) (f : Option (List Char)) (e : Option (List Char))
    (base b : Nat) : Except LErr Rat := do
  let neg := s == some '-'
  let ipart ← pyInt base i
  let (fpart, efrac) ← (match f with
    | some f => (pyInt base f).map (fun n => (n, -(f.length : Int)))
    | none => .ok (0, (0 : Int)))
  let exp ← (match e with
    | some e => pySInt e
    | none => .ok 0)
  let mag : Rat := ((ipart : Rat) + (fpart : Rat) * ((base : Nat) : Rat) ^ efrac) * ((b : Nat) : Rat) ^ exp
  pure (if neg then -mag else mag)

/-- `mant.split('.')` when `'.' in mant` -/
def splitDot (mant : List Char) : List Char × Option (List Char) :=
  if mant.contains '.' then
    (mant.takeWhile (· != '.'), some ((mant.dropWhile (· != '.')).drop 1))
  else (mant, none)

/-- `decnum_to_fraction(s)` after `s.strip()` -/
def decnumCore (cs : List Char) : Except LErr Rat :=
  match matchDec cs with
  | none => .error .value
  | some g =>
    let (i0, f) := splitDot g.mant
    let i := if f.isSome && i0.isEmpty then ['0'] else i0
    sciToFraction g.sign i f g.exp 10 10

/-- `hexnum_to_fraction(s)` after `s.strip()` -/
def hexnumCore (cs : List Char) : Except LErr Rat :=
  match matchHex cs with
  | none => .error .value
  | some g =>
    let (i0, f) := splitDot g.mant
    let i := if f.isSome && i0.isEmpty then ['0'] else i0
    sciToFraction g.sign i f g.exp 16 2

def decnum (cs : List Char) : Except LErr Rat := decnumCore (strip cs)
def hexnum (cs : List Char) : Except LErr Rat := hexnumCore (strip cs)

/-- `digits_to_fraction(m, e, b)` on ints -/
def digitsToFraction (m e b : Int) : Except LErr Rat :=
  (fracPow b e).map (fun p => (m : Rat) * p)

/-- `Fraction(p, q)` -/
def rationalToFraction (p q : Int) : Except LErr Rat :=
  if q == 0 then .error .zeroDiv else .ok ((p : Rat) / (q : Rat))

/-! ### AST nodes, `as_rational`, `as_real` -/

inductive Node
  | integer (v : Int)
  | decnum (s : List Char)
  | hexnum (s : List Char)
  | rational (p q : Int)
  | digits (m e b : Int)
  | neg (a : Node)          -- a `Neg` operation (not a literal)
deriving DecidableEq, Repr, Inhabited

def Node.isRationalVal : Node → Bool
  | .neg _ => false
  | _ => true

/-- `RationalVal.as_rational()` -/
def Node.asRational : Node → Except LErr Rat
  | .integer v => .ok (v : Rat)
  | .decnum s => Lit.decnum s
  | .hexnum s => Lit.hexnum s
  | .rational p q => rationalToFraction p q
  | .digits m e b => digitsToFraction m e b
  | .neg _ => .error .type

/-- an exact real value with a signed zero: what `as_real()` returns -/
inductive LitVal
  | negZero
  | rat (r : Rat)
deriving DecidableEq, Repr, Inhabited

/-- `RationalVal.as_real()` (`Decnum`/`Hexnum` override it to keep a negative zero) -/
def Node.asReal (n : Node) : Except LErr LitVal :=
  match n with
  | .decnum s | .hexnum s => do
    let r ← n.asRational
    pure (if r == 0 && (lstrip s).head? == some '-' then .negZero else .rat r)
  | _ => n.asRational.map .rat

/-- value of a parsed constant expression under the real context: literals are lowered to
their `as_real()`; `Neg` under `REAL` negates exactly -/
def Node.evalReal : Node → Except LErr LitVal
  | .neg a => do
    match (← a.evalReal) with
    | .negZero => pure (.rat 0)
    | .rat r => pure (if r == 0 then .negZero else .rat (-r))
  | n => n.asReal

/-! ### binary64 and `repr(float)` -/

/-- the IEEE 754 binary64 context, round to nearest even, overflow to infinity -/
def fp64 : Ctx :=
  .efloat { es := 11, nbits := 64, inf := true, kind := .ieee, eoff := 0, rm := .rne, ov := .overflow,
            k := some 0, nanValue := none, infValue := none }

/-- `float(<decimal literal>)`: the exact rational of the spelling rounded once to binary64 -/
def toF64 (r : Rat) : FV :=
  match fp64.round (.frac r.num r.den) with
  | .ok res => res.v
  | .error _ => .nan false

def natDigitsAux : Nat → Nat → List Char → List Char
  | 0, _, acc => acc
  | fuel + 1, n, acc =>
    let acc := Char.ofNat (48 + n % 10) :: acc
    if n < 10 then acc else natDigitsAux fuel (n / 10) acc

/-- decimal digits of a natural number (`str(n)`) -/
def natDigits (n : Nat) : List Char := natDigitsAux (n.log2 + 1) n []

/-- `num/den ≥ 10^k` -/
def geP10 (num den : Nat) (k : Int) : Bool :=
  if k ≥ 0 then num ≥ den * 10 ^ k.toNat else num * 10 ^ (-k).toNat ≥ den

/-- the decimal point position `k` of a positive rational: `10^(k-1) ≤ num/den < 10^k` -/
def decPoint (num den : Nat) : Int :=
  let est : Int := (((bitLength num : Int) - (bitLength den : Int)) * 30103) / 100000
  -- the estimate is within 1 of the answer; walk to it
  let k := est - 2
  let k := if geP10 num den (k + 1) then k + 1 else k
  let k := if geP10 num den (k + 1) then k + 1 else k
  let k := if geP10 num den (k + 1) then k + 1 else k
  let k := if geP10 num den (k + 1) then k + 1 else k
  k + 1

def stripZerosAux : Nat → Nat → Nat
  | 0, n => n
  | fuel + 1, n => if n != 0 && n % 10 == 0 then stripZerosAux fuel (n / 10) else n

/-- one step of the shortest-digits search: the `n`-digit decimals just below and just above
`num/den`; the one that reads back as `x` (the nearer one if both do) -/
def shortestAt (x : RF) (num den : Nat) (k : Int) (n : Nat) : Option (Nat × Int) :=
  -- scaled = num/den * 10^(n-k)
  let sh : Int := (n : Int) - k
  let (a, b) : Nat × Nat := if sh ≥ 0 then (num * 10 ^ sh.toNat, den) else (num, den * 10 ^ (-sh).toNat)
  let lo := a / b
  let hi := lo + 1
  let back (d : Nat) : Bool :=
    let r : Rat := if sh ≥ 0 then (d : Rat) / ((10 ^ sh.toNat : Nat) : Rat) else ((d * 10 ^ (-sh).toNat : Nat) : Rat)
    match toF64 r with
    | .fin y => y.beqVal x
    | _ => false
  let okLo := lo != 0 && back lo
  let okHi := back hi
  -- distance of lo, hi to the value, in units of 1/b: a - lo*b, hi*b - a
  let pick : Option Nat :=
    if okLo && okHi then
      (if a - lo * b < hi * b - a then some lo
       else if a - lo * b > hi * b - a then some hi
       else some (if lo % 2 == 0 then lo else hi))
    else if okLo then some lo
    else if okHi then some hi
    else none
  pick.map (fun d => (d, k - n))

def shortestLoop (x : RF) (num den : Nat) (k : Int) : Nat → Nat → Option (Nat × Int)
  | 0, _ => none
  | fuel + 1, n =>
    match shortestAt x num den k n with
    | some r => some r
    | none => shortestLoop x num den k fuel (n + 1)

/-- shortest decimal `(D, e10)` with `D·10^e10` reading back as the positive binary64 number `x`
(David Gay's mode 0, which `repr(float)` uses) -/
def shortest (x : RF) : Nat × Int :=
  let (num, den) : Nat × Nat := if x.exp ≥ 0 then (x.c * 2 ^ x.exp.toNat, 1) else (x.c, 2 ^ (-x.exp).toNat)
  let k := decPoint num den
  match shortestLoop x num den k 17 1 with
  | some (d, e) =>
    let d' := stripZerosAux 20 d
    let z := (natDigits d).length - (natDigits d').length
    (d', e + z)
  | none => (0, 0)

def zeros (n : Nat) : List Char := List.replicate n '0'

/-- `repr(x)` / `str(x)` of a positive finite float (`float_repr_style == 'short'`, format code `'r'`) -/
def reprPos (x : RF) : List Char :=
  let (d, e10) := shortest x
  let ds := natDigits d
  let n := ds.length
  let decpt : Int := e10 + n
  if decpt ≤ -4 || decpt > 16 then
    let e := decpt - 1
    let ed := natDigits e.natAbs
    let ed := if ed.length < 2 then '0' :: ed else ed
    ds.take 1 ++ (if n > 1 then '.' :: ds.drop 1 else []) ++ 'e' :: (if e < 0 then '-' else '+') :: ed
  else if decpt ≤ 0 then '0' :: '.' :: zeros (-decpt).toNat ++ ds
  else if decpt ≥ n then ds ++ zeros (decpt.toNat - n) ++ ['.', '0']
  else ds.take decpt.toNat ++ '.' :: ds.drop decpt.toNat

/-- `str(v)` for a Python float -/
def reprFloat : FV → List Char
  | .nan _ => ['n', 'a', 'n']
  | .inf s => (if s then ['-'] else []) ++ ['i', 'n', 'f']
  | .fin x =>
    (if x.s then ['-'] else []) ++ (if x.c = 0 then ['0', '.', '0'] else reprPos { x with s := false })

/-! ### the Python tokenizer's numeric literal -/

/-- the `ast.Constant` of a numeric token.  For a float the digit groups are kept as written
(without the `_` separators): that is the text the front end re-reads. -/
inductive PyConst
  | int (n : Nat)
  | float (ip fp : List Char) (ex : Option (List Char))   -- exponent: optional sign, digits
  | imag
deriving DecidableEq, Repr, Inhabited

/-- `digit (["_"] digit)*` at the head: the digits without the underscores, and the rest.
`none` when an underscore is not followed by a digit. -/
def digitPartAux (p : Char → Bool) : Nat → List Char → List Char → Option (List Char × List Char)
  | 0, _, _ => none
  | fuel + 1, acc, cs =>
    match cs with
    | c :: r =>
      if p c then digitPartAux p fuel (c :: acc) r
      else if c == '_' && !acc.isEmpty then
        match r with
        | c' :: _ => if p c' then digitPartAux p fuel acc r else none
        | [] => none
      else some (acc.reverse, cs)
    | [] => some (acc.reverse, [])

def digitPart (p : Char → Bool) (cs : List Char) : Option (List Char × List Char) :=
  digitPartAux p (cs.length + 1) [] cs

def lower (c : Char) : Char := if 65 ≤ c.toNat && c.toNat ≤ 90 then Char.ofNat (c.toNat + 32) else c

/-- positional value of `[0-9a-f]*` in a base (no limits: the tokenizer's own conversion) -/
def horner (base : Nat) (cs : List Char) : Nat := cs.foldl (fun a c => a * base + digVal c) 0

/-- `0x…`, `0o…`, `0b…` integers: an underscore may follow the prefix -/
def prefixedInt (base : Nat) (p : Char → Bool) (cs : List Char) : Except LErr PyConst :=
  let cs := cs.map lower
  let cs := match cs with | '_' :: r => r | r => r
  match digitPart p cs with
  | some (ds, []) => if ds.isEmpty then .error .syntax else .ok (.int (horner base ds))
  | _ => .error .syntax

/-- `["." [digitpart]]`: was there a point, the fraction digits, the rest -/
def pyFraction (r1 : List Char) : Option (Bool × List Char × List Char) :=
  match r1 with
  | '.' :: r2 =>
    match digitPart isDig r2 with
    | none => none
    | some (fp, r3) => some (true, fp, r3)
  | _ => some (false, [], r1)

/-- `[("e"|"E") ["+"|"-"] digitpart]`: the exponent text (sign and digits), the rest -/
def pyExponent (r3 : List Char) : Option (Option (List Char) × List Char) :=
  match r3 with
  | c :: r4 =>
    if c == 'e' || c == 'E' then
      let (sg, r5) := matchSign r4
      match digitPart isDig r5 with
      | some (ed, r6) =>
        if ed.isEmpty then none
        else some (some (match sg with | some s => s :: ed | none => ed), r6)
      | none => none
    else some (none, r3)
  | [] => some (none, [])

/-- a decimal token: `decinteger | floatnumber | imagnumber` -/
def pyDecimal (cs : List Char) : Except LErr PyConst :=
  match digitPart isDig cs with
  | none => .error .syntax
  | some (ip, r1) =>
    match pyFraction r1 with
    | none => .error .syntax
    | some (dot, fp, r3) =>
      if ip.isEmpty && fp.isEmpty then .error .syntax else
      match pyExponent r3 with
      | none => .error .syntax
      | some (e, r6) =>
        match r6 with
        | [] =>
          if dot || e.isSome then .ok (.float ip fp e)
          else
            -- decinteger: no leading zeros unless the value is zero
            if ip.head? == some '0' && ip.any (· != '0') then .error .syntax
            else if ip.length > maxStrDigits then .error .syntax   -- "Exceeds the limit (4300 digits)"
            else .ok (.int (horner 10 ip))
        | [c] => if c == 'j' || c == 'J' then .ok .imag else .error .syntax
        | _ => .error .syntax

/-- a numeric literal token of Python source: its `ast.Constant` value.
(The decimal forms and the prefixed forms are disjoint: after a leading `0` a decimal token
continues with a digit, `_`, `.`, `e`, `E`, `j` or `J`, never with a radix letter.) -/
def pyNumber (cs : List Char) : Except LErr PyConst :=
  match pyDecimal cs with
  | .ok v => .ok v
  | .error e =>
    match cs with
    | '0' :: 'x' :: r | '0' :: 'X' :: r => prefixedInt 16 isHex r
    | '0' :: 'o' :: r | '0' :: 'O' :: r => prefixedInt 8 (fun c => isDig c && c != '8' && c != '9') r
    | '0' :: 'b' :: r | '0' :: 'B' :: r => prefixedInt 2 (fun c => c == '0' || c == '1') r
    | _ => .error e

/-! ### the FPy front end -/

/-- the exact rational a float token spells (digit groups without separators, exponent text) -/
def floatRat (ip fp : List Char) (ex : Option (List Char)) : Rat :=
  let m : Nat := horner 10 (ip ++ fp)
  let e : Int := match ex with
    | none => 0
    | some ('-' :: ds) => -(horner 10 ds : Int)
    | some ('+' :: ds) => (horner 10 ds : Int)
    | some ds => (horner 10 ds : Int)
  let sc : Int := e - fp.length
  if sc ≥ 0 then ((m * 10 ^ sc.toNat : Nat) : Rat) else (m : Rat) / ((10 ^ (-sc).toNat : Nat) : Rat)

/-- the Python `float` a float token compiles to: its spelling rounded once to binary64 -/
def floatValue (ip fp : List Char) (ex : Option (List Char)) : FV := toF64 (floatRat ip fp ex)

/-- `Parser._parse_constant` on a `float`: an `Integer` if the double is integral, else a
`Decnum` of `str(value)` -/
def parseFloatLegacy (v : FV) : Node :=
  match v with
  | .fin x =>
    match x.toInt? with
    | some i => .integer i
    | none => .decnum (reprFloat v)
  | _ => .decnum (reprFloat v)

/-- `Parser._parse_constant` on a numeric `ast.Constant` (current code) -/
def parseConstant : PyConst → Except LErr Node
  | .int n => .ok (.integer n)
  | .float ip fp ex => .ok (parseFloatLegacy (floatValue ip fp ex))
  | .imag => .error .parse

/-! #### the proposed repair of F5 (not the current code) -/

/-- the literal's text normalised to a `Decnum` spelling
(digits on both sides of the point, lowercase `e`) -/
def floatText (ip fp : List Char) (ex : Option (List Char)) : List Char :=
  (if ip.isEmpty then ['0'] else ip) ++ '.' :: (if fp.isEmpty then ['0'] else fp) ++
    (match ex with | some e => 'e' :: e | none => [])

def maxExponentDigits : Nat := 6

/-- `len(exp.lstrip('+-').lstrip('0'))` -/
def expDigits (e : List Char) : Nat :=
  ((e.dropWhile (fun c => c == '+' || c == '-')).dropWhile (· == '0')).length

/-- the repaired `_parse_constant` on a float token: re-read the text; the exponent may have at
most 6 significant digits; the value is that of the spelling (a `ValueError` of `int()`'s digit
limit becomes a parse error); an integral value is an `Integer`, any other a `Decnum` of the text -/
def parseFloatRepaired (ip fp : List Char) (ex : Option (List Char)) : Except LErr Node :=
  let text := floatText ip fp ex
  if expDigits (ex.getD []) > maxExponentDigits then .error .parse
  else match decnum text with
    | .error _ => .error .parse
    | .ok v => if v.den == 1 then .ok (.integer v.num) else .ok (.decnum text)

/-- source expressions that denote constants -/
inductive Src
  | num (spelling : List Char)       -- a numeric literal token
  | hexfloat (s : List Char)         -- `fp.hexfloat('<s>')`
  | rational (p q : Src)             -- `fp.rational(p, q)`
  | digits (m e b : Src)             -- `fp.digits(m, e, b)`
  | neg (a : Src)                    -- `-a`
  | pos (a : Src)                    -- `+a`
deriving Repr, Inhabited

def negZeroText : List Char := ['-', '0', '.', '0']

/-- `Parser._parse_unaryop` for `USub` applied to an already parsed operand: a zero literal is
folded to the zero literal of the opposite sign -/
def negFold (arg : Node) : Except LErr Node :=
  if arg.isRationalVal then do
    let r ← arg.asRational
    if r == 0 then
      match (← arg.asReal) with
      | .negZero => pure (.integer 0)
      | .rat _ => pure (.decnum negZeroText)
    else match arg with
      | .integer v => pure (.integer (-v))
      | _ => pure (.neg arg)
  else pure (.neg arg)

/-- `Parser._parse_integer_arg`: an `Integer`, or a `Decnum` with an integral value
(the folded `-0`) -/
def asInteger : Node → Except LErr Int
  | .integer v => .ok v
  | .decnum s =>
    match decnum s with
    | .error e => .error e
    | .ok r => if r.den == 1 then .ok r.num else .error .parse
  | _ => .error .parse

/-- `Parser._parse_expr` restricted to constant expressions -/
def parseExpr : Src → Except LErr Node
  | .num s => do parseConstant (← pyNumber s)
  | .hexfloat s => .ok (.hexnum s)
  | .rational p q => do
    let p ← asInteger (← parseExpr p)
    let q ← asInteger (← parseExpr q)
    pure (.rational p q)
  | .digits m e b => do
    let m ← asInteger (← parseExpr m)
    let e ← asInteger (← parseExpr e)
    let b ← asInteger (← parseExpr b)
    pure (.digits m e b)
  | .pos a => parseExpr a
  | .neg a => do negFold (← parseExpr a)

/-- what `return <expr>` evaluates to under `fp.REAL` -/
def frontValue (e : Src) : Except LErr LitVal := do (← parseExpr e).evalReal

/-- value under the real context of a numeric token *with the repaired* `_parse_constant` -/
def frontValueRepaired (cs : List Char) : Except LErr LitVal := do
  match (← pyNumber cs) with
  | .float ip fp ex => (← parseFloatRepaired ip fp ex).evalReal
  | c => (← parseConstant c).evalReal

/-- the operand a literal's exact value is handed to the context's rounding as.  `roundLit` below is
`round(<literal>)` under a context: the literal's exact value rounded once -/
def LitVal.operand : LitVal → Operand
  | .negZero => .flt (.fin ⟨true, 0, 0⟩)
  | .rat r => .frac r.num r.den

inductive RoundOut
  | litErr (e : LErr)
  | res (r : Except Err Res)

def roundLit (C : Ctx) (n : Node) : RoundOut :=
  match n.asReal with
  | .error e => .litErr e
  | .ok v => .res (C.round v.operand)

end Fpy.Lit
