-- all modules of the library (regenerate with tools/mkroot.py)
import Fpy.Model.AbsFmt
import Fpy.Model.Boundary
import Fpy.Model.Cursor
import Fpy.Model.Elem
import Fpy.Model.Enc
import Fpy.Model.FPCore
import Fpy.Model.FPCoreCompile
import Fpy.Model.FPCoreLoops
import Fpy.Model.FPCoreRead
import Fpy.Model.Lang.Core
import Fpy.Model.Lang.Scalar
import Fpy.Model.Lang.Sim
import Fpy.Model.Lang.Vars
import Fpy.Model.Lib
import Fpy.Model.Literal
import Fpy.Model.Lower
import Fpy.Model.Num.Ctx
import Fpy.Model.Num.Engine
import Fpy.Model.Num.Float
import Fpy.Model.Num.Mixed
import Fpy.Model.Num.RealFloat
import Fpy.Model.Num.Round
import Fpy.Model.Sites
import Fpy.Model.Skel.Check
import Fpy.Model.Skel.Skel
import Fpy.Model.Storage
import Fpy.Model.UnionFind
import Fpy.Model.VClass
import Fpy.Proof.AbsFmt
import Fpy.Proof.AbsFmtSound
import Fpy.Proof.Boundary
import Fpy.Proof.BoundaryProc
import Fpy.Proof.Check
import Fpy.Proof.CheckPrepass
import Fpy.Proof.CtxCore
import Fpy.Proof.Cursor
import Fpy.Proof.CursorBlock
import Fpy.Proof.EFT
import Fpy.Proof.Elem
import Fpy.Proof.Enc
import Fpy.Proof.EncEF
import Fpy.Proof.EncEF2
import Fpy.Proof.EncFix
import Fpy.Proof.EncOrd
import Fpy.Proof.EngineLemmas
import Fpy.Proof.Exact
import Fpy.Proof.ExactMixed
import Fpy.Proof.Except
import Fpy.Proof.FPCoreBlock
import Fpy.Proof.FPCoreExpr
import Fpy.Proof.FPCoreLAll
import Fpy.Proof.FPCoreLCarry
import Fpy.Proof.FPCoreLLoop
import Fpy.Proof.FPCoreLMain
import Fpy.Proof.FPCoreLSyn
import Fpy.Proof.FPCoreMain
import Fpy.Proof.FPCoreReadAll
import Fpy.Proof.FPCoreReadBase
import Fpy.Proof.FPCoreSound
import Fpy.Proof.Fast2Sum
import Fpy.Proof.Fast2SumModel
import Fpy.Proof.Frame
import Fpy.Proof.IntCtx
import Fpy.Proof.LangBase
import Fpy.Proof.LangFold
import Fpy.Proof.LangFrame
import Fpy.Proof.LangIdx
import Fpy.Proof.LangLR
import Fpy.Proof.LangLimit
import Fpy.Proof.LangMeta
import Fpy.Proof.LangPar
import Fpy.Proof.LangParOn
import Fpy.Proof.LangRel
import Fpy.Proof.LangSim
import Fpy.Proof.LangSyntax
import Fpy.Proof.LangUnroll
import Fpy.Proof.Literal
import Fpy.Proof.LiteralFront
import Fpy.Proof.Lower
import Fpy.Proof.LowerCtx
import Fpy.Proof.RFOrder
import Fpy.Proof.Round
import Fpy.Proof.RoundOdd
import Fpy.Proof.RoundQuot
import Fpy.Proof.RoundVal
import Fpy.Proof.RoundValCtx
import Fpy.Proof.RoundValRF
import Fpy.Proof.RoundValRat
import Fpy.Proof.Sites
import Fpy.Proof.Stochastic
import Fpy.Proof.Storage
import Fpy.Proof.UnionFind
import Fpy.Proof.VClass
import Fpy.Proof.VClassOps
import Fpy.Proof.VClassRound
import Fpy.Props.C01
import Fpy.Props.C01v
import Fpy.Props.C02
import Fpy.Props.C03
import Fpy.Props.C04
import Fpy.Props.C05
import Fpy.Props.C06
import Fpy.Props.C07
import Fpy.Props.C08
import Fpy.Props.C08Int
import Fpy.Props.C09
import Fpy.Props.C10
import Fpy.Props.C11
import Fpy.Props.C12
import Fpy.Props.C13
import Fpy.Props.C14
import Fpy.Props.C15
import Fpy.Props.C16
import Fpy.Props.C17
import Fpy.Props.C18
import Fpy.Props.C19
import Fpy.Props.C20
import Fpy.Spec.AbsFmt
import Fpy.Spec.Cursor
import Fpy.Spec.Denote
import Fpy.Spec.ExtReal
import Fpy.Spec.Layout
import Fpy.Spec.Literal
import Fpy.Spec.Lower
import Fpy.Spec.Rep
import Fpy.Spec.RoundRat
import Fpy.Spec.Rounding
import Fpy.Spec.Specials
import Fpy.Spec.Storage
